import U3.Base.Proto
import U3.Base.Str
import U3.Drive.Headers
import U3.Drive.Hostname
import U3.Drive.Lru
import U3.Drive.Manager
import U3.Drive.Multipart
import U3.Drive.Pool
import U3.Drive.PoolConc
import U3.Drive.PoolKey
import U3.Drive.Proxy
import U3.Drive.Resp
import U3.Drive.Retry
import U3.Drive.Route
import U3.Drive.Timeout
import U3.Drive.Tls
import U3.Drive.Url
import U3.Drive.Wire
import U3.Gen.Collections
import U3.Gen.Lru
import U3.Gen.Multipart
import U3.Gen.Pool
import U3.Gen.PoolKey
import U3.Gen.Redirect
import U3.Gen.Resp
import U3.Gen.Retry
import U3.Gen.Ssl
import U3.Gen.Url
import U3.Gen.Wire
import U3.Lemmas.Headers
import U3.Lemmas.Hostname
import U3.Lemmas.Lru
import U3.Lemmas.Manager
import U3.Lemmas.ManagerHdrs
import U3.Lemmas.ManagerOrigin
import U3.Lemmas.Multipart
import U3.Lemmas.Pool
import U3.Lemmas.PoolCases
import U3.Lemmas.PoolConc
import U3.Lemmas.PoolConcClose
import U3.Lemmas.PoolConcInv
import U3.Lemmas.PoolExc
import U3.Lemmas.PoolInv
import U3.Lemmas.PoolKey
import U3.Lemmas.PoolLink
import U3.Lemmas.PoolProv
import U3.Lemmas.PoolRead
import U3.Lemmas.PoolSafe
import U3.Lemmas.Proxy
import U3.Lemmas.Resp
import U3.Lemmas.RespBroken
import U3.Lemmas.RespCalls
import U3.Lemmas.RespChunked
import U3.Lemmas.RespDeflate
import U3.Lemmas.RespDrain
import U3.Lemmas.RespDrainWitness
import U3.Lemmas.RespFold
import U3.Lemmas.RespGzip
import U3.Lemmas.RespGzipEnc
import U3.Lemmas.RespIO
import U3.Lemmas.RespInst
import U3.Lemmas.RespIter
import U3.Lemmas.RespMulti
import U3.Lemmas.RespRead
import U3.Lemmas.RespRead1
import U3.Lemmas.RespReadChunked
import U3.Lemmas.RespRef
import U3.Lemmas.RespWitness
import U3.Lemmas.RespZstd
import U3.Lemmas.Retry
import U3.Lemmas.Route
import U3.Lemmas.Str
import U3.Lemmas.Timeout
import U3.Lemmas.Tls
import U3.Lemmas.Url
import U3.Lemmas.UrlCase
import U3.Lemmas.UrlHost
import U3.Lemmas.UrlHostCase
import U3.Lemmas.UrlParse
import U3.Lemmas.UrlReparse
import U3.Lemmas.UrlRoute
import U3.Lemmas.Wire
import U3.Lemmas.WirePut
import U3.Model.Headers
import U3.Model.Hostname
import U3.Model.Lru
import U3.Model.Manager
import U3.Model.Multipart
import U3.Model.Pool
import U3.Model.PoolConc
import U3.Model.PoolKey
import U3.Model.Proxy
import U3.Model.Resp
import U3.Model.RespCodec
import U3.Model.RespIO
import U3.Model.Retry
import U3.Model.Route
import U3.Model.Timeout
import U3.Model.Tls
import U3.Model.Url
import U3.Model.Wire
import U3.Props.C01
import U3.Props.C02
import U3.Props.C03
import U3.Props.C04
import U3.Props.C05
import U3.Props.C06
import U3.Props.C07
import U3.Props.C08
import U3.Props.C09
import U3.Props.C10
import U3.Props.C11
import U3.Props.C12
import U3.Props.C13
import U3.Props.C14
import U3.Props.C15
import U3.Props.C16
import U3.Props.C17
import U3.Props.C18
import U3.Props.C19
import U3.Props.C20
