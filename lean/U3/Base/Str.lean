/-!
# Base: Python `str` / `bytes` as lists of naturals

Python `str` is modelled as `List Nat` (code points, lone surrogates allowed, which Lean's `Char`
cannot hold); `bytes` as `List Nat` with every element `< 256`.  Import-free on purpose so that the
line-protocol driver links as a plain `lean_exe`.
-/
namespace U3

abbrev Str := List Nat
abbrev Bytes := List Nat

/-- ASCII literal → code points -/
def lit (s : String) : Str := s.toList.map Char.toNat

/-- The kernel turns a string literal into `String.ofList [chars]` when it meets one, but evaluating `toList` on it
goes through the UTF-8 encoding and back (tens of thousands of heartbeats per character).  Rewriting with this lemma
(`simp only [lit_ofList]` unifies a literal with `String.ofList ?l`) leaves the characters themselves, so that an
evaluated test vector does not pay for decoding its own input. -/
theorem lit_ofList (l : List Char) : lit (no_index (String.ofList l)) = l.map Char.toNat := by
  simp [lit]

def isUpperC (c : Nat) : Bool := 65 ≤ c && c ≤ 90
def isLowerC (c : Nat) : Bool := 97 ≤ c && c ≤ 122
def isDigitC (c : Nat) : Bool := 48 ≤ c && c ≤ 57
def isAlphaC (c : Nat) : Bool := isUpperC c || isLowerC c
def isHexC (c : Nat) : Bool := isDigitC c || (65 ≤ c && c ≤ 70) || (97 ≤ c && c ≤ 102)

/-- `str.lower()` restricted to ASCII (non-ASCII case mapping is outside the model; generators only
use ASCII letters where case matters). -/
def lowerC (c : Nat) : Nat := if 65 ≤ c ∧ c ≤ 90 then c + 32 else c
def upperC (c : Nat) : Nat := if 97 ≤ c ∧ c ≤ 122 then c - 32 else c
def lower (s : Str) : Str := s.map lowerC
def upper (s : Str) : Str := s.map upperC

@[simp] theorem lowerC_idem (c : Nat) : lowerC (lowerC c) = lowerC c := by
  unfold lowerC; split <;> (try split) <;> omega

@[simp] theorem lower_idem (s : Str) : lower (lower s) = lower s := by
  simp [lower, Function.comp_def]

@[simp] theorem lower_nil : lower [] = [] := rfl
@[simp] theorem lower_length (s : Str) : (lower s).length = s.length := by simp [lower]
@[simp] theorem lower_append (a b : Str) : lower (a ++ b) = lower a ++ lower b := by simp [lower]

/-- `sep.join(xs)` -/
def joinWith (sep : List Nat) : List (List Nat) → List Nat
  | [] => []
  | [x] => x
  | x :: y :: t => x ++ sep ++ joinWith sep (y :: t)

/-- split on a single separator element (Python `s.split(c)`): always at least one piece -/
def splitOn1 (c : Nat) : List Nat → List (List Nat)
  | [] => [[]]
  | x :: t =>
    if x = c then [] :: splitOn1 c t
    else match splitOn1 c t with
      | [] => [[x]]            -- unreachable
      | p :: ps => (x :: p) :: ps

theorem splitOn1_ne_nil (c : Nat) (s : List Nat) : splitOn1 c s ≠ [] := by
  induction s with
  | nil => simp [splitOn1]
  | cons x t ih =>
    unfold splitOn1
    split
    · simp
    · split <;> simp

/-- does `p` occur as a prefix -/
def isPrefix (p s : List Nat) : Bool := p.length ≤ s.length && s.take p.length == p

/-- does `p` occur as a contiguous sub-list -/
def isInfix (p : List Nat) : List Nat → Bool
  | [] => p.isEmpty
  | x :: t => isPrefix p (x :: t) || isInfix p t

def hexDigit (n : Nat) : Nat := if n < 10 then 48 + n else 87 + n      -- lower case
def hexDigitU (n : Nat) : Nat := if n < 10 then 48 + n else 55 + n     -- upper case

def hexVal (c : Nat) : Option Nat :=
  if 48 ≤ c ∧ c ≤ 57 then some (c - 48)
  else if 97 ≤ c ∧ c ≤ 102 then some (c - 87)
  else if 65 ≤ c ∧ c ≤ 70 then some (c - 55)
  else none

end U3
