import U3.Model.Lru
import U3.Lemmas.Lru
import U3.Gen.Collections
import U3.Gen.Lru
/-!
# C17 — the pool cache is bounded, consistent, and never leaks an evicted pool

Model: `U3.Lru` (`RecentlyUsedContainer`), `U3.Conc` (lock-granularity interleavings), `U3.Mgr`
(`PoolManager.connection_from_pool_key` / `clear` / finalizer).  Every reachable state of the
container is `(run (new cap) ops).c` for some `ops`, so the sequential theorems below quantify over
all op sequences of any length, all keys, all values and every `maxsize`.
-/
namespace U3.Props
open U3 U3.Lru

/-- at most `maxsize` entries in every reachable state -/
theorem C17_bounded (cap : Nat) (ops : List Op) : (run (new cap) ops).c.items.length ≤ cap :=
  (run_new cap ops).bounded

/-- it is a map: keys pairwise distinct in every reachable state -/
theorem C17_keys_unique (cap : Nat) (ops : List Op) : ((run (new cap) ops).c.items.map (·.1)).Nodup :=
  (run_new cap ops).recency.nodup

/-- conservation = dispose exactly once: the values ever inserted are, as a multiset, exactly the
values still held plus the values passed to `dispose_func` (so an evicted / replaced / deleted /
cleared value is disposed once, a held value never, and nothing is disposed twice or invented) -/
theorem C17_dispose_exactly_once (cap : Nat) (ops : List Op) :
    (inserted ops).Perm ((run (new cap) ops).c.items.map (·.2) ++ (run (new cap) ops).disposed) :=
  run_conserve (new cap) ops

/-- LRU order as refinement to the timestamp specification.  `stamps` records, independently of the
container, the time of the last touch of every key (`get`, `in`, `.get()` and `set` are touches).
(1) the container's order is exactly the order of last touches; (2) inserting a new key into a full
container evicts (disposes) exactly the entry at the head, whose last touch is older than that of
every entry that stays. -/
theorem C17_lru_order (cap : Nat) (ops : List Op) :
    let c := (run (new cap) ops).c
    let s := stamps Stamps.init ops
    c.items.Pairwise (fun a b => s.last a.1 < s.last b.1) ∧
    ∀ k v, pop c.items k = none → cap ≤ c.items.length →
      ∃ ek ev rest, c.items ++ [(k, v)] = (ek, ev) :: rest ∧
        step c (.set k v) = ({ c with items := rest }, .unit, [ev]) ∧
        ∀ a ∈ rest, a.1 ≠ k → s.last ek < s.last a.1 := by
  intro c s
  have hc : RunInv cap c s := run_new cap ops
  refine ⟨hc.recency.1, fun k v hp hfull => ?_⟩
  rcases step_set_miss v hp with ⟨hlt, -⟩ | ⟨-, ek, ev, rest, he, hs⟩
  · exact absurd (hc.cap_eq ▸ hlt) (Nat.not_lt.mpr hfull)
  · refine ⟨ek, ev, rest, he, hs, ?_⟩
    -- the appended entry is the only one that need not be younger than the head
    have : (c.items ++ [(k, v)]).Pairwise fun a b => b.1 ≠ k → s.last a.1 < s.last b.1 :=
      List.pairwise_append.mpr ⟨hc.recency.1.imp fun {_ b} h (_ : b.1 ≠ k) => h, List.pairwise_singleton ..,
        fun a _ b hb hbk => absurd (by cases List.mem_singleton.mp hb; rfl) hbk⟩
    exact (List.pairwise_cons.mp (he ▸ this)).1

/-- non-vacuity: a `get` refreshes recency, so key 2 (not key 1) is the victim -/
example : (run (new 2) [.set 1 10, .set 2 20, .get 1, .set 3 30]).disposed = [20] ∧
    (run (new 2) [.set 1 10, .set 2 20, .get 1, .set 3 30]).c.items = [(1, 10), (3, 30)] := by decide +kernel
/-- non-vacuity: replace, delete, clear and `maxsize = 0` all dispose -/
example : (run (new 2) [.set 1 10, .set 1 11, .set 2 20, .del 1, .clear]).disposed = [10, 11, 20] ∧
    (run (new 0) [.set 1 10]).disposed = [10] ∧ (run (new 0) [.set 1 10]).c.items = [] := by decide +kernel
/-- non-vacuity of the hypotheses of `C17_lru_order` (2): a full container and a new key -/
example : pop (run (new 2) [.set 1 10, .set 2 20]).c.items 3 = none ∧
    2 ≤ (run (new 2) [.set 1 10, .set 2 20]).c.items.length := by decide +kernel

open U3.Conc

/-- Linearizability.  For every set of thread programs and every schedule `σ`: the ghost history is
the interleaving of the programs selected by the lock-acquisition order `τ` (program order of every
thread is respected), and the shared container, every thread's results, and the multiset of dispose
calls (made + still pending) are those of the *sequential* execution of that history — which is
`Lru.run` on the plain op list.  When all threads have finished, the dispose calls made are exactly
the sequential ones and `τ` exhausts all programs. -/
theorem C17_linearizable (cap : Nat) (progs : List (List Op)) (σ : List Nat) :
    let cfg := exec Lru.step (Cfg.init (Lru.new cap) progs) σ
    let τ := cfg.hist.map (·.1)
    let q := seqRun Lru.step (Lru.new cap) progs.length (histOf progs τ)
    cfg.hist = histOf progs τ ∧
    cfg.threads.map (·.todo) = restOf progs τ ∧
    cfg.st = q.st ∧ cfg.threads.map (·.results) = q.results ∧
    (cfg.log.map (·.2) ++ pending cfg).Perm q.disposed ∧
    q.st = (run (Lru.new cap) ((histOf progs τ).map (·.2))).c ∧
    q.disposed = (run (Lru.new cap) ((histOf progs τ).map (·.2))).disposed ∧
    (cfg.done = true → (cfg.log.map (·.2)).Perm q.disposed ∧ (restOf progs τ).all List.isEmpty = true) := by
  intro cfg τ q
  have hl := linInv_exec Lru.step (Lru.new cap) progs σ
  have hr := seqFold_eq_run (histOf progs τ) (Seq.init (Lru.new cap) progs.length)
  refine ⟨hl.hist, hl.todo, hl.st, hl.res, hl.disp, hr.1, hr.2, fun hd => ⟨?_, hl.todo ▸ todo_done hd⟩⟩
  have := hl.disp
  rwa [pending_done hd, List.append_nil] at this

/-- consequently the size bound, key uniqueness and dispose-exactly-once hold in every configuration
reachable under every schedule (not only in sequential use) -/
theorem C17_bounded_all_schedules (cap : Nat) (progs : List (List Op)) (σ : List Nat) :
    let cfg := exec Lru.step (Cfg.init (Lru.new cap) progs) σ
    cfg.st.items.length ≤ cap ∧ (cfg.st.items.map (·.1)).Nodup ∧
    (inserted (cfg.hist.map (·.2))).Perm (cfg.st.items.map (·.2) ++ (cfg.log.map (·.2) ++ pending cfg)) := by
  intro cfg
  obtain ⟨h1, -, h3, -, h5, h6, h7, -⟩ := C17_linearizable cap progs σ
  rw [← h1] at h3 h5 h6 h7
  rw [h7] at h5
  rw [show cfg.st = _ from h3.trans h6]
  exact ⟨C17_bounded cap _, C17_keys_unique cap _,
    (C17_dispose_exactly_once cap _).trans (h5.symm.append_left _)⟩

/-- the outcome set computed by the driver (`outcomes` / `member`: sequential runs over `lockOrders progs`)
is complete: whenever all threads have finished, under whatever schedule, the observable outcome
(shared container, per-thread results, multiset of dispose calls) is the outcome of one of the
enumerated lock orders -/
theorem C17_outcomes_complete (cap : Nat) (progs : List (List Op)) (σ : List Nat) :
    let cfg := exec Lru.step (Cfg.init (Lru.new cap) progs) σ
    cfg.done = true →
    ∃ τ ∈ lockOrders progs,
      cfg.st = (seqRun Lru.step (Lru.new cap) progs.length (histOf progs τ)).st ∧
      cfg.threads.map (·.results) = (seqRun Lru.step (Lru.new cap) progs.length (histOf progs τ)).results ∧
      (cfg.log.map (·.2)).Perm (seqRun Lru.step (Lru.new cap) progs.length (histOf progs τ)).disposed := by
  intro cfg hd
  have hl := linInv_exec Lru.step (Lru.new cap) progs σ
  refine ⟨_, hl.lockOrder_mem hd, hl.st, hl.res, ?_⟩
  have := hl.disp
  rwa [pending_done hd, List.append_nil] at this

/-- non-vacuity: two threads, three lock orders, all of them complete -/
example : lockOrders [[Op.set 0 1, Op.get 0], [Op.del 0]] = [[1, 0, 0], [0, 1, 0], [0, 0, 1]] := by decide +kernel

/-- dispose outside the lock, mutual exclusion: in every configuration reachable under every
schedule, a thread about to call `dispose_func` does not own the lock, the lock owner is exactly the
thread inside a locked body, and a thread inside its body has no dispose call pending.  (Model
granularity = `with self.lock:` blocks; that the source has this shape is `C17_lock_discipline_fact`.) -/
theorem C17_dispose_outside_lock (cap : Nat) (progs : List (List Op)) (σ : List Nat) (i : Nat) :
    let cfg := exec Lru.step (Cfg.init (Lru.new cap) progs) σ
    (action cfg i = .dispose → cfg.owner ≠ some i) ∧
    (action cfg i = .body → cfg.owner = some i) ∧
    (cfg.owner = some i → action cfg i = .body) := by
  intro cfg
  obtain ⟨h1, h2⟩ := lockInv_exec Lru.step (Lru.new cap) progs σ
  have owned : cfg.owner = some i ↔ ∃ t, cfg.threads[i]? = some t ∧ t.phase = .locked := by
    simpa using h1 i
  refine ⟨fun ha ho => ?_, fun ha => ?_, fun ho => ?_⟩
  · obtain ⟨t, ht, hp⟩ := action_iff.1.mp ha
    obtain ⟨u, hu, hul⟩ := owned.mp ho
    obtain rfl : u = t := Option.some.inj (hu.symm.trans ht)
    exact hp (h2 u (List.mem_of_getElem? hu) hul)
  · obtain ⟨t, ht, -, hph⟩ := action_iff.2.mp ha
    exact owned.mpr ⟨t, ht, hph⟩
  · obtain ⟨u, hu, hul⟩ := owned.mp ho
    exact action_iff.2.mpr ⟨u, hu, h2 u (List.mem_of_getElem? hu) hul, hul⟩

/-- non-vacuity: a schedule in which thread 0 disposes while thread 1 is inside the lock; the
outcome is the sequential one in lock order `0,1` -/
example :
    let cfg := exec Lru.step (Cfg.init (Lru.new 1) [[.set 0 1, .set 1 2], [.set 0 3]]) [0, 0, 0, 0, 1, 0, 1]
    action cfg 0 = .finished ∧ cfg.log = [(0, 1)] ∧ cfg.hist.map (·.1) = [0, 0, 1] ∧
    cfg.st.items = [(0, 3)] ∧ cfg.done = false := by decide +kernel
example : (exec Lru.step (Cfg.init (Lru.new 1) [[.set 0 1, .set 1 2], [.set 0 3]]) [0, 0, 0, 0, 1]).owner = some 1 ∧
    action (exec Lru.step (Cfg.init (Lru.new 1) [[.set 0 1, .set 1 2], [.set 0 3]]) [0, 0, 0, 0, 1]) 0 = .dispose := by
  decide +kernel

open U3.Mgr

/-- same key ⇒ same pool.  In any reachable manager state, a get-or-create for `k` followed by ANY
sequence of manager operations (of any threads — every operation is one locked section, see
`C17_manager_linearizable`) during which `k` stays cached, followed by another get-or-create for
`k`, returns the same pool, and the second one does not create a pool. -/
theorem C17_same_key_same_pool (cap : Nat) (pre : List MOp) (k : Key) (ops : List MOp) :
    let m := runM (M.new cap) pre
    let r1 := stepM m (.goc k)
    (pop r1.1.cache.items k).isSome → StaysCached k r1.1 ops →
    ∃ p f, r1.2.1 = .pool p f ∧ (stepM (runM r1.1 ops) (.goc k)).2.1 = .pool p false := by
  intro m r1 hc hs
  have hm : Reach cap m := (Reach.init cap).run pre
  obtain ⟨⟨q, r⟩, hx⟩ := Option.isSome_iff_exists.mp hc
  obtain ⟨f, hf⟩ := goc_cached hm (pop_mem hx)
  obtain ⟨r', hx'⟩ := runM_stays (hm.step _) ops hx hs
  exact ⟨q, f, hf, by rw [stepM_goc_hit hx']⟩

/-- racing requests: for every schedule of threads running manager operations, the results every
thread sees and the final cache are those of the sequential execution in lock order (so
`C17_same_key_same_pool` applies to races) -/
theorem C17_manager_linearizable (cap : Nat) (progs : List (List MOp)) (σ : List Nat) :
    let cfg := exec stepM (Cfg.init (M.new cap) progs) σ
    let τ := cfg.hist.map (·.1)
    let q := seqRun stepM (M.new cap) progs.length (histOf progs τ)
    cfg.hist = histOf progs τ ∧ cfg.st = q.st ∧ cfg.threads.map (·.results) = q.results := by
  intro cfg τ q
  have hl := linInv_exec stepM (M.new cap) progs σ
  exact ⟨hl.hist, hl.st, hl.res⟩

/-- the pool cache never exceeds `num_pools`, whatever the sequence of requests / clears -/
theorem C17_manager_bounded (cap : Nat) (ops : List MOp) : (runM (M.new cap) ops).cache.items.length ≤ cap :=
  ((Reach.init cap).run ops).inv.bounded

/-- a pool that is still cached is never closed: in every reachable manager state (any sequence of
get-or-create / clear / release / finalizer runs) no cached pool id is in `closed` -/
theorem C17_cached_never_closed (cap : Nat) (ops : List MOp) (p : PoolId) :
    p ∈ cached (runM (M.new cap) ops) → p ∉ (runM (M.new cap) ops).closed :=
  ((Reach.init cap).run ops).inv.pools.cached_not_closed

/-- source-derived premises of `U3.Mgr`: get-or-create is one section under `with self.pools.lock:`,
the pool cache has no dispose callback (so closing is left to the pool's finalizer), and
`HTTPConnectionPool` registers that finalizer -/
theorem C17_manager_lock_fact :
    Gen.pmGetOrCreateLocked = true ∧ Gen.pmPoolsNoDispose = true ∧ Gen.poolHasFinalizer = true := by
  decide +kernel

/-- an evicted / cleared pool that nothing references any more is closed by the next finalizer run -/
theorem C17_evicted_closed_at_quiescence (m : M) (p : PoolId) (hd : p ∈ m.dropped) (hr : p ∉ m.refs) :
    p ∈ (stepM m .gc).1.closed := by
  simp [stepM]
  by_cases hc : p ∈ m.closed
  · exact .inl hc
  · exact .inr ⟨hd, hr, hc⟩

/-- non-vacuity: two origins, `num_pools = 1`: the second origin evicts the first pool; the first
origin then gets a *new* pool (it did not stay cached); while an origin stays cached it keeps its pool -/
example : (stepM (runM (M.new 1) [.goc 0, .goc 1]) (.goc 0)).2.1 = .pool 2 true ∧
    (stepM (runM (M.new 2) [.goc 0, .goc 1, .len]) (.goc 0)).2.1 = .pool 0 false ∧
    StaysCached 0 (stepM (M.new 2) (.goc 0)).1 [.goc 1, .len] := by
  refine ⟨?_, ?_, ?_, ?_, trivial⟩ <;> decide +kernel
example : (runM (M.new 1) [.goc 0, .goc 1, .release 0, .gc]).closed = [0] ∧
    (runM (M.new 1) [.goc 0, .goc 1, .gc]).closed = [] := by decide +kernel

/-- the structural premise of the interleaving model, read from the source on every run: every
method of `RecentlyUsedContainer` touches `_container` only under `with self.lock:` and calls
`dispose_func` only outside it; and the methods the model has transitions for are all listed. -/
theorem C17_lock_discipline_fact :
    (∀ m ∈ Gen.rucLockDiscipline, m.2.1 = true ∧ m.2.2 = true) ∧
    (∀ n ∈ ["__getitem__", "__setitem__", "__delitem__", "clear", "__len__", "keys"],
      n ∈ Gen.rucLockDiscipline.map (·.1)) := by
  decide +kernel

end U3.Props
