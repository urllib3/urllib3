import U3.Model.Pool
import U3.Lemmas.Pool
import U3.Lemmas.PoolInv
/-! # C01 — a pool never loses, duplicates or leaks connection slots, whatever the outcome

Proved for **every history**: any list of `request` / `dispose` / `closePool` operations on a pool
created with `maxsize = n > 0`, every per-attempt script, every configuration, every retry budget.  The scripts
include failures OUTSIDE the I/O steps of an attempt: before the checkout (a file-like body that cannot be rewound at a
retry / redirect hop, a per-request timeout that `Timeout` rejects), in the checkout itself (a negative
`pool_timeout`, which `queue.get` rejects on a `block=True` pool: `_get_conn` raises before it has taken
anything), after the checkout but before anything is sent (a header value that `putheader` cannot encode) and
between two attempts (the wait raises: unparsable `Retry-After`, interrupted `time.sleep`).
The two `_partial` slot theorems keep exactly one hypothesis, "no response holds a connection": it cannot be
replaced by "every response was read, released or closed" because `HTTPResponse.close()` keeps the hold
(`C01_close_keeps_slot_witness`, known finding `slot-not-returned:close`).
-/
namespace U3.Props
open U3 U3.Pool

/-- the finite table behind `C01_errors_are_urllib3`: for every class of `raisable` (a superset of
`U3.Pool.mrCls`), every proxy situation, every retry budget and
method class, what `urlopen`'s `except` clauses (read from the GENERATED tuples
`Gen.urlopenHandlers` / `Gen.urlopenIsinstance` and the generated subclass relation) hand to the
caller is a urllib3 exception, or the very interrupt that was raised -/
theorem C01_except_table :
    ∀ c ∈ raisable, ∀ unconnected mret : Bool, ∀ retries : Retry,
      handledOk c (handleError unconnected retries mret c) = true :=
  fun c hc unconnected mret retries => handled_table c hc unconnected mret retries

example : Gen.cKeyboardInterrupt ∈ raisable ∧ Gen.cConnectionResetError ∈ raisable := by decide

/-- every class that leaves `_make_request` on a reachable state is in the table, the `ValueError` of a
header value that cannot be encoded apart (`U3.Pool.makeRequest_inv`) -/
theorem C01_raisable_covers : ∀ c ∈ mrCls, c ∈ raisable := mrCls_handled

/-- FULL statement (DESIGN Appendix E): after any history on a pool created with `maxsize = n > 0`,
whatever a `urlopen` call raises — from `set_file_position`, from `_get_conn`, from any I/O step of any
attempt, from the retry machinery, from the wait between two attempts, from `_put_conn`, from draining a
redirect / retry response — is a urllib3 exception (`HTTPError`) or an interrupt (a `BaseException` that
is not an `Exception`; the fault scripts inject nothing else of that kind).  The one exception that is
neither is not a failure of the request: the `ValueError` raised for a per-request `timeout` argument
that `Timeout` rejects (`rc.badTimeout`) or for a negative `pool_timeout` (`rc.badPoolTimeout`, rejected by
`queue.get` on a `block=True` pool) — the caller's own argument error, raised before anything is
taken from the pool (`C01_preflight_failure_takes_nothing`, `C01_checkout_failure_takes_nothing`) — or for a header
value that `putheader` cannot encode (`rc.badHeader`: `UnicodeEncodeError`, a `ValueError`, raised between
`putrequest()` and `endheaders()`; the connection that was checked out is thrown away and its slot put back by
the `finally` clause like after any other failure: `C03_rejected_request_discards_connection` in `Props/C03.lean`;
the invariant and the slot accounting below hold for histories with such requests as for all others). -/
theorem C01_errors_are_urllib3 (n : Nat) (block proxy : Bool) (hn : 0 < n) (ops : List Op) (rid : Nat) (rc : ReqCfg)
    (retries : Retry) (script : List Attempt) (e : Exc)
    (h : (step (run (init n block proxy) ops) (.request rid rc retries script)).2 = .result (.raised e)) :
    isUrllib3 e.cls = true ∨ isInterrupt e.cls = true ∨
      ((rc.badTimeout = true ∨ rc.badPoolTimeout = true ∨ rc.badHeader = true) ∧ e.cls = Gen.cValueError) := by
  have g := (request_good rid script _ rc retries (run_inv ops _ (init_inv n block proxy hn))).exc e
    (Out.result.inj h)
  simpa [okClsB, okCls, ReqCfg.badArg, or_assoc] using g

example : (match (step (run (init 1 true) []) (.request 0 {} .off [{ connect := .refused }])).2 with
    | .result (.raised e) => e.cls == Gen.cU3NewConnectionError
    | _ => false) = true := by decide

example : (match (step (run (init 1 true) []) (.request 0 { badHeader := true } (.count 2) [{}, {}])) with
    | (s, .result (.raised e)) => e.cls == Gen.cValueError && s.queue == [none]
    | _ => false) = true := by decide

/-- … in particular, with valid `timeout` and `pool_timeout` arguments and headers that can be encoded every failure
is a urllib3 exception or an interrupt -/
theorem C01_errors_are_urllib3_valid_timeout (n : Nat) (block proxy : Bool) (hn : 0 < n) (ops : List Op) (rid : Nat)
    (rc : ReqCfg) (retries : Retry) (script : List Attempt) (e : Exc) (hb : rc.badTimeout = false)
    (hp : rc.badPoolTimeout = false) (hh : rc.badHeader = false)
    (h : (step (run (init n block proxy) ops) (.request rid rc retries script)).2 = .result (.raised e)) :
    isUrllib3 e.cls = true ∨ isInterrupt e.cls = true := by
  rcases C01_errors_are_urllib3 n block proxy hn ops rid rc retries script e h with h1 | h2 | ⟨h3, _⟩
  · exact Or.inl h1
  · exact Or.inr h2
  · rw [hb, hp, hh] at h3
    rcases h3 with h3 | h3 | h3 <;> cases h3

example : ({} : ReqCfg).badTimeout = false ∧ ({} : ReqCfg).badPoolTimeout = false ∧ ({} : ReqCfg).badHeader = false ∧
    (match (step (run (init 1 true) []) (.request 0 {} (.count 1)
        [{ head := some { status := 503, close := false, cl := some 0, location := false, retryAfter := true },
           wait := .invalidHeader }])).2 with
      | .result (.raised e) => e.cls == Gen.cU3InvalidHeader
      | _ => false) = true := by decide

/-- the generated `except` tuple of `urlopen` really is consulted: an `OSError` subclass reaches the
caller as `ProtocolError` (or `MaxRetryError`), never raw -/
theorem C01_oserror_is_wrapped :
    handleError false .off true Gen.cConnectionResetError = .raise (exc Gen.cU3ProtocolError) := by decide

/-! ### the invariant (DESIGN Appendix A)

`InvL s L` (in `U3/Lemmas/Pool.lean`): queue ids distinct and disjoint from leased (`L`) and held ids;
every connection with a socket is queued, leased or held; `queue.length ≤ maxsize`; on an open pool
`queue.length + leases + held ≥ maxsize`, with equality when `block`.  `Inv s = InvL s []`.

`C01_inv_reachable` is the full statement (DESIGN Appendix E).  Its building blocks are theorems of their own:
the invariant holds initially; it is preserved by every primitive step of the read / close family
(`Steps`), by `_put_conn(conn)` on a clean exit and by `conn.close(); _put_conn(None)` on an unclean
one — including the `Full` / closed-pool / `FullPoolError` branches; `_get_conn` turns `Inv s` into
`InvL s' [c]`.
-/

/-- the slot invariant holds after EVERY history on a pool created with `maxsize = n > 0` -/
theorem C01_inv_reachable (n : Nat) (block proxy : Bool) (hn : 0 < n) (ops : List Op) :
    Inv (run (init n block proxy) ops) :=
  run_inv ops _ (init_inv n block proxy hn)

/-- `maxsize` and `block` are never written -/
theorem C01_config_const (n : Nat) (block proxy : Bool) (hn : 0 < n) (ops : List Op) :
    (run (init n block proxy) ops).maxsize = n ∧ (run (init n block proxy) ops).block = block := by
  have k := run_keep ops _ (init_inv n block proxy hn)
  exact ⟨k.msz, k.blk⟩

theorem C01_inv_init (n : Nat) (block proxy : Bool) (hn : 0 < n) : Inv (init n block proxy) :=
  init_inv n block proxy hn

theorem C01_inv_primitive_steps {s s' : State} {L : List Nat} (st : Steps [] s s') (h : InvL s L) : InvL s' L :=
  steps_inv (by simp) st h

theorem C01_inv_conn_close {s : State} {L : List Nat} (c : Nat) (h : InvL s L) : InvL (connClose s c) L :=
  connClose_inv c h

/-- clean exit: the leased connection goes back, the lease is over, `Inv` holds again -/
theorem C01_putback_restores_inv {s : State} {c : Nat} (h : InvL s [c]) : Inv (putConn s (some c)).1 :=
  putConn_lease_inv h

/-- unclean exit (any exception, handled or not, incl. an interrupt): the connection is closed and a
`None` placeholder takes its slot -/
theorem C01_discard_restores_inv {s : State} {c : Nat} (h : InvL s [c]) : Inv (discard s (some c)).1 :=
  discard_lease_inv h

/-- `_get_conn()` returning connection `c` turns `Inv` into the invariant with `c` leased -/
theorem C01_checkout_inv {s s' : State} {c : Nat} (h : Inv s) (hg : getConn s = (s', .ok c)) : InvL s' [c] :=
  getConn_inv h hg

/-- … and when it raises (`EmptyPoolError`, `ClosedPoolError`) nothing was taken -/
theorem C01_checkout_error_takes_nothing {s s' : State} {e : Exc} (hg : getConn s = (s', .error e)) : s' = s :=
  getConn_error_state hg

/-- … also with a `pool_timeout` that `queue.get` rejects (`ValueError` on an open `block=True` pool) -/
theorem C01_checkout_error_takes_nothing_any_timeout {s s' : State} {b : Bool} {e : Exc}
    (hg : getConnT s b = (s', .error e)) : s' = s :=
  getConnT_error_state hg

example : getConnT (init 1 true) true = (init 1 true, .error (exc Gen.cValueError)) ∧
    (getConnT (init 1 false) true).2 = .ok 0 := ⟨rfl, rfl⟩

/-- one-attempt summary, clean exit with `release_conn`: checkout, then ANY sequence of primitive steps
(connecting `c`, sending, reading, closing sockets and readers, creating the response), then
`_put_conn(c)` — the invariant holds again -/
theorem C01_attempt_clean_exit {s s1 s2 : State} {c : Nat} (h : Inv s) (hg : getConn s = (s1, .ok c))
    (st : Steps [c] s1 s2) : Inv (putConn s2 (some c)).1 :=
  putConn_lease_inv (steps_inv (by simp) st (getConn_inv h hg))

/-- one-attempt summary, unclean exit (any exception or interrupt at any I/O step): the `finally`
clause closes `c` and puts `None` back — the invariant holds again, no slot is lost -/
theorem C01_attempt_unclean_exit {s s1 s2 : State} {c : Nat} (h : Inv s) (hg : getConn s = (s1, .ok c))
    (st : Steps [c] s1 s2) : Inv (discard s2 (some c)).1 :=
  discard_lease_inv (steps_inv (by simp) st (getConn_inv h hg))

example : (getConn (init 1 true)).2 = .ok 0 := rfl

example : InvL { (init 1 true) with queue := [], conns := [{}] } [0] := by
  refine ⟨by decide, ?_, ?_, ?_, ?_, ?_, ?_, ?_⟩ <;> simp [init, owned, queued, held]
  intro c cn h
  cases c <;> simp at h
  subst h
  simp

/-- for any state satisfying the invariant: with no response holding a connection the open pool offers `maxsize` slots and
every connected connection is idle in the queue -/
theorem C01_quiescent_of_inv {s : State} (h : Inv s) (hc : s.closed = false) (hq : held s = []) :
    s.queue.length = s.maxsize ∧ ∀ c cn, s.conns[c]? = some cn → cn.sock ≠ none → some c ∈ s.queue := by
  refine ⟨?_, h.idle hq⟩
  have h1 := h.slots hc
  have h2 := h.len
  simp [hq] at h1
  omega

/-
What DESIGN Appendix E states under the name `C01_quiescent_slots` — after every history in which every returned
response has been read, released or closed, `(run (init n …) ops).queue.length = n` — is FALSE on this tree: see
`C01_close_keeps_slot_witness` (known finding `slot-not-returned:close`).  Proved, for EVERY history: whenever
no response still holds a connection — which is what read-to-the-end, `release_conn()`, `drain_conn()`, a failed
read and (since the repair of `slot-not-returned:preloaded-release_conn=False`, `C01_preload_released`) a
preloaded body establish, but not `close()` — the open pool offers exactly `n` slots.
-/
theorem C01_quiescent_slots_partial (n : Nat) (block proxy : Bool) (hn : 0 < n) (ops : List Op)
    (hc : (run (init n block proxy) ops).closed = false) (hq : held (run (init n block proxy) ops) = []) :
    (run (init n block proxy) ops).queue.length = n := by
  rw [(C01_quiescent_of_inv (C01_inv_reachable n block proxy hn ops) hc hq).1, (C01_config_const n block proxy hn ops).1]

example : let s := run (init 1 true) [.request 0 { preload := false, release := false } .off
      [{ head := some { status := 200, close := false, cl := some 2, location := false, retryAfter := false }, body := [1, 2] }],
      .dispose 0 .release]
    s.closed = false ∧ held s = [] := by decide

/-- quiescent ⇒ every connection that still has a socket is idle in the queue (every history).  Same
remaining hypothesis.  (Sockets kept open only by the reader of a response whose connection went back
unread — finding `unread-response-after-release` — are not connection sockets: `conn.sock` is `none`
for them; the statement is about connections.) -/
theorem C01_no_leak_partial (n : Nat) (block proxy : Bool) (hn : 0 < n) (ops : List Op)
    (hq : held (run (init n block proxy) ops) = []) :
    ∀ c cn, (run (init n block proxy) ops).conns[c]? = some cn → cn.sock ≠ none →
      some c ∈ (run (init n block proxy) ops).queue :=
  (C01_inv_reachable n block proxy hn ops).idle hq

/-- a response that holds no connection never holds one later (every history, every continuation) -/
theorem C01_unheld_stays (n : Nat) (block proxy : Bool) (hn : 0 < n) (ops more : List Op) (r : Nat) (rs : Resp)
    (hr : (run (init n block proxy) ops).resps[r]? = some rs) (hc : rs.conn = none) :
    ∀ rs' : Resp, (run (run (init n block proxy) ops) more).resps[r]? = some rs' → rs'.conn = none :=
  unheld_stays (C01_inv_reachable n block proxy hn ops) more hr hc

/-- `release_conn()` on a response that knows its pool leaves it holding nothing, in every reachable
state — and its `_put_conn` never raises `FullPoolError` -/
theorem C01_release_unholds (n : Nat) (block proxy : Bool) (hn : 0 < n) (ops : List Op) (r : Nat) (rs : Resp)
    (hr : (run (init n block proxy) ops).resps[r]? = some rs) (hp : rs.hasPool = true) :
    (releaseConn (run (init n block proxy) ops) r).2 = none ∧
    ∀ rs' : Resp, (releaseConn (run (init n block proxy) ops) r).1.resps[r]? = some rs' → rs'.conn = none :=
  ⟨(releaseConn_inv r (C01_inv_reachable n block proxy hn ops)).2,
   releaseConn_unholds (C01_inv_reachable n block proxy hn ops) hr hp⟩

/-- `block=True`: with `maxsize` responses holding their connections the queue is empty and the next
checkout is `EmptyPoolError` -/
theorem C01_n_plus_one_blocks {s : State} (h : Inv s) (hc : s.closed = false) (hb : s.block = true)
    (hn : (held s).length = s.maxsize) :
    (getConn s).2 = .error (exc Gen.cU3EmptyPoolError) ∧ (getConn s).1 = s := by
  have h1 := h.slotsB hc hb
  have hq : s.queue = [] := by
    cases hq : s.queue with
    | nil => rfl
    | cons a t =>
      rw [hq] at h1
      simp at h1
      omega
  unfold getConn
  simp [hc, hq, hb]

example : Inv (init 2 true) ∧ (init 2 true).closed = false := ⟨init_inv 2 true false (by decide), rfl⟩

/-! ### the candidate of DESIGN §7, on the model: `response.close()` never gives the slot back -/

def okAttempt : Attempt :=
  { head := some { status := 200, close := false, cl := some 5, location := false, retryAfter := false },
    headLen := 37, body := [1, 2, 3, 4, 5] }

def streamCfg : ReqCfg := { preload := false, release := false }

/-- block=True, maxsize=1: `urlopen(preload_content=False)`, `response.close()` — the response has been
closed, the pool offers 0 slots instead of 1 and the next request is `EmptyPoolError` (negation
witness for the statement `C01_quiescent_slots` of DESIGN Appendix E, which `C01_quiescent_slots_partial` restricts by
`held s = []`; `known_findings/C01.json`, signature
`slot-not-returned:close`) -/
theorem C01_close_keeps_slot_witness :
    let s := run (init 1 true) [.request 0 streamCfg .off [okAttempt], .dispose 0 .close]
    s.queue.length = 0 ∧ s.resps.all (fun r => r.fp.isNone) = true ∧
      (match (step s (.request 1 streamCfg .off [okAttempt])).2 with
       | .result (.raised e) => e.cls == Gen.cU3EmptyPoolError
       | _ => false) = true := by decide

/-- the same history with `release_conn()` instead of `close()` gives the slot back -/
theorem C01_release_returns_slot_witness :
    (run (init 1 true) [.request 0 streamCfg .off [okAttempt], .dispose 0 .release]).queue.length = 1 := by decide

/-- `preload_content=True, release_conn=False` (finding
`slot-not-returned:preloaded-release_conn=False`, repaired: `_make_request` releases the connection
of a response whose preloaded body has been read to the end): the history that lost the slot before the
repair leaves it in the pool — after `urlopen` already, and `stream()` on the preloaded
response changes nothing; the response does not hold the connection -/
theorem C01_preload_released :
    let s1 := run (init 1 true) [.request 0 { preload := true, release := false } .off [okAttempt]]
    let s := run (init 1 true) [.request 0 { preload := true, release := false } .off [okAttempt], .dispose 0 (.stream 3)]
    s1.queue.length = 1 ∧ s.queue.length = 1 ∧ s.resps.all (fun r => r.fp.isNone) = true ∧ held s = [] ∧
      (match (step s (.request 1 { preload := true, release := false } .off [okAttempt])).2 with
       | .result (.resp _) => true
       | _ => false) = true := by decide

/-! ### failures outside the I/O steps of an attempt: before the checkout, between two attempts -/

/-- `block=True`: after EVERY history the free slots and the connections held by responses add up to
exactly `n` (never `n + 1`: no slot is ever duplicated — what the two repaired instances of the defect
`put-without-checkout` broke: `timeout=-1`, and `pool_timeout=-1`, which is part of every history here through
`ReqCfg.badPoolTimeout`; the harness oracle `slot-surplus` is this statement on the implementation) -/
theorem C01_block_slots_exact (n : Nat) (proxy : Bool) (hn : 0 < n) (ops : List Op)
    (hc : (run (init n true proxy) ops).closed = false) :
    (run (init n true proxy) ops).queue.length + (held (run (init n true proxy) ops)).length = n := by
  have h := C01_inv_reachable n true proxy hn ops
  have k := C01_config_const n true proxy hn ops
  have h1 := h.slotsB hc k.2
  rw [k.1] at h1
  simpa using h1

example : (run (init 2 true) [.request 0 { preload := false, release := false } .off
      [{ head := some { status := 200, close := false, cl := some 2, location := false, retryAfter := false }, body := [1, 2] }]]).closed
    = false := by decide

/-- a failure before the `try:` of `urlopen` — a file-like body that cannot be rewound at this hop
(`UnrewindableBodyError`), a per-request timeout that `Timeout` rejects (`ValueError`) — leaves the pool
exactly as it was, in EVERY state: nothing is taken, nothing is put back, nothing is logged -/
theorem C01_preflight_failure_takes_nothing (s : State) (rid : Nat) (rc : ReqCfg) (retries : Retry) (a : Attempt)
    (rest : List Attempt) (e : Exc) (h : preflight rc a = some e) :
    request s rid rc retries (a :: rest) = (s, .raised e) := by
  rw [request, h]

example : preflight { badTimeout := true } {} = some (exc Gen.cValueError) ∧
    preflight { fileBody := true, bodyPos := true } { pre := .unrewindable } = some (exc Gen.cU3UnrewindableBodyError) := by
  decide

/-- a failure INSIDE the checkout — whatever `_get_conn(timeout=pool_timeout)` raises: `ClosedPoolError`,
`EmptyPoolError`, or the `ValueError` of `queue.get` for a negative `pool_timeout` on a `block=True` pool — leaves
the pool exactly as it was, in EVERY state: `_get_conn` has taken nothing (`C01_checkout_error_takes_nothing_any_timeout`),
none of `urlopen`'s `except` clauses retries these classes, and the `finally` clause, which sees `conn is None`, puts
nothing back and logs nothing (the histories: `C01_bad_pool_timeout_takes_no_slot`). -/
theorem C01_checkout_failure_takes_nothing (s s' : State) (rid : Nat) (rc : ReqCfg) (retries : Retry) (a : Attempt)
    (rest : List Attempt) (e : Exc) (hp : preflight rc a = none)
    (hg : getConnT s rc.badPoolTimeout = (s', .error e)) :
    request s rid rc retries (a :: rest) = (s, .raised e) :=
  request_checkout_error hp hg

example : preflight { badPoolTimeout := true } {} = none ∧
    getConnT (init 2 true) ({ badPoolTimeout := true } : ReqCfg).badPoolTimeout = (init 2 true, .error (exc Gen.cValueError)) :=
  ⟨rfl, rfl⟩

def stream200 : Attempt :=
  { head := some { status := 200, close := false, cl := some 2, location := false, retryAfter := false }, body := [1, 2] }

/-- the history of the repaired defect `put-without-checkout` (`known_findings/C01.json`): `block=True`,
`maxsize=2`, one streamed response outstanding, then `urlopen(..., timeout=-1)`.  Before the repair the
`ValueError` was raised inside the `try:` and the `finally` clause put back a `None` that was never taken:
2 free slots + 1 outstanding response, and three connections open at once two requests later.  Now: the
`ValueError` reaches the caller, nothing is put back (no `put` event), the pool still offers 1 free slot,
and of two further streamed requests the second is refused (`EmptyPoolError`): never more than 2 sockets -/
theorem C01_bad_timeout_takes_no_slot :
    let s1 := run (init 2 true) [.request 0 streamCfg .off [stream200]]
    let x := step { s1 with log := [] } (.request 1 { streamCfg with badTimeout := true } .off [stream200])
    let s3 := run x.1 [.request 2 streamCfg .off [stream200]]
    (match x.2 with
     | .result (.raised e) => e.cls == Gen.cValueError
     | _ => false) = true ∧
    x.1.log = [] ∧ x.1.queue.length = 1 ∧ (held x.1).length = 1 ∧
    s3.queue.length = 0 ∧ s3.socks.length = 2 ∧
    (match (step s3 (.request 3 streamCfg .off [stream200])).2 with
     | .result (.raised e) => e.cls == Gen.cU3EmptyPoolError
     | _ => false) = true := by decide

/-- the histories of the repaired defect `put-without-checkout:pool-timeout` (`known_findings/C01.json`): `block=True`,
`maxsize=2`, one streamed response outstanding, then `urlopen(..., pool_timeout=-1)` — with `release_conn=False` and
with the default `release_conn=True`.  Before the repair `queue.get(block=True, timeout=-1)` raised `ValueError` inside
`_get_conn()`, i.e. inside `urlopen`'s `try:`, and the `finally` clause (`clean_exit` false, `conn` `None`) put back a
`None` that was never taken: 2 free slots + 1 outstanding response, and three connections open at once two requests
later.  Now: the `ValueError` reaches the caller, nothing is put back (no `put` event), the pool still offers 1 free
slot, and of two further streamed requests the second is refused (`EmptyPoolError`): never more than 2 sockets.  On an
idle `block=True, maxsize=1` pool the caller gets the `ValueError` (before the repair: `FullPoolError` from the
surplus `_put_conn(None)`), and a request on a closed pool (`ClosedPoolError`) no longer calls `_put_conn` either. -/
theorem C01_bad_pool_timeout_takes_no_slot :
    (∀ rc ∈ [{ streamCfg with badPoolTimeout := true }, ({ badPoolTimeout := true } : ReqCfg)],
      let s1 := run (init 2 true) [.request 0 streamCfg .off [stream200]]
      let x := step { s1 with log := [] } (.request 1 rc .off [stream200])
      let s3 := run x.1 [.request 2 streamCfg .off [stream200]]
      (match x.2 with
       | .result (.raised e) => e.cls == Gen.cValueError
       | _ => false) = true ∧
      x.1.log = [] ∧ x.1.queue.length = 1 ∧ (held x.1).length = 1 ∧
      s3.queue.length = 0 ∧ s3.socks.length = 2 ∧
      (match (step s3 (.request 3 streamCfg .off [stream200])).2 with
       | .result (.raised e) => e.cls == Gen.cU3EmptyPoolError
       | _ => false) = true) ∧
    (let x := step (init 1 true) (.request 0 { badPoolTimeout := true } (.count 2) [stream200, stream200])
     (match x.2 with
      | .result (.raised e) => e.cls == Gen.cValueError
      | _ => false) = true ∧ x.1.log = [] ∧ x.1.queue = [none]) ∧
    (let x := step (run (init 1 true) [.closePool]) (.request 0 {} .off [stream200])
     (match x.2 with
      | .result (.raised e) => e.cls == Gen.cU3ClosedPoolError
      | _ => false) = true ∧ x.1.log = []) := by decide

/-- a `block=False` pool never looks at `pool_timeout`: the same request is served -/
example : (match (step (init 1 false) (.request 0 { badPoolTimeout := true } .off [stream200])).2 with
    | .result (.resp _) => true
    | _ => false) = true := by decide

def retry503 (w : WaitOut) : Attempt :=
  { head := some { status := 503, close := false, cl := some 2, location := false, retryAfter := true }, body := [1, 2], wait := w }

def redirect302 (w : WaitOut) : Attempt :=
  { head := some { status := 302, close := false, cl := some 2, location := true, retryAfter := true }, body := [1, 2], wait := w }

/-- the wait between two attempts raises (`Retry-After: soon` → `InvalidHeader`; `time.sleep` interrupted)
with `preload_content=False`, after a 503 that is retried and after a 302 that is followed: the
intermediate response has been drained BEFORE the wait, so its connection is back in the pool — the
`block=True, maxsize=1` pool offers its slot, no response holds a connection, and the next request is
served on the same socket (a `urlopen` that waited first and drained afterwards would lose the slot:
seeded defect C01-m3) -/
theorem C01_wait_failure_slot_is_back :
    ∀ a ∈ [retry503 .invalidHeader, retry503 .interrupt, redirect302 .invalidHeader, redirect302 .interrupt],
      let x := step (init 1 true) (.request 0 streamCfg (.count 2) [a, stream200])
      (match x.2 with
       | .result (.raised e) => e.cls == Gen.cU3InvalidHeader || e.cls == Gen.cKeyboardInterrupt
       | _ => false) = true ∧
      x.1.queue = [some 0] ∧ held x.1 = [] ∧
      (match (step x.1 (.request 1 streamCfg .off [stream200])).2 with
       | .result (.resp _) => true
       | _ => false) = true ∧
      (step x.1 (.request 1 streamCfg .off [stream200])).1.socks.length = 1 := by decide

/-- a retry / redirect hop of a request with a file-like body that cannot be rewound, while another
response is outstanding on a `block=True, maxsize=2` pool: `UnrewindableBodyError`, and the hop — which
never took a connection — puts nothing back: 1 free slot + 1 outstanding response (a `urlopen` that
rewinds inside its `try:` would put a `None` back here: seeded defect C01-m6) -/
theorem C01_unrewindable_hop_takes_no_slot :
    let s1 := run (init 2 true) [.request 0 streamCfg .off [stream200]]
    let x := step s1 (.request 1 { fileBody := true } (.count 2) [redirect302 .ok, { stream200 with pre := .unrewindable }])
    (match x.2 with
     | .result (.raised e) => e.cls == Gen.cU3UnrewindableBodyError
     | _ => false) = true ∧
    x.1.queue.length = 1 ∧ (held x.1).length = 1 := by decide

/-! ### no intermediate response of a retry / redirect chain keeps a connection, however the chain ends -/

/-- after EVERY history, whatever a `urlopen` call raises — exhausted budget after a drained 3xx / 503, a fault
while draining, `InvalidHeader` or an interrupt in the wait between two attempts, `UnrewindableBodyError` at the
next hop, a fault in a later attempt … — every response that holds a connection after the call held that very
connection before it.  None of the responses created during the call (the intermediate responses of the retry /
redirect chain, which the caller never sees) keeps a connection: `urlopen` drains an intermediate response before it
does anything else that can fail, and a drain — successful or not — gives the connection back
(`U3.Pool.drainConn_unholds`, `U3.Pool.request_hold`).  The seeded defect C01-m3 (wait first, drain afterwards)
is exactly a `urlopen` for which this statement is false. -/
theorem C01_failed_call_holds_nothing (n : Nat) (block proxy : Bool) (hn : 0 < n) (ops : List Op) (rid : Nat) (rc : ReqCfg)
    (retries : Retry) (script : List Attempt) (e : Exc)
    (h : (step (run (init n block proxy) ops) (.request rid rc retries script)).2 = .result (.raised e)) :
    ∀ (r : Nat) (rs : Resp), (step (run (init n block proxy) ops) (.request rid rc retries script)).1.resps[r]? = some rs →
      rs.conn ≠ none → ∃ rs0 : Resp, (run (init n block proxy) ops).resps[r]? = some rs0 ∧ rs0.conn = rs.conn :=
  fun r rs g hne => (step_request_hold n block proxy hn ops rid rc retries script h r rs g hne).resolve_left nofun

example : (step (run (init 1 true) []) (.request 0 streamCfg (.count 2) [retry503 .invalidHeader, stream200])).2
    = .result (.raised (exc Gen.cU3InvalidHeader)) := rfl

/-- … and when the call returns a response, that response is the only one that may have started holding a
connection: every intermediate response of the chain has given its connection back -/
theorem C01_intermediate_responses_hold_nothing (n : Nat) (block proxy : Bool) (hn : 0 < n) (ops : List Op) (rid : Nat)
    (rc : ReqCfg) (retries : Retry) (script : List Attempt) (r0 : Nat)
    (h : (step (run (init n block proxy) ops) (.request rid rc retries script)).2 = .result (.resp r0)) :
    ∀ (r : Nat) (rs : Resp), (step (run (init n block proxy) ops) (.request rid rc retries script)).1.resps[r]? = some rs →
      rs.conn ≠ none → r = r0 ∨ ∃ rs0 : Resp, (run (init n block proxy) ops).resps[r]? = some rs0 ∧ rs0.conn = rs.conn :=
  fun r rs g hne => (step_request_hold n block proxy hn ops rid rc retries script h r rs g hne).imp_left
    fun q => (Option.some.inj q).symm

example : (step (run (init 1 true) []) (.request 0 streamCfg (.count 2) [redirect302 .ok, stream200])).2
    = .result (.resp 1) := rfl

/-- consequence: a failing `urlopen` call on a pool on which no response holds a connection leaves a pool on
which no response holds a connection — the open pool offers exactly `n` slots again, whatever the failure
(every history before the call, every script, configuration and budget) -/
theorem C01_failed_call_quiescent (n : Nat) (block proxy : Bool) (hn : 0 < n) (ops : List Op) (rid : Nat) (rc : ReqCfg)
    (retries : Retry) (script : List Attempt) (e : Exc)
    (hq : held (run (init n block proxy) ops) = [])
    (h : (step (run (init n block proxy) ops) (.request rid rc retries script)).2 = .result (.raised e)) :
    held (step (run (init n block proxy) ops) (.request rid rc retries script)).1 = [] ∧
    ((step (run (init n block proxy) ops) (.request rid rc retries script)).1.closed = false →
      (step (run (init n block proxy) ops) (.request rid rc retries script)).1.queue.length = n) := by
  have hi := C01_inv_reachable n block proxy hn ops
  have hnew := (step_request_hold n block proxy hn ops rid rc retries script h).held_nil hq
  refine ⟨hnew, fun hcl => ?_⟩
  rw [(C01_quiescent_of_inv (step_op_inv _ hi) hcl hnew).1, (step_keep (.request rid rc retries script) hi).msz,
    (C01_config_const n block proxy hn ops).1]

example : held (run (init 1 true) []) = [] ∧
    (step (run (init 1 true) []) (.request 0 streamCfg (.count 2) [redirect302 .interrupt, stream200])).2
      = .result (.raised (exc Gen.cKeyboardInterrupt)) := ⟨rfl, rfl⟩

/-! ### `block=True`: never more than `n` connected connections -/

/-- the connections that have a socket -/
def connected (s : State) : List Nat :=
  (List.range s.conns.length).filter fun c =>
    match s.conns[c]? with
    | some cn => cn.sock.isSome
    | none => false

/-
What DESIGN Appendix E states under the name `C01_block_bound` — `block=True`: the number of open sockets is ≤ n,
always — is FALSE on this tree (known finding `block-bound-exceeded:unread-response-after-release`): the reader of a
`Connection: close` / read-until-close response whose connection went back to the pool unread keeps the detached
socket open while the pool connects another one.  Proved, for EVERY history: the number of
CONNECTIONS that have a socket never exceeds `n` on an open `block=True` pool — every connected connection is idle in
the queue or held by a response (`InvL.live`), those are pairwise distinct (`InvL.nodup`), and free slots + held
connections = `n` (`C01_block_slots_exact`).  The missing part is exactly the sockets referenced by a reader only.
-/
theorem C01_block_bound_partial (n : Nat) (proxy : Bool) (hn : 0 < n) (ops : List Op)
    (hc : (run (init n true proxy) ops).closed = false) :
    (connected (run (init n true proxy) ops)).length ≤ n := by
  have h := C01_inv_reachable n true proxy hn ops
  have hs := C01_block_slots_exact n proxy hn ops hc
  generalize run (init n true proxy) ops = s at h hs
  have nd : (connected s).Nodup := (List.filter_sublist (l := List.range s.conns.length)).nodup List.nodup_range
  have sub : connected s ⊆ owned s [] := by
    intro c hcm
    simp only [connected, List.mem_filter, List.mem_range] at hcm
    obtain ⟨_, hb⟩ := hcm
    cases hcn : s.conns[c]? with
    | none => simp [hcn] at hb
    | some cn =>
      simp only [hcn] at hb
      exact h.live c cn hcn (by intro hx; rw [hx] at hb; cases hb)
  have l1 := nd.length_le_of_subset sub
  have l2 : (owned s []).length ≤ s.queue.length + (held s).length := by
    simp only [owned, queued, List.length_append, List.nil_append]
    exact Nat.add_le_add_right (List.length_filterMap_le _ _) _
  omega

example : let s := run (init 1 true) [.request 0 streamCfg .off [stream200]]
    s.closed = false ∧ connected s = [0] := by decide

end U3.Props
