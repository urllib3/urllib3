import U3.Model.Timeout
import U3.Lemmas.Timeout
/-!
# C19 — socket waits never exceed the configured timeouts

All statements are for **all** integers (time in units of 2⁻¹⁰ s): every configured value, every
clock value, every connect / send duration.  The vocabulary of the statements (`TV.le`, `connectSpec`,
`readSpec`, `wire`, `elapsed`, …) is defined in `U3/Lemmas/Timeout.lean`.

Reading of "unset" (`_DEFAULT_TIMEOUT` / argument omitted): the slot configures no bound of its
own; the system default (`gdt`) is what is applied when nothing else bounds the wait.

Sentinel `total`: `connect_timeout` treats a `total` given *explicitly* as the sentinel as "no
total", like `read_timeout`; the statements below hold for every `total`
(`C19_sentinel_total_ok`, `connectTimeout_ok`).
-/
namespace U3.Props
open U3 U3.Timeout

/-- A `Timeout` is built iff every argument is the sentinel, `None` or a positive number; then it
stores exactly the arguments and its clock is unstarted; otherwise (zero, negative, boolean,
non-number in any slot) the constructor raises `ValueError`. -/
theorem C19_validation (total connect read : Arg) :
    (total.Valid ∧ connect.Valid ∧ read.Valid →
      ∃ t, mk total connect read = .ok t ∧ t.start = none ∧ t.total.toArg = total ∧
        t.connect.toArg = connect ∧ t.read.toArg = read ∧ t.WF) ∧
    (¬ (total.Valid ∧ connect.Valid ∧ read.Valid) → mk total connect read = .error .valueError) :=
  ⟨fun h => mk_ok total connect read h.1 h.2.1 h.2.2, mk_err total connect read⟩

theorem C19_validation_kinds (q : Int) (b : Bool) :
    (q ≤ 0 → ¬ (Arg.num q).Valid) ∧ ¬ (Arg.bool b).Valid ∧ ¬ Arg.nonNumber.Valid ∧
    (0 < q → (Arg.num q).Valid) ∧ Arg.none.Valid ∧ Arg.unset.Valid := by
  simp [Arg.Valid]

/-- A legacy number given at request level is validated when the request builds its `Timeout`:
an invalid one ends the request with `ValueError` before anything reaches a connection. -/
theorem C19_validation_at_request (gdt : TV) (P : Timeout) (a : Arg) (conn : ConnSt)
    (now cdur sdur : Int) (cl : Bool) (h : ¬ a.Valid) :
    (urlopen gdt P (.num a) conn now cdur sdur cl).out = .exc .valueError ∧
    (urlopen gdt P (.num a) conn now cdur sdur cl).evs = [] ∧
    (makeRequest gdt P (.num a) conn now cdur sdur cl).out = .exc .valueError ∧
    (makeRequest gdt P (.num a) conn now cdur sdur cl).evs = [] := by
  have he : getTimeout P (.num a) = .error .valueError := by
    simp only [getTimeout, fromFloat]
    exact mk_err _ _ _ (fun hv => h hv.2.1)
  simp [urlopen, makeRequest, he]

example : ¬ (Arg.num 0).Valid ∧ ¬ (Arg.num (-512)).Valid ∧ ¬ (Arg.bool true).Valid := by
  simp [Arg.Valid]
example : mk .none (.num 2048) (.bool true) = .error .valueError := by rfl
example : (mk (.num 10240) (.num 2048) .unset).toOption.map (·.connect) = some (.val 2048) := by rfl

/-- `connect_timeout` (after `resolve_default_timeout`) is min(connect, total). -/
theorem C19_connect_eq_min (gdt : TV) (t : Timeout) :
    ∃ v, connectTimeout t = .ok v ∧
      resolveDefault gdt v =
        (match optMin t.connect.fin t.total.fin with
         | some m => .val m
         | none => resolveDefault gdt t.connect) :=
  connectTimeout_spec gdt t

example : connectTimeout ⟨.val 2048, .none, .val 512, none⟩ = .ok (.val 512) := by rfl
example : connectTimeout ⟨.unset, .none, .val 512, none⟩ = .ok (.val 512) := by rfl
example : resolveDefault (.val 3072) <$> connectTimeout ⟨.unset, .none, .none, none⟩ = .ok (.val 3072) := by rfl
example : connectTimeout ⟨.val 2048, .none, .unset, none⟩ = .ok (.val 2048) := by rfl
example : resolveDefault (.val 3072) <$> connectTimeout ⟨.none, .none, .unset, none⟩ = .ok .none := by rfl

/-- an explicit sentinel as `total` with a numeric `connect` is accepted by the constructor, and
`connect_timeout` is that `connect` — the sentinel configures no total -/
theorem C19_sentinel_total_ok (c : Int) (hc : 0 < c) (read : Arg) (hr : read.Valid) :
    ∃ t, mk .unset (.num c) read = .ok t ∧ connectTimeout t = .ok (.val c) := by
  obtain ⟨t, h1, _, h3, h4, _, _⟩ := mk_ok .unset (.num c) read trivial hc hr
  refine ⟨t, h1, ?_⟩
  obtain ⟨cc, r, T, s⟩ := t
  cases T <;> cases cc <;> simp_all [TV.toArg, connectTimeout]

/-- `Timeout(total=DEFAULT_TIMEOUT, connect=0.5)` on the pool, default request: the request
succeeds, connects under 0.5 s and awaits the response under the system default -/
example :
    (mk .unset (.num 512) .unset).toOption.map
      (fun P => ((urlopen .none P .dflt .noConn 102400 0 0 false).out,
                 wire (urlopen .none P .dflt .noConn 102400 0 0 false).evs))
      = some (.ok, [.connect (.val 512), .sockSet .none]) := by
  decide

/-- `read_timeout` of a clock started at `s`, read at `now`, is
min(read, max(0, total − (now − s))) — for every `now`, also one before `s`. -/
theorem C19_read_eq_min_remaining (gdt : TV) (t : Timeout) (hw : t.WF) (s now : Int)
    (hs : t.start = some s) :
    readTimeout gdt t now = .ok
      (match optMin t.read.fin (t.total.fin.map fun T => max 0 (T - (now - s))) with
       | some m => .val m
       | none => resolveDefault gdt t.read) :=
  readTimeout_spec gdt t hw s now hs

example : readTimeout .none ⟨.none, .val 5120, .val 2048, some 100⟩ 356 = .ok (.val 1792) := by rfl
example : readTimeout .none ⟨.none, .val 512, .val 2048, some 100⟩ 356 = .ok (.val 512) := by rfl
example : readTimeout .none ⟨.none, .unset, .val 2048, some 100⟩ 9000 = .ok (.val 0) := by rfl
example : readTimeout (.val 3072) ⟨.val 512, .val 5120, .unset, some 100⟩ 9000 = .ok (.val 5120) := by rfl
example : (⟨.none, .val 5120, .val 2048, some 100⟩ : Timeout).WF := by simp [Timeout.WF, TV.WF]

/-- What one request puts on the wire (`urlopen`, any connection state, any durations): exactly one
connect-phase value — `create_connection`'s timeout on a new socket, `settimeout` before sending on
a re-used one — equal to min(connect, total), then either `ReadTimeoutError` with nothing further
(the remaining budget is 0) or exactly one `settimeout(min(read, total − elapsed))` before the
response is awaited.  `t` is the Timeout that governs the request (the pool's own
`connect_timeout`, only consulted to construct a connection object, never reaches the wire). -/
theorem C19_request_wire (gdt : TV) (P : Timeout) (arg : TArg) (conn : ConnSt) (now cdur sdur : Int)
    (cl : Bool) (t : Timeout) (hg : getTimeout P arg = .ok t) :
    ∀ r, r = urlopen gdt P arg conn now cdur sdur cl →
    ∀ rt, rt = readSpec gdt t (elapsed conn cdur sdur) →
    (rt = .val 0 → r.out = .exc .readTimeoutError ∧ wire r.evs = [firstEv conn (connectSpec gdt t)]) ∧
    (rt ≠ .val 0 → r.out = .ok ∧ wire r.evs = [firstEv conn (connectSpec gdt t), .sockSet rt]) := by
  intro r hr rt hrt
  subst hr hrt
  obtain ⟨hwire, hout, -⟩ := urlopen_wire gdt P arg conn now cdur sdur cl hg
  rw [hwire, hout]
  constructor <;> intro hz <;> simp [hz]

example :
    let P : Timeout := ⟨.val 2048, .val 5120, .val 10240, none⟩
    (urlopen .none P .dflt .noConn 1000 1024 0 false).out = .ok ∧
    wire (urlopen .none P .dflt .noConn 1000 1024 0 false).evs = [.connect (.val 2048), .sockSet (.val 5120)] := by
  decide

/-- Never negative: whatever a request passes to `create_connection` or to `settimeout` is `None` or
a number ≥ 0, never the sentinel (given a non-negative system default), for all — also negative —
durations.  Assignments to `conn.timeout` are not `wire` events: `urlopen` assigns the unresolved
`connect_timeout`, which may be the sentinel. -/
theorem C19_nonneg (gdt : TV) (hgd : gdt.nonneg) (hgu : gdt ≠ .unset) (P : Timeout) (arg : TArg) (conn : ConnSt)
    (now cdur sdur : Int) (cl : Bool) (t : Timeout) (hg : getTimeout P arg = .ok t) :
    ∀ e ∈ wire (urlopen gdt P arg conn now cdur sdur cl).evs, e.value.nonneg ∧ e.value ≠ .unset := by
  have hw := (getTimeout_unstarted hg).2
  obtain ⟨-, -, hcn, hcu⟩ := connectSpec_facts gdt t hw
  obtain ⟨-, hrn, hru, -⟩ := readSpec_facts gdt t hw (elapsed conn cdur sdur)
  rw [(urlopen_wire gdt P arg conn now cdur sdur cl hg).1]
  intro e he
  rcases List.mem_cons.1 he with rfl | he
  · rw [firstEv_value]
    exact ⟨hcn hgd, hcu hgu⟩
  · split at he
    · cases he
    · obtain rfl := List.mem_singleton.1 he
      exact ⟨hrn hgd, hru hgu⟩

/-- Never looser than configured (function level): the connect value respects `connect` and
`total`; the read value of a started clock respects `read` and `total` whenever the clock has not
run backwards. -/
theorem C19_never_looser (gdt : TV) (t : Timeout) (hw : t.WF)
    (s now : Int) (hs : t.start = some s) (hn : s ≤ now) :
    (∃ v, connectTimeout t = .ok v ∧ (resolveDefault gdt v).le t.connect ∧ (resolveDefault gdt v).le t.total) ∧
    (∃ v, readTimeout gdt t now = .ok v ∧ v.le t.read ∧ v.le t.total) := by
  obtain ⟨v, hv, hsp⟩ := connectTimeout_spec gdt t
  refine ⟨⟨v, hv, ?_⟩, ⟨_, readTimeout_spec gdt t hw s now hs, (readSpec_facts gdt t hw (now - s)).1 (by omega)⟩⟩
  rw [hsp]
  exact ⟨(connectSpec_facts gdt t hw).1, (connectSpec_facts gdt t hw).2.1⟩

example : (TV.val 1792).le (.val 5120) ∧ (TV.val 1792).le (.val 2048) ∧ ¬ (TV.none).le (.val 5) ∧
    ¬ (TV.val 6).le (.val 5) ∧ (TV.none).le .none := by
  simp [TV.le]

/-- Never looser than configured (request level): for non-negative durations every value a request
puts on the wire respects `total`; the connect-phase value also respects `connect`; the value
under which the response is awaited also respects `read`. -/
theorem C19_never_looser_request (gdt : TV) (P : Timeout) (arg : TArg) (conn : ConnSt)
    (now cdur sdur : Int) (cl : Bool) (hcd : 0 ≤ cdur) (hsd : 0 ≤ sdur)
    (t : Timeout) (hg : getTimeout P arg = .ok t) :
    ∀ r, r = urlopen gdt P arg conn now cdur sdur cl →
    (∀ e ∈ wire r.evs, e.value.le t.total) ∧
    (∀ e, (wire r.evs)[0]? = some e → e.value.le t.connect) ∧
    (r.out = .ok → ∀ e, (wire r.evs)[1]? = some e → e.value.le t.read) := by
  have hw := (getTimeout_unstarted hg).2
  have hc := connectSpec_facts gdt t hw
  have hr := (readSpec_facts gdt t hw (elapsed conn cdur sdur)).1 (elapsed_nonneg conn cdur sdur hcd hsd)
  intro r hr'
  subst hr'
  rw [(urlopen_wire gdt P arg conn now cdur sdur cl hg).1]
  refine ⟨?_, ?_, ?_⟩
  · intro e he
    rcases List.mem_cons.1 he with rfl | he
    · rw [firstEv_value]
      exact hc.2.1
    · split at he
      · cases he
      · obtain rfl := List.mem_singleton.1 he
        exact hr.2
  · intro e he
    obtain rfl : firstEv conn (connectSpec gdt t) = e := by simpa using he
    rw [firstEv_value]
    exact hc.1
  · intro _ e he
    split at he
    · cases he
    · obtain rfl : Ev.sockSet (readSpec gdt t (elapsed conn cdur sdur)) = e := by simpa using he
      exact hr.1

/-- A remaining read budget of zero raises `ReadTimeoutError` without touching the socket again —
and only then: with `total = T` the request is refused iff `T ≤ elapsed`; without a total never. -/
theorem C19_zero_raises (gdt : TV) (hgd : gdt ≠ .val 0) (P : Timeout) (arg : TArg) (conn : ConnSt)
    (now cdur sdur : Int) (cl : Bool) (t : Timeout) (hg : getTimeout P arg = .ok t) :
    ∀ r, r = urlopen gdt P arg conn now cdur sdur cl →
    ((∃ T, t.total = .val T ∧ T ≤ elapsed conn cdur sdur) →
        r.out = .exc .readTimeoutError ∧ (wire r.evs).length = 1 ∧ r.conn = .noConn) ∧
    (¬ (∃ T, t.total = .val T ∧ T ≤ elapsed conn cdur sdur) → r.out = .ok ∧ (wire r.evs).length = 2) := by
  have hz := (readSpec_facts gdt t (getTimeout_unstarted hg).2 (elapsed conn cdur sdur)).2.2.2 hgd
  obtain ⟨hwire, hout, hconn⟩ := urlopen_wire gdt P arg conn now cdur sdur cl hg
  intro r hr
  subst hr
  rw [hwire, hout]
  constructor
  · intro hT
    have h0 := hz.2 hT
    simp [h0, hconn h0]
  · intro hT
    have h0 : readSpec gdt t (elapsed conn cdur sdur) ≠ .val 0 := fun e => hT (hz.1 e)
    simp [h0]

example :
    let P : Timeout := ⟨.val 2048, .val 5120, .val 10240, none⟩
    (urlopen .none P .dflt .noConn 7 20480 0 false).out = .exc .readTimeoutError ∧
    wire (urlopen .none P .dflt .noConn 7 20480 0 false).evs = [.connect (.val 2048)] := by
  decide

/-- Which Timeout governs a request (the `t` of the request-level theorems): without a request-level
value the pool's configuration, with a `Timeout` object exactly that object's configuration, with a
legacy number `a` the configuration `Timeout(connect=a, read=a)` — in every case with a fresh,
unstarted clock. -/
theorem C19_governing_timeout (P u : Timeout) (a : Arg) :
    (P.WF → getTimeout P .dflt = .ok { P with start := none }) ∧
    (u.WF → getTimeout P (.tobj u) = .ok { u with start := none }) ∧
    (a.Valid → ∃ v, validateTimeout a = .ok v ∧ v.toArg = a ∧
        getTimeout P (.num a) = .ok ⟨v, v, .none, none⟩) := by
  refine ⟨fun h => clone_ok P h, fun h => clone_ok u h, fun h => ?_⟩
  obtain ⟨v, hv, hva, _⟩ := validate_ok a h
  have hn : validateTimeout .none = .ok .none := rfl
  exact ⟨v, hv, hva, by simp only [getTimeout, fromFloat, mk, hv, hn]⟩

example : (⟨.val 2048, .val 5120, .val 10240, some 77⟩ : Timeout).WF := by simp [Timeout.WF, TV.WF]

/-- With a request-level timeout (a `Timeout` object or a legacy number) the outcome, the wire
events, the clock and the connection state do not depend on the pool's Timeout at all (which is
only consulted for the constructor argument of a new connection object, overwritten before use). -/
theorem C19_request_overrides_pool (gdt : TV) (P₁ P₂ : Timeout) (arg : TArg) (harg : arg ≠ .dflt)
    (conn : ConnSt) (now cdur sdur : Int) (cl : Bool) :
    ∀ r₁ r₂, r₁ = urlopen gdt P₁ arg conn now cdur sdur cl → r₂ = urlopen gdt P₂ arg conn now cdur sdur cl →
    r₁.out = r₂.out ∧ wire r₁.evs = wire r₂.evs ∧ r₁.now = r₂.now ∧ r₁.conn = r₂.conn ∧
    (conn ≠ .noConn → r₁ = r₂) := by
  have hgt : getTimeout P₁ arg = getTimeout P₂ arg := by
    cases arg <;> simp_all [getTimeout]
  intro r₁ r₂ e1 e2
  subst e1 e2
  cases hg : getTimeout P₁ arg with
  | error e => simp [urlopen, ← hgt, hg]
  | ok t =>
    -- the two runs differ at most in the constructor argument of a new connection object
    obtain ⟨hw₁, ho₁, -⟩ := urlopen_wire gdt P₁ arg conn now cdur sdur cl hg
    obtain ⟨hw₂, ho₂, -⟩ := urlopen_wire gdt P₂ arg conn now cdur sdur cl (hgt ▸ hg)
    rw [hw₁, hw₂, ho₁, ho₂, urlopen_form gdt P₁ arg conn now cdur sdur cl hg,
      urlopen_form gdt P₂ arg conn now cdur sdur cl (hgt ▸ hg)]
    exact ⟨rfl, rfl, rfl, rfl, fun hn => by simp [newConnEvs, hn]⟩

example :
    let P₁ : Timeout := ⟨.val 7168, .val 7168, .val 7168, none⟩
    let P₂ : Timeout := ⟨.none, .none, .none, none⟩
    let t : Timeout := ⟨.val 512, .val 2048, .none, none⟩
    wire (urlopen .none P₁ (.tobj t) .noConn 0 256 0 false).evs = [.connect (.val 512), .sockSet (.val 2048)] ∧
    wire (urlopen .none P₂ (.tobj t) .noConn 0 256 0 false).evs = [.connect (.val 512), .sockSet (.val 2048)] ∧
    wire (urlopen .none P₁ .dflt .noConn 0 256 0 false).evs = [.connect (.val 7168), .sockSet (.val 6912)] := by
  decide

/-- (a) a clone is unstarted, whatever the state of the original; (b) the Timeout a request works
with is unstarted and well-formed even if the pool's or the caller's object had been started;
(c) a request changes neither the pool's Timeout nor any Timeout object held by the caller — over
any sequence of operations the pool's own clock stays unstarted and a caller's object is started
only by the caller; (d) the absolute clock value at which a request begins (hence everything that
happened in earlier requests and between requests) has no influence on what the request applies
or how it ends. -/
theorem C19_clock_isolation :
    (∀ t t', clone t = .ok t' → t'.start = none) ∧
    (∀ P arg t, getTimeout P arg = .ok t → t.start = none ∧ t.WF) ∧
    (∀ (p : Pool) u a cd sd cl, (step p (.req u a cd sd cl)).1.timeout = p.timeout ∧
        (step p (.req u a cd sd cl)).1.objs = p.objs) ∧
    (∀ (p : Pool) (ops : List Op), p.timeout.start = none → (run p ops).timeout.start = none) ∧
    (∀ gdt P arg conn now now' cd sd cl,
        (urlopen gdt P arg conn now cd sd cl).evs = (urlopen gdt P arg conn now' cd sd cl).evs ∧
        (urlopen gdt P arg conn now cd sd cl).out = (urlopen gdt P arg conn now' cd sd cl).out ∧
        (urlopen gdt P arg conn now cd sd cl).conn = (urlopen gdt P arg conn now' cd sd cl).conn ∧
        (urlopen gdt P arg conn now cd sd cl).now - now = (urlopen gdt P arg conn now' cd sd cl).now - now') := by
  refine ⟨fun t t' h => (mk_wf h).1, fun P arg t h => getTimeout_unstarted h, ?_, ?_, ?_⟩
  · intro p u a cd sd cl
    simp only [step]
    split <;> simp
  · intro p ops
    induction ops generalizing p with
    | nil => exact id
    | cons o ops ih => exact fun h => ih _ (step_timeout_start p o h)
  · intro gdt P arg conn now now' cd sd cl
    exact urlopen_shift gdt P arg conn now now' cd sd cl

example :
    let p := run init [.pool (.num 10240) .unset .unset, .req true .dflt 5120 0 false, .adv 102400,
                       .req true .dflt 0 0 false]
    p.timeout.start = none ∧ p.conn = .alive ∧
    (step p (.req true .dflt 0 0 false)).2 =
      .res [.setConn (.val 10240), .setConn (.val 10240), .sockSet (.val 10240), .setConn (.val 10240),
            .sockSet (.val 10240)] .ok := by
  decide

end U3.Props
