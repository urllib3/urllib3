import U3.Lemmas.Headers
/-!
# C16 — HTTPHeaderDict behaves as a case-insensitive, order-preserving multimap

Model: `U3.Headers.step` (the grouped `_container` representation, every public mutator).
Reference: `U3.Headers.specStep` on flat `(name, value)` line lists ("assignment replaces, add
appends, names compare case-insensitively").  Abstraction: `iteritems`.
-/
namespace U3.Props
open U3 U3.Headers

def StoreInv (st : Store) : Prop := ∀ h ∈ st, Inv h
def absS (st : Store) : List Flat := st.map iteritems
def run (ops : List Op) : Store := ops.foldl (fun st op => (step st op).1) []
def specRun (ops : List Op) : List Flat := ops.foldl (fun st op => (specStep st op).1) []

/-- the outcome `r` of a step of the class against the outcome `s` of the reference step: the
invariant holds again, the stores correspond, the returned values are equal -/
private def Sim (r : Store × Out) (s : List Flat × Out) : Prop :=
  StoreInv r.1 ∧ absS r.1 = s.1 ∧ r.2 = s.2

private theorem sim_same {st : Store} (hs : StoreInv st) (o : Out) : Sim (st, o) (absS st, o) :=
  ⟨hs, rfl, rfl⟩

private theorem sim_put {st : Store} {i : Nat} {h : HD} {f : Flat} (hs : StoreInv st) (hr : Rep h f)
    (o : Out) : Sim (st.put i h, o) ((absS st).set i f, o) := by
  obtain ⟨hi, rfl⟩ := hr
  refine ⟨fun x hx => ?_, by simp [absS, Store.put, List.map_set], rfl⟩
  rcases List.mem_or_eq_of_mem_set hx with h1 | rfl
  · exact hs x h1
  · exact hi

private theorem sim_push {st : Store} {h : HD} {f : Flat} (hs : StoreInv st) (hr : Rep h f) :
    Sim (st ++ [h], .handle st.length) (absS st ++ [f], .handle (absS st).length) := by
  obtain ⟨hi, rfl⟩ := hr
  refine ⟨fun x hx => ?_, by simp [absS], by simp [absS]⟩
  rcases List.mem_append.mp hx with h1 | h1
  · exact hs x h1
  · exact List.mem_singleton.mp h1 ▸ hi

private theorem abs_get (st : Store) (i : Nat) : (absS st)[i]? = (st.get i).map iteritems := by
  simp [absS, Store.get]

private theorem rep_get {st : Store} {i : Nat} {h : HD} (hs : StoreInv st) (hg : st.get i = some h) :
    Rep h (iteritems h) := ⟨hs h (List.mem_of_getElem? hg), rfl⟩

private theorem lines_refines (st : Store) (s : Src) : specLinesOf (absS st) s = srcLines st s := by
  cases s with
  | hd i => exact abs_get st i
  | pairs ps => rfl

private theorem merged_refines {st : Store} {s : Src} (hs : StoreInv st) :
    specMergedOf (absS st) s = srcMerged st s := by
  cases s with
  | hd i =>
    simp only [specMergedOf, srcMerged, abs_get, Option.map_map]
    cases hg : st.get i with
    | none => rfl
    | some h => simp [itermerged_refines h (rep_get hs hg).1]
  | pairs ps => rfl

/-- `HTTPHeaderDict(src)` on both sides -/
private theorem construct_rep {st : Store} {s : Src} (hs : StoreInv st) :
    specConstruct (absS st) s = (construct st s).map iteritems ∧ ∀ h, construct st s = some h → Inv h := by
  cases s with
  | hd i =>
    simp only [specConstruct, construct, abs_get]
    cases hg : st.get i with
    | none => simp
    | some h => simp [copy_eq h (rep_get hs hg).1, (rep_get hs hg).1]
  | pairs ps =>
    have := extend_rep ps ⟨inv_nil, rfl⟩
    simp [specConstruct, construct, this.1, this.2]

/-- An operation that fetches handle `i` and acts on what it finds is simulated when the action is.
The two `match`es are written as in `step` and `specStep`, so that the lemma applies to their
branches as they stand. -/
private theorem sim_get {st : Store} {A : HD → Store × Out} {B : Flat → List Flat × Out}
    (hs : StoreInv st) (i : Nat) (hAB : ∀ h, Rep h (iteritems h) → Sim (A h) (B (iteritems h))) :
    Sim (match st.get i with | some h => A h | none => (st, .badHandle))
      (match (absS st)[i]? with | some f => B f | none => (absS st, .badHandle)) := by
  rw [abs_get]
  cases hg : st.get i with
  | none => exact sim_same hs _
  | some h => exact hAB h (rep_get hs hg)

/-- the same for an operation that also reads the pairs `x` of a source -/
private theorem sim_get2 {st : Store} {A : HD → Flat → Store × Out} {B : Flat → Flat → List Flat × Out}
    (hs : StoreInv st) (i : Nat) (x : Option Flat)
    (hAB : ∀ h ps, Rep h (iteritems h) → Sim (A h ps) (B (iteritems h) ps)) :
    Sim (match st.get i, x with | some h, some ps => A h ps | _, _ => (st, .badHandle))
      (match (absS st)[i]?, x with | some f, some ps => B f ps | _, _ => (absS st, .badHandle)) := by
  rw [abs_get]
  cases hg : st.get i with
  | none => exact sim_same hs _
  | some h =>
    cases x with
    | none => exact sim_same hs _
    | some ps => exact hAB h ps (rep_get hs hg)

private theorem step_sim (st : Store) (op : Op) (hs : StoreInv st) :
    Sim (step st op) (specStep (absS st) op) := by
  cases op with
  | new => exact sim_push hs ⟨inv_nil, rfl⟩
  | ctor s =>
    simp only [step, specStep, (construct_rep hs).1]
    cases hc : construct st s with
    | none => exact sim_same hs _
    | some h => exact sim_push hs ⟨(construct_rep hs).2 h hc, rfl⟩
  | set i k v => exact sim_get hs i fun h hr => sim_put hs (setItem_rep k v hr) _
  | del i k =>
    refine sim_get hs i fun h hr => ?_
    simp only [delItem_eq, specDel, ← hasKey_refines h k hr.1]
    cases hasKey h k with
    | false => exact sim_same hs _
    | true => exact sim_put hs (discard_rep k hr) _
  | add i k v c => exact sim_get hs i fun h hr => sim_put hs (add_rep k v c hr) _
  | extend i s =>
    simp only [step, specStep, lines_refines]
    exact sim_get2 hs i _ fun h ps hr => sim_put hs (extend_rep ps hr) _
  | update i s =>
    simp only [step, specStep, merged_refines hs]
    exact sim_get2 hs i _ fun h ps hr => sim_put hs (update_rep ps hr) _
  | setdefault i k v =>
    refine sim_get hs i fun h hr => ?_
    simp only [setdefault, ← getItem_refines h k hr.1]
    cases getItem h k with
    | none => exact sim_put hs (setItem_rep k v hr) _
    | some x => exact sim_put hs hr _
  | pop i k d =>
    refine sim_get hs i fun h hr => ?_
    simp only [pop_eq, specPop_eq, ← hasKey_refines h k hr.1, ← getlist_refines h k hr.1]
    cases hasKey h k with
    | false => cases d <;> exact sim_same hs _
    | true => exact sim_put hs (discard_rep k hr) _
  | popitem i =>
    refine sim_get hs i fun h hr => ?_
    cases h with
    | nil => exact sim_same hs _
    | cons e t =>
      obtain ⟨v0, rest, hh⟩ := iteritems_head e t hr.1
      simp only [popitem, hh]
      simp only [← hh, pop_eq, specPop_eq, ← hasKey_refines _ e.name hr.1, ← getlist_refines _ e.name hr.1]
      cases hasKey (e :: t) e.name with
      | false => exact sim_same hs _
      | true => exact sim_put hs (discard_rep e.name hr) _
  | discard i k => exact sim_get hs i fun h hr => sim_put hs (discard_rep k hr) _
  | clear i => exact sim_get hs i fun h hr => sim_put hs ⟨inv_nil, rfl⟩ _
  | copy i => exact sim_get hs i fun h hr => sim_push hs (copy_rep hr)
  | or i s =>
    simp only [step, specStep, lines_refines]
    exact sim_get2 hs i _ fun h ps hr => sim_push hs (extend_rep ps (copy_rep hr))
  | ior i s =>
    simp only [step, specStep, lines_refines]
    exact sim_get2 hs i _ fun h ps hr => sim_put hs (extend_rep ps hr) _
  | ror i s =>
    simp only [step, specStep, abs_get, (construct_rep hs).1]
    cases hg : st.get i with
    | none => exact sim_same hs _
    | some h =>
      cases hc : construct st s with
      | none => exact sim_same hs _
      | some r => exact sim_push hs (extend_rep (iteritems h) ⟨(construct_rep hs).2 r hc, rfl⟩)
  | pmc i => exact sim_get hs i fun h hr => sim_put hs (pmc_rep hr) _

/-- **Invariant, one step**: keys pairwise distinct, `key = lower name`, no empty value list. -/
theorem C16_inv_step (st : Store) (op : Op) (hs : StoreInv st) : StoreInv (step st op).1 :=
  (step_sim st op hs).1

/-- **Refinement, one step**: through `iteritems`, every operation of the class is the
corresponding operation of the flat reference multimap, with the same result value. -/
theorem C16_refines (st : Store) (op : Op) (hs : StoreInv st) :
    absS (step st op).1 = (specStep (absS st) op).1 ∧ (step st op).2 = (specStep (absS st) op).2 :=
  (step_sim st op hs).2

private theorem run_sim (ops : List Op) (st : Store) (hs : StoreInv st) :
    StoreInv (ops.foldl (fun st op => (step st op).1) st) ∧
      absS (ops.foldl (fun st op => (step st op).1) st) =
        ops.foldl (fun st op => (specStep st op).1) (absS st) := by
  induction ops generalizing st with
  | nil => exact ⟨hs, rfl⟩
  | cons op t ih =>
    obtain ⟨h1, h2, _⟩ := step_sim st op hs
    simp only [List.foldl_cons, ← h2]
    exact ih _ h1

/-- **Invariant, every reachable state** (any operation sequence, any number of handles). -/
theorem C16_inv (ops : List Op) : StoreInv (run ops) :=
  (run_sim ops [] (fun _ hh => nomatch hh)).1

/-- **Refinement, every operation sequence**: the flat view of the state reached by the class
equals the state reached by the reference multimap, whatever the sequence (copies and unions
mutated afterwards included — handles are separate values in both machines). -/
theorem C16_refines_run (ops : List Op) : absS (run ops) = specRun ops :=
  (run_sim ops [] (fun _ hh => nomatch hh)).2

/-! ### Observations are functions of the flat view alone -/

theorem C16_obs_getlist (h : HD) (k : Str) (hi : Inv h) : getlist h k = specGetlist (iteritems h) k :=
  getlist_refines h k hi

theorem C16_obs_getitem (h : HD) (k : Str) (hi : Inv h) : getItem h k = specGet (iteritems h) k :=
  getItem_refines h k hi

theorem C16_obs_contains (h : HD) (k : Str) (hi : Inv h) : hasKey h k = fHas (iteritems h) k :=
  hasKey_refines h k hi

theorem C16_obs_itermerged (h : HD) (hi : Inv h) : itermerged h = specMerged (iteritems h) :=
  itermerged_refines h hi

theorem C16_obs_iter_len (h : HD) (hi : Inv h) :
    iterKeys h = specNames (iteritems h) ∧ h.length = (specNames (iteritems h)).length := by
  rw [← iterKeys_refines h hi]
  exact ⟨rfl, by simp [iterKeys]⟩

/-- lookups do not depend on the casing of the queried name -/
theorem C16_case_insensitive (h : HD) (k k' : Str) (hk : lower k = lower k') :
    getlist h k = getlist h k' ∧ getItem h k = getItem h k' ∧ hasKey h k = hasKey h k' := by
  simp [getlist, getItem, hasKey, hk]

/-! ### Frame: an operation on name `k` leaves every line of another name in place and in order -/

theorem C16_frame_add (f : Flat) (k v : Str) (c : Bool) :
    (if c then specAddC f k v else specAdd f k v).filter (other k) = f.filter (other k) := by
  show (specAddIf c f k v).filter _ = _
  induction f with
  | nil => cases c <;> simp [specAddIf, specAdd, specAddC, other]
  | cons p t ih =>
    by_cases h : lower p.1 = lower k → fHas t k = true
    · rw [specAddIf_cons c p t k v h, List.filter_cons, List.filter_cons, ih]
    · obtain ⟨hp, ht⟩ := Classical.not_imp.mp h
      cases c <;> simp [specAddIf, specAdd, specAddC, hp, ht, other]

theorem C16_frame_set (f : Flat) (k v : Str) : (specSet f k v).filter (other k) = f.filter (other k) := by
  have ho : other k = fun q => !(lower q.1 == lower k) := rfl
  induction f with
  | nil => simp [specSet, ho]
  | cons p t ih =>
    by_cases hp : lower p.1 = lower k
    · simp [specSet, hp, ho, List.filter_filter]
    · simp [specSet, hp, List.filter_cons, ih]

theorem C16_frame_discard (f : Flat) (k : Str) : (specDiscard f k).filter (other k) = f.filter (other k) := by
  simp [specDiscard]

/-- add appends exactly one value to the name's own lines; assignment leaves exactly the new one -/
theorem C16_add_appends (f : Flat) (k v : Str) : specGetlist (specAdd f k v) k = specGetlist f k ++ [v] :=
  (specGetlist_specAdd f k v k).trans (if_pos rfl)

theorem C16_set_replaces (f : Flat) (k v : Str) : specGetlist (specSet f k v) k = [v] := by
  induction f with
  | nil => simp [specSet, specGetlist]
  | cons p t ih =>
    by_cases hp : lower p.1 = lower k
    · -- the new line stays, every other line of the name has been filtered away
      rw [specSet, if_pos hp, specGetlist_cons, if_pos rfl, specGetlist,
        List.filter_filter, List.filter_eq_nil_iff.mpr, List.map_nil]
      simp
    · rw [specSet, if_neg hp, specGetlist_cons, if_neg hp, ih]

/-- an in-place `add`, assignment or `discard` on handle `i` leaves every other handle untouched
(independence of copies and unions in the model; the aliasing half is carried by the correspondence
run on multi-handle sequences) -/
theorem C16_copy_independent (st : Store) (i j : Nat) (k v : Str) (c : Bool) (hj : j ≠ i) :
    (step st (.add i k v c)).1[j]? = st[j]? ∧ (step st (.set i k v)).1[j]? = st[j]? ∧
    (step st (.discard i k)).1[j]? = st[j]? := by
  refine ⟨?_, ?_, ?_⟩ <;>
  · simp only [step]
    split
    · exact List.getElem?_set_ne hj.symm
    · rfl

private def ex : List Op :=
  [.new, .add 0 (lit "Set-Cookie") (lit "a") false, .add 0 (lit "set-cookie") (lit "b") false,
   .set 0 (lit "A") (lit "1"), .add 0 (lit "a") (lit "2") true, .copy 0, .del 1 (lit "SET-COOKIE"),
   .update 1 (.hd 0)]

example : absS (run ex) =
    [[(lit "Set-Cookie", lit "a"), (lit "Set-Cookie", lit "b"), (lit "A", lit "1, 2")],
     [(lit "A", lit "1, 2"), (lit "Set-Cookie", lit "a, b")]] := by decide +kernel

example : StoreInv (run ex) := C16_inv ex

end U3.Props
