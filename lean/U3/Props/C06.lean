import U3.Lemmas.ManagerHdrs
/-!
# C06 — credentials are never forwarded to a different origin on redirect

Model: `U3.Manager` (shared with C05).  The theorems hold for every world `W` (arbitrary servers /
redirect graphs, arbitrary `parse_url` / `urljoin` oracles), every amount of fuel and every request;
they go by induction over the model's redirect loop (`U3.Lemmas.Manager`, `…ManagerHdrs`,
`…ManagerOrigin`).  Header carriers are plain dicts (any keys, case-duplicates included) or
`HTTPHeaderDict`s satisfying their representation invariant (`CarriersWF`; C16 proves every operation
preserves it).
-/
namespace U3.Props
open U3 U3.Headers U3.Retry U3.Manager

/-- the default strip set contains the three credential headers (lower-cased) -/
theorem C06_default_set :
    ∀ h ∈ [[97, 117, 116, 104, 111, 114, 105, 122, 97, 116, 105, 111, 110], [99, 111, 111, 107, 105, 101],
           [112, 114, 111, 120, 121, 45, 97, 117, 116, 104, 111, 114, 105, 122, 97, 116, 105, 111, 110]],
      h ∈ Gen.Redirect.removeHeadersOnRedirectDefault.map lower := by
  decide +kernel

/-- the default ports `is_same_host` fills in are the ones of `http` and `https` -/
theorem C06_default_ports : portOf sHttp = some 80 ∧ portOf sHttps = some 443 := ⟨portOf_http, portOf_https⟩

/-- `parse_url` of `scheme://host[:port]path` -/
def absUrl (scheme host : Str) (port : Option Nat) (netloc path : Str) : PUrl :=
  ⟨some scheme, some host, port, path, scheme ++ lit "://" ++ netloc ++ path, some netloc,
    scheme ++ lit "://" ++ netloc ++ path⟩
/-- `parse_url` of a path-only string -/
def pathUrl (path : Str) : PUrl := ⟨none, none, none, path, path, none, path⟩
/-- `parse_url` of `//host/path` -/
def relUrl (host path : Str) : PUrl := ⟨none, some host, none, path, lit "//" ++ host ++ path, some host, path⟩

def tableWorld (rules : List (Origin × Str × Reply)) (parses : List (Str × PUrl))
    (joins : List (Str × Str × Str)) : World where
  serve := fun o _ t => match rules.find? (fun r => r.1 == o && r.2.1 == t) with
    | some r => r.2.2
    | none => ⟨200, none⟩
  parse := fun s => (parses.find? (fun e => e.1 == s)).map (·.2)
  join := fun b l => (joins.find? (fun e => e.1 == b && e.2.1 == l)).map (·.2.2)

def hostA : Str := lit "a.example"
def hostB : Str := lit "b.example"
def urlA : Str := lit "http://a.example/x"
def urlB : Str := lit "http://b.example/y"
def sAuth : Str := lit "Authorization"
def sXSecret : Str := lit "X-Secret"

/-- `http://a.example/x` answers `302 Location: http://b.example/y` -/
def crossWorld : World :=
  tableWorld [(⟨sHttp, hostA, 80⟩, lit "/x", ⟨302, some urlB⟩)]
    [(urlA, absUrl sHttp hostA none hostA (lit "/x")), (urlB, absUrl sHttp hostB none hostB (lit "/y")),
     (lit "/x", pathUrl (lit "/x")), (lit "/y", pathUrl (lit "/y"))]
    [(urlA, urlB, urlB)]

/-- the code points of the names above; the examples rewrite with them before they evaluate, so that
these literals are decoded once, here, and not again by every example -/
theorem crossLits :
    hostA = [97, 46, 101, 120, 97, 109, 112, 108, 101] ∧ hostB = [98, 46, 101, 120, 97, 109, 112, 108, 101] ∧
    urlA = sHttp ++ [58, 47, 47] ++ hostA ++ [47, 120] ∧ urlB = sHttp ++ [58, 47, 47] ++ hostB ++ [47, 121] ∧
    sAuth = [65, 117, 116, 104, 111, 114, 105, 122, 97, 116, 105, 111, 110] ∧
    sXSecret = [88, 45, 83, 101, 99, 114, 101, 116] := by
  decide +kernel

def getReq (url : Str) (headers : Option Hdrs) (retries : Arg) : Req :=
  ⟨false, sGET, url, none, headers, retries, none, none⟩

/-- **`is_same_host` ⇔ same origin** — for every pool identity and every parsed URL (ports other than
the meaningless `0`): true iff the URL is path-only (starts with `/` but not with `//` — a scheme-relative
`//host/path` names a host and is compared like an absolute URL), or the scheme (`or "http"`), the
normalised (lower-cased, bracket-free) host and the effective port (own port, else the default of the
scheme from `port_by_scheme`) agree with the pool's -/
theorem C06_same_origin_iff (p : PoolId) (url : Str) (pu : PUrl)
    (hp : p.port ≠ some 0) (hu : pu.port ≠ some 0) :
    isSameHost p url pu = true ↔
      pathOnly url = true ∨
      (schemeOr pu = p.scheme ∧ pu.host.map (fun h => normalizeHost h (schemeOr pu)) = some p.host ∧
        effPort pu.port (schemeOr pu) = effPort p.port p.scheme) :=
  isSameHost_iff p url pu hp fun _ => hu

/-- explicit default port and letter case do not make another origin; another port does -/
example :
    isSameHost ⟨sHttp, hostA, none⟩ (lit "HTTP://A.Example:80/x")
      (absUrl sHttp (lit "A.Example") (some 80) (lit "A.Example:80") (lit "/x")) = true ∧
    isSameHost ⟨sHttp, hostA, some 80⟩ urlA (absUrl sHttp hostA none hostA (lit "/x")) = true ∧
    isSameHost ⟨sHttp, hostA, some 80⟩ (lit "http://a.example:8080/x")
      (absUrl sHttp hostA (some 8080) (lit "a.example:8080") (lit "/x")) = false ∧
    isSameHost ⟨sHttp, hostA, some 80⟩ (lit "https://a.example/x")
      (absUrl sHttps hostA none hostA (lit "/x")) = false ∧
    -- a bare path is the pool's own; a scheme-relative reference is judged by the host it names
    isSameHost ⟨sHttp, hostA, some 80⟩ (lit "/x") (pathUrl (lit "/x")) = true ∧
    isSameHost ⟨sHttp, hostA, some 80⟩ (lit "//a.example/x") (relUrl hostA (lit "/x")) = true ∧
    isSameHost ⟨sHttp, hostA, some 80⟩ (lit "//b.example/y") (relUrl hostB (lit "/y")) = false := by
  simp only [crossLits]
  decide +kernel

/-- **A single-host pool refuses a cross-host URL** — for a bare pool that asserts the host (the
default): (1) a URL of another host ends in `HostChangedError` with an *empty* wire log; (2) every
request of any run passed `is_same_host`; (3) without a proxy every request went to the pool's own
origin; (4) a redirect whose `Location` names another host is never followed by a request. -/
theorem C06_single_host_refuses (W : World) (p : Pool) (fuel : Nat) (req : Req)
    (hash : req.assertSameHost ≠ some false) :
    (∀ pu, W.parse req.url = some pu → isSameHost p.id req.url pu = false → fuel ≠ 0 →
      run W (.pool p) fuel req = ⟨[], .hostChanged⟩) ∧
    (∀ s ∈ (run W (.pool p) fuel req).log,
      ∃ pu, W.parse s.url = some pu ∧ isSameHost p.id s.url pu = true) ∧
    (p.proxy = none → ∀ s ∈ (run W (.pool p) fuel req).log, s.dest = p.id.origin ∧ s.dial = p.id.origin) ∧
    (∀ (i : Nat) (a : Sent) (loc : Str) (pu : PUrl), (run W (.pool p) fuel req).log[i]? = some a →
      a.reply.redirectLocation = some loc → W.parse loc = some pu → isSameHost p.id loc pu = false →
      (run W (.pool p) fuel req).log[i + 1]? = none) := by
  have hash' := getD_true_of_ne hash
  have hpass : ∀ s ∈ (run W (.pool p) fuel req).log, ∃ a, PoolPass W p (req.redirect.getD true) true a s := by
    have := (run_pool W p fuel req).pass_of_mem
    rwa [hash'] at this
  have h2 : ∀ s ∈ (run W (.pool p) fuel req).log,
      ∃ pu, W.parse s.url = some pu ∧ isSameHost p.id s.url pu = true := by
    intro s hs
    obtain ⟨a, _, pu, A⟩ := hpass s hs
    rw [A.url_eq]
    exact ⟨pu, A.parse, A.same rfl⟩
  refine ⟨?_, h2, ?_, ?_⟩
  · intro pu hpu hs hf
    obtain ⟨n, rfl⟩ := Nat.exists_eq_succ_of_ne_zero hf
    simp only [run, hash', poolUrlopen, poolStep, poolAttempt, hpu, hs, Bool.not_false, Bool.and_self,
      if_true]
  · intro hp s hs
    obtain ⟨a, _, _, A⟩ := hpass s hs
    exact ⟨(A.direct hp).1, (A.direct hp).2.1⟩
  · intro i a loc pu ha hloc hpu hsame
    cases hb : (run W (.pool p) fuel req).log[i + 1]? with
    | none => rfl
    | some b =>
      obtain ⟨_, _, _, hu⟩ := run_hops W (.pool p) fuel req i a b ha hb
      obtain ⟨pu', hpu', hs'⟩ := h2 b (List.mem_of_getElem? hb)
      cases Option.some.inj ((hloc.symm.trans hu.symm))
      cases hpu.symm.trans hpu'
      cases hsame.symm.trans hs'

/-- … and the run of an asserting pool whose last request was answered by a redirect to another
host ends in `HostChangedError` — unless the redirect budget ran out at that very reply
(`MaxRetryError`, or the 3xx itself when `raise_on_redirect` is off; C05) or the model's fuel did -/
theorem C06_single_host_refuses_redirect (W : World) (p : Pool) (fuel : Nat) (req : Req)
    (hash : req.assertSameHost ≠ some false) (hred : req.redirect ≠ some false)
    (pre : List Sent) (a : Sent) (loc : Str) (pu : PUrl)
    (hl : (run W (.pool p) fuel req).log = pre ++ [a])
    (hloc : a.reply.redirectLocation = some loc) (hpu : W.parse loc = some pu)
    (hsame : isSameHost p.id loc pu = false) :
    (run W (.pool p) fuel req).outcome = .hostChanged ∨ (run W (.pool p) fuel req).outcome = .outOfFuel ∨
    (run W (.pool p) fuel req).outcome = .maxRetry ∨ (run W (.pool p) fuel req).outcome = .response a.reply := by
  have h := run_pool W p fuel req
  rw [getD_true_of_ne hash, getD_true_of_ne hred] at h
  exact pool_refuses_redirect h (by rw [hl]; simp) hloc hpu hsame

/-- non-vacuity: a pool for `a.example` asked for `http://b.example/y` raises `HostChangedError` and
sends nothing; asked for `/x` it sends one request, gets the redirect to `b.example`, and refuses it -/
example :
    run crossWorld (.pool (Pool.ofCtor sHttp hostA none .none none)) 5 (getReq urlB none .none)
      = ⟨[], .hostChanged⟩ ∧
    (run crossWorld (.pool (Pool.ofCtor sHttp hostA none .none none)) 5 (getReq (lit "/x") none .none)).log.length = 1 ∧
    (run crossWorld (.pool (Pool.ofCtor sHttp hostA none .none none)) 5 (getReq (lit "/x") none .none)).outcome
      = .hostChanged := by
  simp only [crossWorld, crossLits]
  decide +kernel

/-- non-vacuity of `C06_single_host_refuses_redirect`: the run of the pool for `a.example` asked for
`/x` is one request, answered by the redirect to `http://b.example/y` — not the same host — and the
outcome is `HostChangedError` -/
example :
    let p := Pool.ofCtor sHttp hostA none .none none
    let R := run crossWorld (.pool p) 5 (getReq (lit "/x") none .none)
    R.log.map (fun a => a.reply.redirectLocation) = [some urlB] ∧
      crossWorld.parse urlB = some (absUrl sHttp hostB none hostB (lit "/y")) ∧
      isSameHost p.id urlB (absUrl sHttp hostB none hostB (lit "/y")) = false ∧ R.outcome = .hostChanged := by
  simp only [crossWorld, crossLits]
  decide +kernel

/- Full statement (the property text): for every `PoolManager` / `ProxyManager`, every placement of
the policy and every chain — once a hop crosses origins, no header named in the *supplied* policy's
`remove_headers_on_redirect` is in that or any later request.  It is FALSE of the code in one case,
with a witness below: behind a forwarding proxy `is_same_host` is asked of the *proxy's* pool
(`C06_proxy_origin_keeps_credentials`) — excluded by `Crossing`'s clause "no proxy, or the current
URL is `https`" (the pool consulted is the origin's own).  The two other cases in which it used to
be false are repaired and covered: a policy that sits on the manager constructor only is the one
the code consults (`C06_manager_remove_set_honoured`; `effective = supplied`), and a scheme-relative
target `//host/path` (reachable from a scheme-less request URL) is judged by the host it names
(`C06_scheme_relative_stripped`; `Crossing` only asks that the target is not a bare path `/…`).
`injected m` are the names the proxy machinery itself writes into a forwarded request (`Accept`,
`Host`, the `proxy_headers`) — empty for a `PoolManager`. -/

/-- **chain invariant, for the policy the code consults**: the hop that crosses origins leaves a
carrier holding nothing named in the strip set but what the proxy machinery injects, and it stays so -/
theorem C06_stripped_effective (W : World) (m : Mgr) (fuel : Nat) (req : Req)
    (hwf : CarriersWF (.manager m) req)
    (hlow : (effective (.manager m) req).removeHeadersOnRedirect.map lower
      = (effective (.manager m) req).removeHeadersOnRedirect)
    (i j : Nat) (a b c : Sent) (hij : i < j)
    (ha : (run W (.manager m) fuel req).log[i]? = some a)
    (hb : (run W (.manager m) fuel req).log[i + 1]? = some b)
    (hx : Crossing W m a b)
    (hc : (run W (.manager m) fuel req).log[j]? = some c) :
    ∀ l ∈ c.headers, lower l.1 ∈ (effective (.manager m) req).removeHeadersOnRedirect → l.1 ∈ injected m := by
  generalize hR : (effective (.manager m) req).removeHeadersOnRedirect = R at hlow ⊢
  obtain ⟨a', b', hi, hpa, ⟨N⟩, hpb, hrest⟩ := (run_manager W m fuel req).hop
    (fun a : MgrArgs => HdrInv m (req.redirect.getD true) R (fun _ => True) a.kw)
    (fun hi ⟨N⟩ => N.hdrInv hlow hi) ⟨requestWrap_only _ req hwf, hR⟩ i a b ha hb
  have hcl : HdrInv m (req.redirect.getD true) R (fun k => R.contains (lower k) = false) b'.kw := by
    refine ⟨(N.only hi.1).mono fun k hk => ?_, (N.hdrInv hlow hi).2⟩
    obtain ⟨ua, ub, hua, hub, hne, hown, hrel⟩ := hx
    rw [hpa.facts.1] at hua
    rw [hpb.facts.1] at hub hrel
    obtain rfl : N.u = ua := Option.some.inj (N.parse.symm.trans hua)
    -- the hop was judged cross-host, unless the strip set is empty
    rcases N.same_eq with ⟨hempty, _⟩ | ⟨lu, hlu, hsame⟩
    · rw [hi.2] at hempty
      rw [List.isEmpty_iff.1 hempty]
      rfl
    · obtain rfl : lu = ub := Option.some.inj (hlu.symm.trans hub)
      have hfalse : N.same = false := by
        rw [hsame, Bool.eq_false_iff]
        exact fun hh => hne (isSameHost_pm (connectionFromHost_own N.connOk hown) hrel hh).symm
      exact hi.2 ▸ hk.2.1 hfalse
  have hc' : c ∈ (run W (.manager m) fuel req).log.drop (i + 1) :=
    List.mem_of_getElem? (i := j - (i + 1)) (by rw [List.getElem?_drop, ← hc]; congr 1; omega)
  obtain ⟨_, hi, hp⟩ := hrest.all
    (fun a : MgrArgs => HdrInv m (req.redirect.getD true) R (fun k => R.contains (lower k) = false) a.kw)
    (fun hi ⟨N⟩ => N.hdrInv hlow hi) hcl c hc'
  exact fun l hl hmem => (hp.only hi.1 l hl).elim (fun hk => by simp [hmem] at hk) id

/-- **Stripped after a cross-origin hop** — once hop `i → i+1` crosses origins (`Crossing`: the two
URLs name origins that differ in scheme, normalised host or effective port), request `i+1` and every
later request `j` of the chain carries no header whose lower-cased name is in the supplied policy's
`remove_headers_on_redirect` (other than what the proxy machinery injects; nothing for a
`PoolManager`) — whatever mapping type carried them, whatever the casing, for every chain shape and
every placement of the policy (per request or on the manager constructor).  Partial only in
`Crossing`'s proxy clause (hops leaving a request *forwarded* by a `ProxyManager` are not covered). -/
theorem C06_stripped_after_cross_origin_partial (W : World) (m : Mgr) (fuel : Nat) (req : Req)
    (hwf : CarriersWF (.manager m) req)
    (hlow : (supplied (.manager m) req).removeHeadersOnRedirect.map lower
      = (supplied (.manager m) req).removeHeadersOnRedirect)
    (i j : Nat) (a b c : Sent) (hij : i < j)
    (ha : (run W (.manager m) fuel req).log[i]? = some a)
    (hb : (run W (.manager m) fuel req).log[i + 1]? = some b)
    (hx : Crossing W m a b)
    (hc : (run W (.manager m) fuel req).log[j]? = some c) :
    ∀ l ∈ c.headers, lower l.1 ∈ (supplied (.manager m) req).removeHeadersOnRedirect → l.1 ∈ injected m := by
  rw [← effective_eq_supplied _ req] at hlow ⊢
  exact C06_stripped_effective W m fuel req hwf hlow i j a b c hij ha hb hx hc

/-- every policy that went through `Retry.__init__` (all of them) satisfies the lower-case hypothesis;
so do the policies `Retry.from_int` makes of `None` / `False` / an integer -/
theorem C06_strip_set_lowercased (p : Retry) :
    (Retry.init p).removeHeadersOnRedirect.map lower = (Retry.init p).removeHeadersOnRedirect := by
  unfold Retry.init
  dsimp only
  split <;> simp [Function.comp_def]

/-- for a `PoolManager` the wire agrees with the URLs: every request goes to the origin its URL names -/
theorem C06_dest_is_url_origin (W : World) (m : Mgr) (fuel : Nat) (req : Req) (hp : m.proxy = none) :
    ∀ s ∈ (run W (.manager m) fuel req).log, ∃ u, W.parse s.url = some u ∧ s.dest = urlOrigin u := by
  intro s hs
  obtain ⟨_, hpass⟩ := (run_manager W m fuel req).pass_of_mem s hs
  obtain ⟨u, conn, pu, h1, h2, _, h4, _⟩ := hpass.noproxy hp
  obtain ⟨rfl, _⟩ := pmConnectionFromHost_ok (connectionFromHost_own h2 (.inl hp))
  exact ⟨u, h1, h4⟩

/-- a log's first hop is a `Crossing`, from the parsed forms of its two URLs (a decidable premise) -/
theorem crossing_first {W : World} {m : Mgr} {l : List Sent} (ua ub : PUrl)
    (h : ∃ a ∈ l[0]?, ∃ b ∈ l[1]?, W.parse a.url = some ua ∧ W.parse b.url = some ub ∧
      urlOrigin ua ≠ urlOrigin ub ∧ (m.proxy = none ∨ ua.scheme = some sHttps) ∧ pathOnly b.url = false) :
    ∃ a b, l[0]? = some a ∧ l[1]? = some b ∧ Crossing W m a b :=
  let ⟨a, ha, b, hb, h⟩ := h
  ⟨a, b, ha, hb, ua, ub, h⟩

/-- non-vacuity: `Authorization` given per request to a `PoolManager` whose first hop crosses from
`a.example` to `b.example`: the hypotheses hold (dict carrier; the default strip set; the hop is a
`Crossing`) and the second request indeed arrives without the header — while `X-Keep` is still there -/
example :
    let m : Mgr := ⟨.none, .dict [], none⟩
    let req := getReq urlA (some (.dict [(sAuth, lit "s"), (lit "X-Keep", lit "k")])) .none
    CarriersWF (.manager m) req ∧
    (supplied (.manager m) req).removeHeadersOnRedirect.map lower
      = (supplied (.manager m) req).removeHeadersOnRedirect ∧
    (∃ a b, (run crossWorld (.manager m) 5 req).log[0]? = some a ∧
      (run crossWorld (.manager m) 5 req).log[1]? = some b ∧ Crossing crossWorld m a b) ∧
    (run crossWorld (.manager m) 5 req).log.map (fun s => (s.dest.host, s.headers))
      = [(hostA, [(sAuth, lit "s"), (lit "X-Keep", lit "k")]), (hostB, [(lit "X-Keep", lit "k")])] := by
  refine ⟨⟨trivial, fun _ hh => ?_⟩, ?_,
    crossing_first (absUrl sHttp hostA none hostA (lit "/x")) (absUrl sHttp hostB none hostB (lit "/y")) ?_, ?_⟩
  · cases hh
    trivial
  all_goals
    simp only [crossWorld, crossLits]
    decide +kernel

/-- non-vacuity for the constructor placement: the custom set `{X-Secret}` on the `PoolManager`
constructor, nothing per request — the hypotheses hold, the hop is a `Crossing`, and `X-Secret` does
not reach `b.example` (while `Authorization`, which this policy does not name, does) -/
example :
    let m : Mgr := ⟨.retry (Retry.init { Retry.initDefaults with removeHeadersOnRedirect := [sXSecret] }),
      .dict [], none⟩
    let req := getReq urlA (some (.dict [(sXSecret, lit "s"), (sAuth, lit "t")])) .none
    CarriersWF (.manager m) req ∧
    (supplied (.manager m) req).removeHeadersOnRedirect.map lower
      = (supplied (.manager m) req).removeHeadersOnRedirect ∧
    (∃ a b, (run crossWorld (.manager m) 5 req).log[0]? = some a ∧
      (run crossWorld (.manager m) 5 req).log[1]? = some b ∧ Crossing crossWorld m a b) ∧
    (run crossWorld (.manager m) 5 req).log.map (fun s => (s.dest.host, s.headers))
      = [(hostA, [(sXSecret, lit "s"), (sAuth, lit "t")]), (hostB, [(sAuth, lit "t")])] := by
  refine ⟨⟨trivial, fun _ hh => ?_⟩, ?_,
    crossing_first (absUrl sHttp hostA none hostA (lit "/x")) (absUrl sHttp hostB none hostB (lit "/y")) ?_, ?_⟩
  · cases hh
    trivial
  all_goals
    simp only [crossWorld, crossLits]
    decide +kernel

/- Full statement (the property text): on every hop of every `PoolManager` / `ProxyManager` chain all
headers other than the stripped ones are preserved.  Proved part: clients without a proxy
(`PoolManager`, bare pool).  Not proved: `ProxyManager` — every forwarded pass rebuilds the headers
as a fresh dict (`_set_proxy_headers`: `Accept`, `Host`, then `dict.update` with the *merged* values of
an `HTTPHeaderDict`), so between a tunnelled and a forwarded hop repeated fields change from separate
lines to one combined line — the literal statement does not hold there, the combined-form statement
is what the correspondence run and the implementation-side oracle `lost` check. -/

/-- **Others preserved** — for a `PoolManager` or a bare pool, on every hop `a → b` of every chain:
every header field whose lower-cased name is not in the strip set in force (`stripSet`: the policy's
`remove_headers_on_redirect`; nothing for a bare pool) and that — after a 303 — is not content-specific
has in `b` exactly the values it had in `a`, in the same order (`specGetlist`: the values of the lines
of that name, compared case-insensitively); and unless the reply was a 303, `b`'s header lines are
literally `a`'s (same spelling, same order) or `a`'s minus the lines named in the strip set. -/
theorem C06_others_preserved_partial (W : World) (c : Client) (fuel : Nat) (req : Req)
    (hp : c.noProxy) (hwf : CarriersWF c req)
    (hlow : (stripSet c req).map lower = stripSet c req)
    (i : Nat) (a b : Sent)
    (ha : (run W c fuel req).log[i]? = some a) (hb : (run W c fuel req).log[i + 1]? = some b) :
    (∀ n : Str, lower n ∉ stripSet c req →
      (a.reply.status = 303 → lower n ∉ contentSpecific.map lower) →
      specGetlist b.headers n = specGetlist a.headers n) ∧
    (a.reply.status ≠ 303 →
      b.headers = a.headers ∨
      b.headers = a.headers.filter (fun l => !(stripSet c req).contains (lower l.1))) := by
  obtain ⟨H, same, hw, hah, hbh⟩ := run_lines W c fuel req hwf hp hlow i a b ha hb
  constructor
  · intro n hn hcs
    rw [hbh, hah]
    apply nextHdrs_getlist _ _ _ _ hw n (by simpa using hn)
    intro hst
    exact hcs (by simpa [Gen.Redirect.methodRewriteStatuses] using hst)
  · intro hne
    have hst : Gen.Redirect.methodRewriteStatuses.contains a.reply.status = false := by
      simpa [Gen.Redirect.methodRewriteStatuses] using hne
    rw [hbh, hah, nextHdrs_plain _ _ _ _ hw hst]
    cases same
    · exact Or.inr rfl
    · exact Or.inl rfl

/-- non-vacuity: a dict with case-variant keys and a repeated-field `HTTPHeaderDict` across the
cross-origin hop of `crossWorld` (302): everything but `Authorization` arrives unchanged, in order -/
example :
    let m : Mgr := ⟨.none, .dict [], none⟩
    let req := getReq urlA (some (.hd (extend [] [(lit "X-A", lit "1"), (sAuth, lit "s"), (lit "x-a", lit "2"),
      (lit "Accept-Language", lit "en")]))) .none
    Client.noProxy (.manager m) ∧ CarriersWF (.manager m) req ∧
    (stripSet (.manager m) req).map lower = stripSet (.manager m) req ∧
    (run crossWorld (.manager m) 5 req).log.map (fun s => s.headers)
      = [[(lit "X-A", lit "1"), (lit "X-A", lit "2"), (sAuth, lit "s"), (lit "Accept-Language", lit "en")],
         [(lit "X-A", lit "1"), (lit "X-A", lit "2"), (lit "Accept-Language", lit "en")]] := by
  refine ⟨rfl, ⟨trivial, fun _ hh => ?_⟩, ?_, ?_⟩
  · cases hh
    exact (extend_rep _ ⟨inv_nil, rfl⟩).1
  all_goals
    simp only [crossWorld, crossLits]
    decide +kernel

/-- **Repaired** (the input of the finding `leak:manager-constructor-policy-ignored`):
`PoolManager(retries=Retry(remove_headers_on_redirect=["X-Secret"]))` — the supplied strip set is
`{x-secret}`, and `X-Secret` is *not* forwarded from `a.example` to `b.example` -/
theorem C06_manager_remove_set_honoured :
    let m : Mgr := ⟨.retry (Retry.init { Retry.initDefaults with removeHeadersOnRedirect := [sXSecret] }),
      .dict [], none⟩
    let req := getReq urlA (some (.dict [(sXSecret, lit "s")])) .none
    (supplied (.manager m) req).removeHeadersOnRedirect = [lower sXSecret] ∧
    (run crossWorld (.manager m) 5 req).log.map (fun s => (s.dest.host, s.headers))
      = [(hostA, [(sXSecret, lit "s")]), (hostB, [])] := by
  simp only [crossWorld, crossLits]
  decide +kernel

def urlP : Str := lit "http://proxy.example:3128/y"
def thePx : Proxy := ⟨sHttp, lit "proxy.example", 3128, [], false⟩
/-- behind the forwarding proxy `http://a.example/x` answers `302 Location: http://proxy.example:3128/y` -/
def proxyWorld : World :=
  tableWorld [(⟨sHttp, hostA, 80⟩, lit "/x", ⟨302, some urlP⟩)]
    [(urlA, absUrl sHttp hostA none hostA (lit "/x")),
     (urlP, absUrl sHttp (lit "proxy.example") (some 3128) (lit "proxy.example:3128") (lit "/y"))]
    [(urlA, urlP, urlP)]

/-- **Witness** (known finding `leak:proxymanager-forwarding-same-host-judged-against-proxy`):
`ProxyManager("http://proxy.example:3128")`, default policy, `Authorization` per request: the redirect
from `http://a.example/x` into the proxy's own origin is judged same-host (the pool consulted is the
proxy's) and `Authorization` arrives at `proxy.example:3128` -/
theorem C06_proxy_origin_keeps_credentials :
    let m : Mgr := ⟨.none, .dict [], some thePx⟩
    let req := getReq urlA (some (.dict [(sAuth, lit "s")])) .none
    (run proxyWorld (.manager m) 5 req).log.map
        (fun s => (s.dest, s.headers.filter (fun l => lower l.1 == lower sAuth)))
      = [(⟨sHttp, hostA, 80⟩, [(sAuth, lit "s")]), (⟨sHttp, lit "proxy.example", 3128⟩, [(sAuth, lit "s")])] := by
  simp only [proxyWorld, crossLits]
  decide +kernel

/-- `//a.example/x` answers `302 Location: //b.example/y` -/
def schemelessWorld : World :=
  tableWorld [(⟨sHttp, hostA, 80⟩, lit "/x", ⟨302, some (lit "//b.example/y")⟩)]
    [(lit "//a.example/x", relUrl hostA (lit "/x")), (lit "//b.example/y", relUrl hostB (lit "/y")),
     (lit "/x", pathUrl (lit "/x")), (lit "/y", pathUrl (lit "/y"))]
    [(lit "//a.example/x", lit "//b.example/y", lit "//b.example/y")]

/-- **Repaired** (the input of the finding `leak:scheme-relative-target-judged-same-host`): a
`PoolManager` asked for the scheme-less URL `//a.example/x` (deprecated, still served as `http`) with
`Authorization`, answered by `302 Location: //b.example/y`: `urljoin` keeps the target
scheme-relative, `is_same_host` judges it by the host it names, and `Authorization` does *not* arrive
at `b.example` -/
theorem C06_scheme_relative_stripped :
    let m : Mgr := ⟨.none, .dict [], none⟩
    let req := getReq (lit "//a.example/x") (some (.dict [(sAuth, lit "s")])) .none
    (run schemelessWorld (.manager m) 5 req).log.map (fun s => (s.dest, s.headers))
      = [(⟨sHttp, hostA, 80⟩, [(sAuth, lit "s")]), (⟨sHttp, hostB, 80⟩, [])] := by
  simp only [schemelessWorld, crossLits]
  decide +kernel

/-- … and that hop is a `Crossing` (the scheme-relative target is not a bare path), so it is covered by
`C06_stripped_after_cross_origin_partial` -/
example :
    let m : Mgr := ⟨.none, .dict [], none⟩
    let req := getReq (lit "//a.example/x") (some (.dict [(sAuth, lit "s")])) .none
    ∃ a b, (run schemelessWorld (.manager m) 5 req).log[0]? = some a ∧
      (run schemelessWorld (.manager m) 5 req).log[1]? = some b ∧ Crossing schemelessWorld m a b :=
  crossing_first (relUrl hostA (lit "/x")) (relUrl hostB (lit "/y"))
    (by simp only [schemelessWorld, crossLits]; decide +kernel)

end U3.Props
