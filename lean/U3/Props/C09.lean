import U3.Lemmas.Proxy
/-!
# C09 — proxied traffic follows the documented routing and never leaks outside it

All statements are about `U3.Proxy` (`lean/U3/Model/Proxy.lean`), for **every** configuration
`cfg`, **every** environment script (what each socket's CONNECT is answered with, whether the
proxy's / the origin's certificate verifies) and **every** history `reqs` (any length, any mix of
destinations, retries, server-side closes).  `trace cfg script reqs` is everything the proxy and
the origins saw, in order; a hypothesis `trace … = pre ++ e :: post` picks an arbitrary event `e`
together with the events `pre` that happened before it.
-/
namespace U3.Props
open U3 U3.Proxy

/-- The routing decision (`connection_requires_http_tunnel`), all inputs: no tunnel iff there is
no proxy, or the destination is plain HTTP, or forwarding was opted into on an HTTPS proxy. -/
theorem C09_https_tunnels_unless_opted (p : Option Scheme) (fwd : Bool) (d : Option Scheme) :
    requiresTunnel p fwd d = false ↔ (p = none ∨ d = some .http ∨ (p = some .https ∧ fwd = true)) := by
  rcases p with _ | _ | _ <;> rcases d with _ | _ | _ <;> cases fwd <;> simp [requiresTunnel]

/-- Never outside the route: every TCP connection of every history goes to the proxy. -/
theorem C09_only_the_proxy_is_contacted (cfg : Cfg) (script : List Script) (reqs : List Req)
    (pre post : List Event) (sid : Nat) (h : Str) (p : Nat)
    (ht : trace cfg script reqs = pre ++ .tcp sid h p :: post) :
    h = cfg.proxyHost ∧ p = cfg.proxyPort := by
  obtain ⟨r, _, hr⟩ := (trace_spec cfg script reqs).2 _ _ _ ht
  exact hr

/-- Every request on the wire belongs to a request `r` of the history and is inside a tunnel
exactly when the routing table says so for `r`'s scheme (so an HTTPS destination is only ever
addressed inside a tunnel unless forwarding was opted into); inside a tunnel the target is the
origin-form (`r.path`), towards the proxy it is the absolute-form (`r.absUrl`). -/
theorem C09_request_forms (cfg : Cfg) (script : List Script) (reqs : List Req)
    (pre post : List Event) (sid : Nat) (tun : Bool) (m tgt : Str) (hs : Dict)
    (ht : trace cfg script reqs = pre ++ .request sid tun m tgt hs :: post) :
    ∃ r ∈ reqs, tun = requiresTunnel (some cfg.proxyScheme) cfg.fwd (some r.scheme) ∧
      m = methodStr r.method ∧
      (tun = true → r.scheme = .https ∧ tgt = r.path) ∧
      (tun = false → tgt = r.absUrl ∧ tgt = schemeStr r.scheme ++ lit "://" ++ r.netloc ++ r.path) := by
  obtain ⟨r, hr, h⟩ : ∃ r ∈ reqs, ReqOK .. := (trace_spec cfg script reqs).2 _ _ _ ht
  refine ⟨r, hr, by rw [mgr_tunnel]; exact h.tunnel, h.method, ?_, fun ht => ⟨h.outside ht, h.outside ht⟩⟩
  exact fun ht => ⟨((tunnelled_cases cfg r).1 (h.tunnel ▸ ht)).2.2, (h.inside ht).target⟩

/-- Every CONNECT names exactly the host:port of a URL of the history that has to be tunnelled
(lower-cased host as written in the URL, i.e. with the brackets of an IPv6 literal; the explicit
port or 443), and carries the CONNECT headers built from the proxy headers. -/
theorem C09_connect_target_exact (cfg : Cfg) (script : List Script) (reqs : List Req)
    (pre post : List Event) (sid : Nat) (tgt : Str) (hs : Dict)
    (ht : trace cfg script reqs = pre ++ .connect sid tgt hs :: post) :
    ∃ r ∈ reqs, r.scheme = .https ∧ requiresTunnel (some cfg.proxyScheme) cfg.fwd (some r.scheme) = true ∧
      tgt = lower r.host ++ [58] ++ decStr (r.port.getD 443) ∧
      hs = connectHeaders cfg (lower r.host) (r.port.getD 443) := by
  obtain ⟨r, hr, htq, h1, h2, _⟩ := (trace_spec cfg script reqs).2 _ _ _ ht
  have hs' := ((tunnelled_cases cfg r).1 htq).2.2
  refine ⟨r, hr, hs', by rw [mgr_tunnel]; exact htq, ?_, ?_⟩
  · simpa [hostPort, Req.nhost, Req.effPort, hs', defaultPort] using h1
  · simpa [Req.nhost, Req.effPort, hs', defaultPort] using h2

/-- IPv6 literals stay bracketed in the CONNECT target. -/
theorem C09_connect_target_ipv6_bracketed (a : Str) (p : Nat) :
    lower ([91] ++ a ++ [93]) ++ [58] ++ decStr p = [91] ++ lower a ++ [93, 58] ++ decStr p := by
  simp [lower, lowerC]

/-- A request inside a tunnel travels on a socket whose CONNECT — earlier in the trace, on that
very socket — named exactly the request's own host:port. -/
theorem C09_tunnel_carries_own_destination (cfg : Cfg) (script : List Script) (reqs : List Req)
    (pre post : List Event) (sid : Nat) (m tgt : Str) (hs : Dict)
    (ht : trace cfg script reqs = pre ++ .request sid true m tgt hs :: post) :
    ∃ r ∈ reqs, tgt = r.path ∧ m = methodStr r.method ∧
      ∃ chs, Event.connect sid (hostPort r.nhost r.effPort) chs ∈ pre := by
  obtain ⟨r, hr, h⟩ : ∃ r ∈ reqs, ReqOK .. := (trace_spec cfg script reqs).2 _ _ _ ht
  exact ⟨r, hr, (h.inside rfl).target, h.method, (h.inside rfl).connect⟩

/-- TLS inside a tunnel is set up under the destination's name (brackets of an IP literal and a
trailing dot removed), after the CONNECT for that destination on the same socket was answered 200;
and a request is only sent inside the tunnel after that handshake verified (`originCertOk`). -/
theorem C09_inner_tls_name (cfg : Cfg) (script : List Script) (reqs : List Req) (pre post : List Event) :
    (∀ sid sni i, trace cfg script reqs = pre ++ .tlsOrigin sid sni i :: post →
      ∃ r ∈ reqs, r.scheme = .https ∧ sni = sniOf (lower r.host) ∧ i = (cfg.proxyScheme == .https) ∧
        (scriptAt script sid).status = .ok ∧
        ∃ chs, Event.connect sid (hostPort r.nhost r.effPort) chs ∈ pre) ∧
    (∀ sid m tgt hs, trace cfg script reqs = pre ++ .request sid true m tgt hs :: post →
      ∃ r ∈ reqs, tgt = r.path ∧
        Event.tlsOrigin sid (sniOf (lower r.host)) (cfg.proxyScheme == .https) ∈ pre ∧
        (scriptAt script sid).originCertOk = true) := by
  constructor
  · intro sid sni i ht
    obtain ⟨r, hr, htq, h1, h2, h3, h4⟩ := (trace_spec cfg script reqs).2 _ _ _ ht
    exact ⟨r, hr, ((tunnelled_cases cfg r).1 htq).2.2, h1, h2, h3, h4⟩
  · intro sid m tgt hs ht
    obtain ⟨r, hr, h⟩ : ∃ r ∈ reqs, ReqOK .. := (trace_spec cfg script reqs).2 _ _ _ ht
    exact ⟨r, hr, (h.inside rfl).target, (h.inside rfl).tls, (h.inside rfl).originCert⟩

/-- Proxy headers are confined to messages addressed to the proxy: every header of a request
inside a tunnel is either generated by `HTTPConnection.request` itself (`Host`, `Accept-Encoding`,
`Content-Length`, `User-Agent`) or was asked for by the caller of that very request. -/
theorem C09_proxy_headers_confined (cfg : Cfg) (script : List Script) (reqs : List Req)
    (pre post : List Event) (sid : Nat) (m tgt : Str) (hs : Dict)
    (ht : trace cfg script reqs = pre ++ .request sid true m tgt hs :: post) :
    ∃ r ∈ reqs, ∀ h ∈ hs, h.1 ∈ autoNames ∨ h ∈ userHeaders cfg r := by
  obtain ⟨r, hr, h⟩ : ∃ r ∈ reqs, ReqOK .. := (trace_spec cfg script reqs).2 _ _ _ ht
  exact ⟨r, hr, (h.inside rfl).headers⟩

/-- … hence, when no caller passes a proxy header of its own and no proxy header is named like an
automatic header, no proxy header (e.g. `Proxy-Authorization`) ever shows up inside a tunnel. -/
theorem C09_proxy_headers_never_in_tunnel (cfg : Cfg) (script : List Script) (reqs : List Req)
    (hdisj : ∀ h ∈ cfg.proxyHeaders, h.1 ∉ autoNames ∧ ∀ r ∈ reqs, h ∉ userHeaders cfg r)
    (pre post : List Event) (sid : Nat) (m tgt : Str) (hs : Dict)
    (ht : trace cfg script reqs = pre ++ .request sid true m tgt hs :: post) :
    ∀ h ∈ hs, h ∉ cfg.proxyHeaders := by
  obtain ⟨r, hr, hall⟩ := C09_proxy_headers_confined cfg script reqs pre post sid m tgt hs ht
  intro h hh hp
  rcases hall h hh with h1 | h1
  · exact (hdisj h hp).1 h1
  · exact (hdisj h hp).2 r hr h1

/-- No request is ever carried by a socket on which the proxy failed its own verification, whose
CONNECT was not answered 200, or (inside the tunnel) whose origin failed verification. -/
theorem C09_refused_no_request (cfg : Cfg) (script : List Script) (reqs : List Req)
    (pre post : List Event) (sid : Nat) (tun : Bool) (m tgt : Str) (hs : Dict)
    (ht : trace cfg script reqs = pre ++ .request sid tun m tgt hs :: post) :
    (cfg.proxyScheme = .https → (scriptAt script sid).proxyCertOk = true) ∧
    (tun = true → (scriptAt script sid).status = .ok ∧ (scriptAt script sid).originCertOk = true) := by
  obtain ⟨r, hr, h⟩ : ∃ r ∈ reqs, ReqOK .. := (trace_spec cfg script reqs).2 _ _ _ ht
  exact ⟨h.proxyCert, fun ht => ⟨(h.inside ht).status, (h.inside ht).originCert⟩⟩

/-- After any history, for any next request `r`: if the socket opened last for it was refused —
the proxy failed verification (`ProxyError(SSLError)`) or answered the CONNECT with a well-formed
non-200 status (`ProxyError(OSError)`) — then no request at all was sent while serving `r` and
the outcome is that `ProxyError`, raised directly or as the reason of `MaxRetryError`. -/
theorem C09_refused_raises_proxy_error (cfg : Cfg) (script : List Script) (reqs : List Req) (r : Req) (sid : Nat)
    (hlast : lastTcp (managerRequest cfg script (finalState cfg script St.init reqs) r).1 = some sid)
    (href : (cfg.proxyScheme = .https ∧ (scriptAt script sid).proxyCertOk = false) ∨
            (requiresTunnel (some cfg.proxyScheme) cfg.fwd (some r.scheme) = true ∧
              ∃ c, (scriptAt script sid).status = .refused c)) :
    (∀ x ∈ (managerRequest cfg script (finalState cfg script St.init reqs) r).1, isRequest x = false) ∧
    ((managerRequest cfg script (finalState cfg script St.init reqs) r).2.1 ∈
      [Outcome.raised .proxySSL, .raised .proxyOS, .maxRetry .proxySSL, .maxRetry .proxyOS]) := by
  have hne : openErr cfg r (scriptAt script sid) = some .proxySSL ∨
      openErr cfg r (scriptAt script sid) = some .proxyOS := by
    rw [mgr_tunnel] at href
    unfold openErr
    split
    · exact Or.inl rfl
    · rcases href with h | ⟨h1, c, h2⟩
      · contradiction
      · exact Or.inr (by simp [h1, h2])
  rcases (managerRequest_spec (trace_spec cfg script reqs).1 r).out with
    ⟨_, _, hl⟩ | ⟨e, sid', ho, hnr, hl, hoe⟩
  · simp [hl sid hlast] at hne
  · obtain rfl : sid = sid' := by simpa [hlast] using hl
    rw [hoe] at hne
    refine ⟨hnr, ?_⟩
    rcases ho with ho | ho <;> rcases hne with h | h <;> cases h <;> simp [ho]

/-- After any history, for any next request: an error outcome means that no request was sent, and
the error is exactly what the environment did to the socket opened last (proxy verification
failure → `ProxyError(SSLError)`, CONNECT refused → `ProxyError(OSError)`, unparsable CONNECT reply
→ `ProtocolError`, origin verification failure → `SSLError`); a response means a request was sent. -/
theorem C09_outcome_explained (cfg : Cfg) (script : List Script) (reqs : List Req) (r : Req) :
    OutOK cfg script r (managerRequest cfg script (finalState cfg script St.init reqs) r).1
      (managerRequest cfg script (finalState cfg script St.init reqs) r).2.1 :=
  (managerRequest_spec (trace_spec cfg script reqs).1 r).out

/-- A pooled connection that was closed is never used again: the socket that carries a request has
not been closed by the server before, was opened to the proxy earlier in the trace, and — for a
request inside a tunnel — got its own CONNECT (so after a tunnel was closed, the next request is
preceded by a new TCP connection and a new CONNECT). -/
theorem C09_retunnel_after_close (cfg : Cfg) (script : List Script) (reqs : List Req)
    (pre post : List Event) (sid : Nat) (tun : Bool) (m tgt : Str) (hs : Dict)
    (ht : trace cfg script reqs = pre ++ .request sid tun m tgt hs :: post) :
    Event.serverClose sid ∉ pre ∧ Event.tcp sid cfg.proxyHost cfg.proxyPort ∈ pre ∧
    (tun = true → ∃ r ∈ reqs, ∃ chs, Event.connect sid (hostPort r.nhost r.effPort) chs ∈ pre) := by
  obtain ⟨r, hr, h⟩ : ∃ r ∈ reqs, ReqOK .. := (trace_spec cfg script reqs).2 _ _ _ ht
  exact ⟨h.live, h.tcp, fun ht => ⟨r, hr, (h.inside ht).connect⟩⟩

/-! ## non-vacuity: concrete histories in which the hypotheses above are met -/

/-- HTTPS proxy, `Proxy-Authorization`, no forwarding -/
private def cfgT : Cfg :=
  ⟨.https, lit "px", 3128, false, [(lit "Proxy-Authorization", lit "Basic abc")], [], lit "ua"⟩
/-- two requests to `https://[::1]:8443/x`, the server closes the tunnel after the first -/
private def rT (close : Bool) : Req :=
  ⟨.get, .https, lit "[::1]", some 8443, lit "/x", some [(lit "X-App", lit "1")], none, none, close⟩
private def reqsT : List Req := [rT true, rT false]
/-- the same proxy with forwarding opted into -/
private def cfgF : Cfg := { cfgT with fwd := true }

private def isTunnelReq : Event → Bool
  | .request _ true _ _ _ => true
  | _ => false
private def isFwdReq : Event → Bool
  | .request _ false _ _ _ => true
  | _ => false
private def isConnect : Event → Bool
  | .connect .. => true
  | _ => false
private def isTlsOrigin : Event → Bool
  | .tlsOrigin .. => true
  | _ => false

/-- the trace of the tunnelled history contains requests inside a tunnel, CONNECTs, inner TLS
handshakes (hypotheses of `C09_request_forms`, `C09_connect_target_exact`, `C09_inner_tls_name`,
`C09_proxy_headers_confined`, `C09_refused_no_request`, `C09_retunnel_after_close`, …) -/
example : ∃ pre e post, trace cfgT [] reqsT = pre ++ e :: post ∧ isTunnelReq e = true :=
  exists_split_of_any _ _ (by decide)
example : ∃ pre e post, trace cfgT [] reqsT = pre ++ e :: post ∧ isConnect e = true :=
  exists_split_of_any _ _ (by decide)
example : ∃ pre e post, trace cfgT [] reqsT = pre ++ e :: post ∧ isTlsOrigin e = true :=
  exists_split_of_any _ _ (by decide)
/-- … and with forwarding opted in, requests in absolute-form to the proxy -/
example : ∃ pre e post, trace cfgF [] reqsT = pre ++ e :: post ∧ isFwdReq e = true :=
  exists_split_of_any _ _ (by decide)
/-- the second request of the tunnelled history really is on a new socket with its own CONNECT
(`[::1]:8443`, brackets kept), after the server closed the first one -/
example : (trace cfgT [] reqsT).map (fun e => match e with
      | .tcp s _ _ => (0, s) | .tlsProxy s _ => (1, s) | .connect s _ _ => (2, s) | .tlsOrigin s _ _ => (3, s)
      | .request s _ _ _ _ => (4, s) | .serverClose s => (5, s))
    = [(0, 0), (1, 0), (2, 0), (3, 0), (4, 0), (5, 0), (0, 1), (1, 1), (2, 1), (3, 1), (4, 1)] := by decide +kernel
example : Event.connect 1 (lit "[::1]:8443")
    [(lit "Proxy-Authorization", lit "Basic abc"), (lit "Host", lit "[::1]:8443")] ∈ trace cfgT [] reqsT := by
  decide +kernel
/-- the disjointness hypothesis of `C09_proxy_headers_never_in_tunnel` holds for this history -/
example : ∀ h ∈ cfgT.proxyHeaders, h.1 ∉ autoNames ∧ ∀ r ∈ reqsT, h ∉ userHeaders cfgT r := by
  decide +kernel
/-- `C09_refused_raises_proxy_error`: CONNECT answered 407 on the re-tunnel of the second request -/
example : lastTcp (managerRequest cfgT [Script.good, ⟨true, .refused 407, true⟩]
      (finalState cfgT [Script.good, ⟨true, .refused 407, true⟩] St.init [rT true]) (rT false)).1 = some 1 ∧
    (requiresTunnel (some cfgT.proxyScheme) cfgT.fwd (some (rT false).scheme) = true ∧
      ∃ c, (scriptAt [Script.good, ⟨true, .refused 407, true⟩] 1).status = .refused c) :=
  ⟨by decide +kernel, by decide, 407, by decide⟩
example : (managerRequest cfgT [Script.good, ⟨true, .refused 407, true⟩]
      (finalState cfgT [Script.good, ⟨true, .refused 407, true⟩] St.init [rT true]) (rT false)).2.1
    = .raised .proxyOS := by decide +kernel
/-- retries: CONNECT refused, then proxy certificate rejected, budget 1 →
`MaxRetryError(reason=ProxyError)` -/
example : (managerRequest cfgT [⟨true, .refused 403, true⟩, ⟨false, .ok, true⟩] St.init
      { rT false with retries := some 1 }).2.1 = .maxRetry .proxySSL := by decide +kernel
/-- the reading recorded in notes/C09.md: an unparsable CONNECT reply is a `ProtocolError`, and no
request is sent -/
example : (managerRequest cfgT [⟨true, .garbage, true⟩] St.init (rT false)).2.1 = .raised .protocol ∧
    (managerRequest cfgT [⟨true, .garbage, true⟩] St.init (rT false)).1.all (fun e => !isRequest e) = true := by
  decide +kernel

end U3.Props
