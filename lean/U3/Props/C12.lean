import U3.Lemmas.Resp
import U3.Lemmas.RespIO
import U3.Lemmas.RespRead
import U3.Lemmas.RespRead1
import U3.Lemmas.RespInst
import U3.Lemmas.RespZstd
import U3.Lemmas.RespGzip
import U3.Lemmas.RespGzipEnc
import U3.Lemmas.RespDeflate
import U3.Lemmas.RespMulti
import U3.Lemmas.RespChunked
import U3.Lemmas.RespCalls
import U3.Lemmas.RespReadChunked
import U3.Lemmas.RespIter
import U3.Lemmas.RespWitness
import U3.Lemmas.RespDrain
import U3.Lemmas.RespDrainWitness
/-!
# C12 — every way of reading a response yields the same bytes

All inputs, no size bounds.  Generic part: for ANY body source obeying `RawReadSpec` /
`RawReadAllSpec` / `RawRead1Spec` and ANY content decoder obeying the `StreamLaw` (or none), `read(n)`
returns exactly the next `min n |rest|` bytes, `read()` everything that is left (buffered bytes
first), `read1(n)` a non-empty prefix of at most `n` bytes, reads after the end are empty, `.data` is
the same bytes, `stream` / `read_chunked` / iteration never yield an empty piece.

Sources: `http.client` meets the source specs on every well-framed Content-Length or close-delimited
body (`C12_raw_read_exact`) and on every well-framed chunked body — any chunk vector, size-line
spelling, extension, trailer — through its own chunk reader (`C12_raw_read_exact_chunked`,
`C12_chunked_wellframed`), for every segmentation.  Decoders: `GzipDecoder` (multi-member, trailing
garbage), `DeflateDecoder` (raw fallback with replay), `ZstdDecoder` (multi-frame), `MultiDecoder`
obey the `StreamLaw` for EVERY byte-step `decompressobj` (`C12_gzip_multimember`,
`C12_deflate_fallback`, `C12_zstd_multiframe`, `C12_multidecoder_order`; the family the driver runs:
`C12_decoders_stream_law`).

The headline is `C12_concat`; its docstring says in which reading of DESIGN §6 it is stated.  A
theorem named `…_partial` states the concatenation property on a part of that domain — one family of
calls, one framing, one decoding mode.

Not covered (see notes/C12.md "Still open"): switching between `http.client`'s and urllib3's chunk
parser in the middle of a chunked body (outside the quantified domain); compressed-block formats of
the real C libraries (covered by the law + oracle, DESIGN §5).

Two defects of urllib3 refuted `C12_concat`: `read()` skipped the decoded buffer (and `stream(None)`
spun on it), and a zstd frame boundary on a feed boundary raised.  They are repaired in /repo, the
model follows the repaired code, and the `…_ok` theorems at the end evaluate it on the inputs that
showed them.
-/
namespace U3.Props
open U3 U3.Resp U3.Resp.Witness

/-- `bytesqueue_fifo`: `get(n)` returns exactly the first `min n size` bytes of everything put so
far and keeps the rest in order; `put` appends at the end -/
theorem C12_bytesqueue_fifo (q : BQ) (n : Nat) (d : Bytes) (q' : BQ) (h : bqGet q n = some (d, q')) :
    d = (bqAll q).take n ∧ bqAll q' = (bqAll q).drop n ∧ d ++ bqAll q' = bqAll q ∧
    ∀ x, bqAll (bqPut q' x) = bqAll q' ++ x := by
  obtain ⟨h1, h2⟩ := bqGet_spec q n d q' h
  refine ⟨h1, h2, ?_, fun x => bqPut_all q' x⟩
  rw [h1, h2, List.take_append_drop]

example : bqGet [[1, 2], [], [3, 4, 5]] 3 = some ([1, 2, 3], [[4, 5]]) := by decide

/-- `get` fails (RuntimeError) only on an empty deque with `n > 0`; `get_all` returns everything -/
theorem C12_bytesqueue_total (q : BQ) (n : Nat) (h : q ≠ [] ∨ n = 0) :
    (bqGet q n).isSome ∧ (bqGetAll q).1 = bqAll q ∧ (bqGetAll q).2 = [] :=
  ⟨bqGet_isSome q n h, rfl, rfl⟩

/-- the **streaming law** holds for every byte-step `decompressobj` (in particular the stored-block
gzip / zlib / raw-deflate and raw-block zstd instances): feeding `a ++ b` is feeding `a`, then — if
the member has not ended inside `a` — feeding `b`; after the end the rest is `unused_data` -/
theorem C12_rawobj_stream_law {ρ : Type} (O : RawObj ρ) (s : ρ) (a b : Bytes) :
    feedLoop O s (a ++ b) [] =
      match feedLoop O s a [] with
      | .error e => .error e
      | .ok (s', o, rest) =>
        if rest = [] then (feedLoop O s' b []).map (fun r => (r.1, o ++ r.2.1, r.2.2))
        else .ok (s', o, rest ++ b) :=
  feedLoop_append O s a b

/-- `BufferedReader.read(n)` returns exactly the next `min n available` bytes, whatever the network
segmentation -/
theorem C12_fp_read_exact (f : Fp) (n : Nat) :
    (fpRead f n).1 = f.content.take n ∧ (fpRead f n).2.content = f.content.drop n :=
  ⟨(fpRead_spec f n).1, (fpRead_spec f n).2.1⟩

/-- the read(n) invariant: for ANY body source whose `_raw_read` is exact on a well-framed body
(`RawReadSpec`) and ANY decoder obeying the streaming law, the inner loop of `read(amt)` keeps
`buffered ++ what the decoder still owes for the raw bytes still to come` constant, never raises,
and stops only with `amt` bytes buffered or the raw body exhausted -/
theorem C12_read_n_invariant {σ δ : Type} (S : Src σ) (D : Dec δ) (cfg : Cfg δ)
    {rem : σ → Bytes} {I : σ → Option Int → Prop} {G : δ → Bytes → Bytes → Prop}
    (hR : RawReadSpec S cfg rem I) (hD : StreamLaw D G) (a : Nat) (ha : 0 < a)
    (fuel : Nat) (r : R σ δ) (data : Bytes) (d : δ) (p : Bytes)
    (hI : I r.fp r.lengthRemaining) (hd : r.decoder = some d) (hG : G d (rem r.fp) p)
    (hf : (rem r.fp).length + (if data = [] then 0 else 1) < fuel) (hdata : data = [] → rem r.fp = []) :
    ∃ r' d' p', readLoop S D cfg a true false fuel r data = (.ok (), r') ∧
      r'.decoder = some d' ∧ G d' (rem r'.fp) p' ∧
      bqAll r'.buf ++ p' = bqAll r.buf ++ p ∧ I r'.fp r'.lengthRemaining ∧
      (bqLen r'.buf < a → rem r'.fp = []) := by
  obtain ⟨r', f1, f2, f3, f4, _⟩ := readLoop_inv S D cfg hR hD a ha false fuel r data _ nofun
    (Due.invS cfg (by rw [hd]; exact ⟨settled_some cfg d, hG⟩) hI) hf hdata
  obtain ⟨p', hdue', hp'⟩ := f2.due
  rw [hd] at f3
  obtain ⟨d', hd'⟩ := Option.isSome_iff_exists.mp f3
  rw [hd'] at hdue'
  exact ⟨r', d', p', f1, hd', hdue'.2, hp', f2.2.framing, f4⟩

/-- buffer level of `C12_read_n_exact`: what `read(n)` finally hands out of the decoded buffer is
exactly `min n buffered` bytes — at most `n`, fewer only when the buffer is exhausted -/
theorem C12_read_n_exact_buffer (q : BQ) (n : Nat) (d : Bytes) (q' : BQ) (h : bqGet q n = some (d, q')) :
    d.length = min n (bqLen q) ∧ (d.length < n → bqAll q' = []) := by
  obtain ⟨h1, h2⟩ := bqGet_spec q n d q' h
  rw [bqLen_eq, h1, h2, List.length_take]
  exact ⟨rfl, fun hlt => List.drop_eq_nil_of_le (by omega)⟩

/-- with `rest` = the decoded payload still to be delivered (`Inv`: framing invariant and
`buffered ++ owed = rest`), `read(n)` (`n > 0`, decoding on) never raises and returns exactly the
first `n` bytes of `rest` — at most `n` bytes, and fewer only when that is everything that was
left — and re-establishes the invariant for the remainder.  For ANY source obeying `RawReadSpec`
and ANY decoder obeying the `StreamLaw` (or no decoder). -/
theorem C12_read_n_exact {σ δ : Type} (S : Src σ) (D : Dec δ) (cfg : Cfg δ)
    {rem : σ → Bytes} {I : σ → Option Int → Prop} {G : δ → Bytes → Bytes → Prop}
    (hR : RawReadSpec S cfg rem I) (hD : StreamLaw D G) (n : Nat) (hn : 0 < n)
    (r : R σ δ) (rest : Bytes) (dco : Option Bool) (hdc : dco.getD cfg.decodeDefault = true)
    (hinv : Inv cfg rem I G r rest) (hfuel : (rem r.fp).length + 1 < cfg.fuel) :
    ∃ out r', read S D cfg r (some n) dco = (.ok out, r') ∧ out = rest.take n ∧
      out.length ≤ n ∧ (out.length < n → out = rest) ∧ Inv cfg rem I G r' (rest.drop n) := by
  obtain ⟨r', h1, h2, _⟩ := read_n_spec S D cfg hR hD n hn r rest dco hdc hinv hfuel
  refine ⟨rest.take n, r', h1, rfl, List.length_take_le n rest, fun hlt => ?_, h2⟩
  rw [List.length_take] at hlt
  exact List.take_of_length_le (by omega)

/-- `read()` (no amount, decoding on) never raises and returns everything that is left — the bytes
already decoded and waiting in the buffer first (finding `read-all-skips-decoded-buffer`), then what the
decoder still owes — and leaves nothing behind -/
theorem C12_read_all_exact {σ δ : Type} (S : Src σ) (D : Dec δ) (cfg : Cfg δ)
    {rem : σ → Bytes} {I : σ → Option Int → Prop} {G : δ → Bytes → Bytes → Prop}
    (hA : RawReadAllSpec S cfg rem I) (hD : StreamLaw D G)
    (r : R σ δ) (rest : Bytes) (dco : Option Bool) (cache : Bool)
    (hdc : dco.getD cfg.decodeDefault = true) (hinv : Inv cfg rem I G r rest) :
    ∃ r', read S D cfg r none dco cache = (.ok rest, r') ∧ Inv cfg rem I G r' [] ∧ rem r'.fp = [] := by
  obtain ⟨r', h1, h2, h3, _⟩ := read_all_spec S D cfg hA hD r rest dco cache hdc hinv
  exact ⟨r', h1, h2, h3⟩

/-- **`C12_concat`, `read` / `read1` family** (a part of it, see the header): for every list of calls
`read()`, `read(0)`, `read(n)` (= `readinto(n)`), `read1()`, `read1(n)` in any interleaving, with
decoding on: no call raises, there is one piece per call, and the concatenation of the pieces
followed by a final `read()` is the decoded payload — nothing lost, duplicated or reordered.
(Generic in source and decoder; the hypotheses are discharged for `http.client` on all three
framings and for urllib3's decoders, see `C12_concat`; the generators are members in
`C12_concat_api_partial`.) -/
theorem C12_concat_partial {σ δ : Type} (S : Src σ) (D : Dec δ) (cfg : Cfg δ)
    {rem : σ → Bytes} {I : σ → Option Int → Prop} {G : δ → Bytes → Bytes → Prop}
    (hR : RawReadSpec S cfg rem I) (hA : RawReadAllSpec S cfg rem I) (hR1 : RawRead1Spec S cfg rem I)
    (hD : StreamLaw D G) (dco : Option Bool) (hdc : dco.getD cfg.decodeDefault = true)
    (calls : List RCall) (r : R σ δ) (payload : Bytes)
    (hinv : Inv cfg rem I G r payload) (hfuel : (rem r.fp).length + 1 < cfg.fuel) :
    ∃ outs r' last r'', callSeq S D cfg dco calls r = (.ok outs, r') ∧ outs.length = calls.length ∧
      read S D cfg r' none dco = (.ok last, r'') ∧ outs.flatten ++ last = payload := by
  obtain ⟨outs, r', rest', h1, hinv', hcat, hlen⟩ :=
    callSeq_concat S D cfg hR hA hR1 hD dco hdc calls r payload ⟨hinv, hfuel⟩
  obtain ⟨r'', h2, _⟩ := read_all_spec S D cfg hA hD r' rest' dco false hdc hinv'.1
  exact ⟨outs, r', rest', r'', h1, hlen, h2, hcat⟩

/-- **`C12_concat`, decoding off**, `read` / `read1` family: with `decode_content=False` from
the start the same calls hand out the transfer-decoded *raw* payload — pieces ++ final `read()` are
the raw body bytes, whatever the `Content-Encoding` -/
theorem C12_concat_raw_partial {σ δ : Type} (S : Src σ) (D : Dec δ) (cfg : Cfg δ)
    {rem : σ → Bytes} {I : σ → Option Int → Prop}
    (hR : RawReadSpec S cfg rem I) (hA : RawReadAllSpec S cfg rem I) (hR1 : RawRead1Spec S cfg rem I)
    (dco : Option Bool) (hdc : dco.getD cfg.decodeDefault = false)
    (calls : List RCall) (r : R σ δ) (raw : Bytes) (hinv : RawInv rem I r raw) :
    ∃ outs r' last r'', callSeq S D cfg dco calls r = (.ok outs, r') ∧ outs.length = calls.length ∧
      read S D cfg r' none dco = (.ok last, r'') ∧ outs.flatten ++ last = raw := by
  obtain ⟨outs, r', raw', h1, hinv', hcat, hlen⟩ :=
    callSeq_concat_raw S D cfg hR hA hR1 dco hdc calls r raw hinv
  obtain ⟨r'', h2, _⟩ := read_raw_none S D cfg hA dco hdc r' raw' hinv'
  exact ⟨outs, r', raw', r'', h1, hlen, h2, hcat⟩

/-- `read1(n)` / `read1()` (decoding on) never raises and returns a prefix of what is left — at most
`n` bytes, and empty only when nothing is left (`read1(0)` excepted) — and re-establishes the
invariant for the remainder -/
theorem C12_read1_exact {σ δ : Type} (S : Src σ) (D : Dec δ) (cfg : Cfg δ)
    {rem : σ → Bytes} {I : σ → Option Int → Prop} {G : δ → Bytes → Bytes → Prop}
    (hR1 : RawRead1Spec S cfg rem I) (hD : StreamLaw D G) (amt : Option Nat)
    (r : R σ δ) (rest : Bytes) (dco : Option Bool) (hdc : dco.getD cfg.decodeDefault = true)
    (hinv : Inv cfg rem I G r rest) (hfuel : (rem r.fp).length + 1 < cfg.fuel) :
    ∃ out r' rest', read1 S D cfg r amt dco = (.ok out, r') ∧ out ++ rest' = rest ∧
      Inv cfg rem I G r' rest' ∧ (∀ n, amt = some n → out.length ≤ n) ∧
      (amt ≠ some 0 → out = [] → rest = []) := by
  obtain ⟨out, r', rest', h1, h2, h3, _, h5, h6⟩ := read1_spec S D cfg hR1 hD amt r rest dco hdc hinv hfuel
  exact ⟨out, r', rest', h1, h3, h2, h5, h6⟩

/-- once everything has been delivered, `read(n)`, `read(0)` and `read()` return b"" (and keep doing
so) -/
theorem C12_after_end_empty {σ δ : Type} (S : Src σ) (D : Dec δ) (cfg : Cfg δ)
    {rem : σ → Bytes} {I : σ → Option Int → Prop} {G : δ → Bytes → Bytes → Prop}
    (hR : RawReadSpec S cfg rem I) (hA : RawReadAllSpec S cfg rem I) (hD : StreamLaw D G)
    (amt : Option Nat) (r : R σ δ) (dco : Option Bool) (hdc : dco.getD cfg.decodeDefault = true)
    (hinv : Inv cfg rem I G r []) (hfuel : (rem r.fp).length + 1 < cfg.fuel) :
    ∃ r', read S D cfg r amt dco = (.ok [], r') ∧ Inv cfg rem I G r' [] := by
  obtain ⟨out, r', rest', h1, h2, h3, _⟩ := read_any_spec S D cfg hR hA hD amt dco hdc r [] ⟨hinv, hfuel⟩
  obtain ⟨rfl, rfl⟩ := List.append_eq_nil_iff.mp h3
  exact ⟨r', h1, h2.1⟩

/-- `.data` (which is what preloading stores) is exactly the bytes the read calls would have
delivered, and asking again returns the same bytes -/
theorem C12_preload_eq {σ δ : Type} (S : Src σ) (D : Dec δ) (cfg : Cfg δ)
    {rem : σ → Bytes} {I : σ → Option Int → Prop} {G : δ → Bytes → Bytes → Prop}
    (hA : RawReadAllSpec S cfg rem I) (hD : StreamLaw D G)
    (r : R σ δ) (payload : Bytes) (hdc : cfg.decodeDefault = true) (hb : r.body = none)
    (hinv : Inv cfg rem I G r payload) :
    ∃ r', data S D cfg r = (.ok payload, r') ∧ (data S D cfg r').1 = .ok payload :=
  data_spec S D cfg hA hD r payload hdc hb hinv

/-- `stream(amt)`, `read_chunked(amt)` and iteration never yield an empty piece — for every response
state, source, decoder and amount, also when they end in an exception -/
theorem C12_stream_nonempty {σ δ : Type} (S : Src σ) (D : Dec δ) (cfg : Cfg δ) (r : R σ δ)
    (amt : Option Nat) (dco : Option Bool) (dc : Bool) :
    (∀ x ∈ (stream S D cfg r amt dco).1.1, x ≠ []) ∧
    (∀ x ∈ (readChunked S D cfg r amt dc).1.1, x ≠ []) ∧
    (∀ x ∈ (iter S D cfg r).1.1, x ≠ []) :=
  ⟨stream_nonempty S D cfg r amt dco, readChunked_nonempty S D cfg r amt dc, iter_nonempty S D cfg r⟩

/-- finding `stream-none-spins-on-decoded-buffer` in general: on a non-chunked body `stream(amt)`
(`amt ≠ 0`, decoding on), started at ANY point of the body — also after partial `read(n)` /
`read1(n)` calls that left decoded bytes in the buffer — terminates, never raises, yields no empty
piece, and its pieces concatenate to exactly what was left.  Source laws beyond the read specs: a
`_raw_read` at the end of the body closes the file (`ClosesN`, `ClosesAll`), a closed file has
nothing left (`ClosedNil`). -/
theorem C12_stream_concat {σ δ : Type} (S : Src σ) (D : Dec δ) (cfg : Cfg δ)
    {rem : σ → Bytes} {I : σ → Option Int → Prop} {G : δ → Bytes → Bytes → Prop}
    (hR : RawReadSpec S cfg rem I) (hA : RawReadAllSpec S cfg rem I) (hD : StreamLaw D G)
    (hCN : ClosesN S cfg rem I) (hCA : ClosesAll S cfg I) (hZ : ClosedNil S rem I)
    (amt : Option Nat) (hamt : amt ≠ some 0) (dco : Option Bool) (hdc : dco.getD cfg.decodeDefault = true)
    (hnc : cfg.chunked = false) (r : R σ δ) (rest : Bytes) (hinv : Inv cfg rem I G r rest)
    (hfuelS : 2 * rest.length + 1 < cfg.fuel) (hfuel : (rem r.fp).length + 1 < cfg.fuel) :
    ∃ ps r', stream S D cfg r amt dco = ((ps, none), r') ∧ ps.flatten = rest ∧ (∀ x ∈ ps, x ≠ []) ∧
      Inv cfg rem I G r' [] := by
  obtain ⟨ps, r', hs, h2, h3⟩ := (InvB.streamCursor S D cfg hR hA hD hCN hCA hZ).stream hnc amt hamt dco hdc
    r rest ⟨hinv, hfuel⟩ hfuelS
  refine ⟨ps, r', hs, h2, ?_, h3.1⟩
  have := stream_nonempty S D cfg r amt dco
  rwa [hs] at this

/-- iterating over a non-chunked response (`__iter__` = `stream(65536)` re-split on `\n`), started
at any point of the body: terminates, never raises, yields no empty line piece, and the pieces
concatenate to exactly what was left (the re-splitting loses, duplicates and reorders nothing:
`flatten (iterSplit ps []) = flatten ps`) -/
theorem C12_iter_concat {σ δ : Type} (S : Src σ) (D : Dec δ) (cfg : Cfg δ)
    {rem : σ → Bytes} {I : σ → Option Int → Prop} {G : δ → Bytes → Bytes → Prop}
    (hR : RawReadSpec S cfg rem I) (hA : RawReadAllSpec S cfg rem I) (hD : StreamLaw D G)
    (hCN : ClosesN S cfg rem I) (hCA : ClosesAll S cfg I) (hZ : ClosedNil S rem I)
    (hnc : cfg.chunked = false) (r : R σ δ) (rest : Bytes) (hinv : Inv cfg rem I G r rest)
    (hfuelS : 2 * rest.length + 1 < cfg.fuel) (hfuel : (rem r.fp).length + 1 < cfg.fuel) :
    ∃ lines r', iter S D cfg r = ((lines, none), r') ∧ lines.flatten = rest ∧ (∀ x ∈ lines, x ≠ []) ∧
      Inv cfg rem I G r' [] := by
  obtain ⟨lines, r', h1, h2, h3⟩ := (InvB.streamCursor S D cfg hR hA hD hCN hCA hZ).iter hnc r rest ⟨hinv, hfuel⟩
    hfuelS
  refine ⟨lines, r', h1, h2, ?_, h3.1⟩
  have := iter_nonempty S D cfg r
  rwa [h1] at this

/-- the source hypotheses hold for `http.client` on every well-framed Content-Length or
close-delimited body (`HI`: not HEAD, not chunked, the promised bytes are there, `length_remaining`
in step), whatever the network segmentation: `_raw_read(n)` returns exactly the next
`min n |rest|` raw bytes, `_raw_read()` all of them, `_raw_read(n, read1=True)` a non-empty prefix of
at most `n` bytes (empty only at the end), none of them raises; a `_raw_read` at the end of the body
closes the file and a closed file has nothing left (the laws `stream` needs) -/
theorem C12_raw_read_exact {δ : Type} (cfg : Cfg δ) :
    RawReadSpec (δ := δ) hSrc cfg hRem HI ∧ RawReadAllSpec (δ := δ) hSrc cfg hRem HI ∧
    RawRead1Spec (δ := δ) hSrc cfg hRem HI ∧
    ClosesN (δ := δ) hSrc cfg hRem HI ∧ ClosesAll (δ := δ) hSrc cfg HI ∧ ClosedNil hSrc hRem HI :=
  ⟨rawReadSpec_of_src hSrc_spec, rawReadAllSpec_of_src hSrc_spec, rawRead1Spec_of_src hSrc_spec,
   closesN_of_src hSrc_spec, closesAll_of_src hSrc_spec, hSrc_spec.closedNil⟩

/-- **`zstd_multiframe`**: `ZstdDecoder` (as repaired in /repo) obeys the streaming law for EVERY
byte-step `decompressobj` — feeding `a ++ b` is feeding `a` then `b`, wherever the frame boundaries
fall relative to the feed boundaries, and `flush` succeeds at the end of a whole number of frames -/
theorem C12_zstd_multiframe {ρ : Type} (O : RawObj ρ) : StreamLaw (zsDec O) (ZsG O) :=
  zsDec_streamLaw O

/-- **`gzip_multimember`**: `GzipDecoder` (first member / further members / trailing garbage
swallowed) obeys the streaming law for EVERY byte-step `decompressobj`: with `GzG g raw p` = "the
byte-wise member state machine `gzRun` is defined on `raw` and yields `p`" — any number of members,
a member boundary anywhere relative to the feed boundaries, an unfinished last member, trailing
garbage after the first member that fails before producing output — feeding any prefix delivers a
prefix of `p` and leaves a state that owes the rest; `flush` holds nothing back.  (Where `gzRun` is
undefined the `decompressobj` reports `unsupported`, or the real decoder raises or is genuinely
split-dependent: garbage that decodes some bytes and then fails loses the output of the failing
call only.) -/
theorem C12_gzip_multimember {ρ : Type} (O : RawObj ρ) : StreamLaw (gzDec O) (GzG O) :=
  gzDec_streamLaw O

/-- **`deflate_fallback`**: `DeflateDecoder` (try zlib; on an error before the first output
switch to raw deflate and replay everything seen so far) obeys the streaming law for EVERY pair of
byte-step `decompressobj`s, wherever the feed boundaries fall relative to the point where the zlib
attempt fails -/
theorem C12_deflate_fallback {ρ : Type} (Oz Or : RawObj ρ) : StreamLaw (dfDec Oz Or) (DfG Oz Or) :=
  dfDec_streamLaw Oz Or

/-- **`multidecoder_order`**: a `MultiDecoder` over decoders obeying the streaming law obeys
it too — the codings are undone in reverse header order (`ChainG`: the last decoder sees the raw
bytes, the first delivers the payload), `flush` of the first decoder suffices at the end -/
theorem C12_multidecoder_order {δ : Type} (D : Dec δ) (G : δ → Bytes → Bytes → Prop)
    (hD : StreamLaw D G) : StreamLaw (multiDec D) (MultiG G) :=
  multiDec_streamLaw hD

/-- the decoder family the driver runs (`_get_decoder`: gzip / x-gzip, deflate, zstd and comma
lists of them over the stored-block / raw-block `decompressobj`s) obeys the streaming law -/
theorem C12_decoders_stream_law : StreamLaw cdDec CDGall := cdDec_streamLaw

/-- `C12_concat_partial` with no hypothesis left on source or decoder: `http.client` on a well-framed
Content-Length or close-delimited response (`HI`), urllib3's decoders (`CDGall` = the byte-wise
semantics of gzip incl. multi-member / deflate incl. raw fallback / zstd incl. multi-frame / stacked
codings), every network segmentation -/
theorem C12_concat_http_partial (cfg : Cfg CD) (dco : Option Bool) (hdc : dco.getD cfg.decodeDefault = true)
    (calls : List RCall) (r : R H CD) (payload : Bytes)
    (hinv : Inv cfg hRem HI CDGall r payload) (hfuel : (hRem r.fp).length + 1 < cfg.fuel) :
    ∃ outs r' last r'', callSeq hSrc cdDec cfg dco calls r = (.ok outs, r') ∧ outs.length = calls.length ∧
      read hSrc cdDec cfg r' none dco = (.ok last, r'') ∧ outs.flatten ++ last = payload :=
  C12_concat_partial hSrc cdDec cfg (rawReadSpec_of_src hSrc_spec) (rawReadAllSpec_of_src hSrc_spec)
    (rawRead1Spec_of_src hSrc_spec) cdDec_streamLaw dco hdc calls r payload hinv hfuel

/-! non-vacuity of the decoder relations: two gzip members "hello" + "hello" followed by garbage;
a zlib stream and a raw-deflate stream (fallback with replay) of "hi"; the stack
`Content-Encoding: deflate, zstd` = zstd(raw-deflate("hi")) -/

example : GzG gzipO (Gz.new gzipO) (gzipHello ++ gzipHello ++ [0, 1, 2]) (lit "hellohello") :=
  GzG_of_gzOk gzipO _ _ _ rfl (by decide +kernel)

example : DfG zlibO rawO (Df.new zlibO) [0x78, 0x01, 1, 2, 0, 253, 255, 104, 105, 0x01, 0x3b, 0x00, 0xd2] (lit "hi") :=
  DfG_of_dfOk zlibO rawO _ _ _ (by decide +kernel)

example : DfG zlibO rawO (Df.new zlibO) [1, 2, 0, 253, 255, 104, 105] (lit "hi") :=
  DfG_of_dfOk zlibO rawO _ _ _ (by decide +kernel)

example : CDGall (.multi [.deflate (Df.new zlibO), .zstd (ZObj.fresh zstdObj)])
    [40, 181, 47, 253, 32, 7, 57, 0, 0, 1, 2, 0, 253, 255, 104, 105] (lit "hi") :=
  ⟨by simp, [1, 2, 0, 253, 255, 104, 105],
    ⟨_, rfl, ZsG_of_zsOk zstdObj _ _ _ rfl (by decide +kernel)⟩,
    DfG_of_dfOk zlibO rawO _ _ _ (by decide +kernel)⟩

/-- the `Content-Encoding: gzip`, `Content-Length: 28` response "hello" satisfies `Inv` with the
decoder `_init_decoder` installs, for the segmentation 3 -/
example : Inv cfgGzipHello hRem HI CDGall
    ({ fp := hBegin ⟨[], wireGzipHello, 3⟩ none (some (lit "28")) false 200 false,
       lengthRemaining := some 28, conn := true } : R H CD) (lit "hello") :=
  inv_gzipHello

/-- **`C12_raw_read_exact`, chunked framing**: the source hypotheses hold for `http.client`'s own
chunk reader (`_read_chunked(amt)`, `_read1_chunked(n)`, `_get_chunk_left`, `_read_next_chunk_size`,
`_read_and_discard_trailer`) on every well-framed chunked body (`CI`: chunked, not HEAD, the
one-shot reference reader `refBody` accepts the bytes that are or will be there; `cRem` = what it
returns), for every network segmentation and every position inside the body (at a size line,
inside a chunk, before the CRLF that ends a chunk): `_raw_read(n)` = the next `min n |rest|` raw
bytes — across any number of chunk boundaries —, `_raw_read()` = all of them,
`_raw_read(n, read1=True)` = a non-empty prefix of at most `n` bytes within the current chunk; none
raises; and the closing laws `stream` needs -/
theorem C12_raw_read_exact_chunked {δ : Type} (cfg : Cfg δ) :
    RawReadSpec (δ := δ) hSrc cfg cRem CI ∧ RawReadAllSpec (δ := δ) hSrc cfg cRem CI ∧
    RawRead1Spec (δ := δ) hSrc cfg cRem CI ∧
    ClosesN (δ := δ) hSrc cfg cRem CI ∧ ClosesAll (δ := δ) hSrc cfg CI ∧ ClosedNil hSrc cRem CI :=
  ⟨rawReadSpec_of_src hSrc_spec_chunked, rawReadAllSpec_of_src hSrc_spec_chunked,
   rawRead1Spec_of_src hSrc_spec_chunked, closesN_of_src hSrc_spec_chunked, closesAll_of_src hSrc_spec_chunked,
   hSrc_spec_chunked.closedNil⟩

/-- **`C12_chunked_wellframed`**: what "well framed" covers and what the raw body then is — a
response whose wire holds ANY chunk vector (non-empty chunks of any sizes), each size line in ANY
spelling `http.client` accepts for that size (`SizeLineOk`: `int(line.split(b";")[0], 16)`, so hex in
either case, leading zeros, surrounding blanks, with or without chunk extensions), any two bytes
after each chunk, a last-chunk line, and anything after it (trailers, blank line, pipelined bytes)
satisfies `CI`, and its raw body `cRem` is the concatenation of the chunk data.  The usual
spellings `b"%x\r\n" % n` and `b"%x;" % n + ext + b"\r\n"` are size lines for `n`. -/
theorem C12_chunked_wellframed (h : H) (f : Fp) (cs : List WChunk) (last after : Bytes)
    (hh : h.head = false) (hc : h.chunked = true) (hcl : h.closed = false) (hf : h.fp = some f)
    (hl : h.chunkLeft = none) (hcont : f.content = encChunks cs last after)
    (hcs : ∀ c ∈ cs, c.ok) (hlast : SizeLineOk last 0) :
    CI h none ∧ cRem h = (cs.map WChunk.data).flatten ∧
    (∀ n, SizeLineOk (hexDigits n ++ crlf) n) ∧
    (∀ n ext, LF ∉ ext → SizeLineOk (hexDigits n ++ 59 :: (ext ++ crlf)) n) := by
  obtain ⟨h1, h2⟩ := CInv_of_encoded h f cs last after hh hc hcl hf hl hcont hcs hlast
  exact ⟨⟨h1, rfl⟩, h2, sizeLineOk_hex, sizeLineOk_hex_ext⟩

example : (⟨lit "5;x=y\r\n", lit "hello", crlf⟩ : WChunk).ok :=
  ⟨⟨⟨lit "5;x=y\r", by decide +kernel⟩, by decide +kernel⟩, by decide +kernel⟩

example : SizeLineOk (lit "0\r\n") 0 := ⟨⟨lit "0\r", by decide +kernel⟩, by decide +kernel⟩

/-- `C12_concat_partial` for `http.client` on a well-framed chunked response (`CI`, `cRem`: through
its own chunk reader) and urllib3's decoders, every network segmentation -/
theorem C12_concat_http_chunked_partial (cfg : Cfg CD) (dco : Option Bool) (hdc : dco.getD cfg.decodeDefault = true)
    (calls : List RCall) (r : R H CD) (payload : Bytes)
    (hinv : Inv cfg cRem CI CDGall r payload) (hfuel : (cRem r.fp).length + 1 < cfg.fuel) :
    ∃ outs r' last r'', callSeq hSrc cdDec cfg dco calls r = (.ok outs, r') ∧ outs.length = calls.length ∧
      read hSrc cdDec cfg r' none dco = (.ok last, r'') ∧ outs.flatten ++ last = payload :=
  C12_concat_partial hSrc cdDec cfg (rawReadSpec_of_src hSrc_spec_chunked) (rawReadAllSpec_of_src hSrc_spec_chunked)
    (rawRead1Spec_of_src hSrc_spec_chunked) cdDec_streamLaw dco hdc calls r payload hinv hfuel

/-- chunked `http.client` sources with decoding off (`RawInv … cRem CI`): for every interleaving of
the `read` / `read1` family, pieces ++ final `read()` = the de-chunked raw body, whatever the
`Content-Encoding` -/
theorem C12_concat_raw_http_chunked_partial (cfg : Cfg CD) (dco : Option Bool) (hdc : dco.getD cfg.decodeDefault = false)
    (calls : List RCall) (r : R H CD) (raw : Bytes) (hinv : RawInv cRem CI r raw) :
    ∃ outs r' last r'', callSeq hSrc cdDec cfg dco calls r = (.ok outs, r') ∧ outs.length = calls.length ∧
      read hSrc cdDec cfg r' none dco = (.ok last, r'') ∧ outs.flatten ++ last = raw :=
  C12_concat_raw_partial hSrc cdDec cfg (rawReadSpec_of_src hSrc_spec_chunked)
    (rawReadAllSpec_of_src hSrc_spec_chunked) (rawRead1Spec_of_src hSrc_spec_chunked) dco hdc calls r raw hinv

/-- non-vacuity: the chunked gzip response `wireChunkedGzipHello` (three chunks of 10 / 10 / 8
bytes, one with a chunk extension, a trailer) satisfies `Inv` for segmentation 3 -/
example : Inv cfgGzipChunked cRem CI CDGall
    ({ fp := hBegin ⟨[], wireChunkedGzipHello, 3⟩ (some (lit "chunked")) none false 200 false,
       lengthRemaining := none, conn := true } : R H CD) (lit "hello") :=
  inv_chunkedGzipHello

/-- `respChunkedGzipHello.fp` is `begin()` on `wireChunkedGzipHello`; the examples below spell the
response out and are evaluated through its value `begin_chunkedGzipHello` -/
theorem hBegin_chunkedGzipHello :
    hBegin ⟨[], wireChunkedGzipHello, 3⟩ (some (lit "chunked")) none false 200 false = respChunkedGzipHello.fp :=
  rfl

/-- the model evaluated on the chunked gzip response, as the theorems say: `read(2)`, `read1()`,
`read(0)`, `read()` -/
example : out (callSeq hSrc cdDec cfgGzipChunked (some true)
      [.read (some 2), .read1 none, .read (some 0), .read none]
      ({ fp := hBegin ⟨[], wireChunkedGzipHello, 3⟩ (some (lit "chunked")) none false 200 false,
         lengthRemaining := none, conn := true } : R H CD)) = some [lit "he", lit "l", [], lit "lo"] := by
  rw [hBegin_chunkedGzipHello, begin_chunkedGzipHello, chunkedGzipHello]
  simp only [lit_ofList]
  decide +kernel

/-- **`C12_concat` over the whole API** (non-chunked bodies; partial only in the framing): for every
list of calls over `read()`, `read(0)`, `read(n)`, `read1()`, `read1(n)`, `readinto(k)` (which has no
`decode_content` parameter and uses the response default), `stream(n)` / `stream(None)` and
iteration — the generators run to completion — in ANY interleaving, with decoding on: no call
raises, every call returns its list of pieces, and all pieces in order followed by a final `read()`
are the decoded payload.  (`stream(0)` is excluded: it never terminates, by design of `read(0)`.  A
generator abandoned half-way on a non-chunked body is a sequence of `read(amt)` calls.) -/
theorem C12_concat_api_partial {σ δ : Type} (S : Src σ) (D : Dec δ) (cfg : Cfg δ)
    {rem : σ → Bytes} {I : σ → Option Int → Prop} {G : δ → Bytes → Bytes → Prop}
    (hR : RawReadSpec S cfg rem I) (hA : RawReadAllSpec S cfg rem I) (hR1 : RawRead1Spec S cfg rem I)
    (hD : StreamLaw D G) (hCN : ClosesN S cfg rem I) (hCA : ClosesAll S cfg I) (hZ : ClosedNil S rem I)
    (dco : Option Bool) (hdc : dco.getD cfg.decodeDefault = true) (hdef : cfg.decodeDefault = true)
    (hnc : cfg.chunked = false) (calls : List Call) (hcs : ∀ c ∈ calls, c ≠ .stream (some 0))
    (r : R σ δ) (payload : Bytes) (hinv : Inv cfg rem I G r payload)
    (hfuelS : 2 * payload.length + 1 < cfg.fuel) (hfuel : (rem r.fp).length + 1 < cfg.fuel) :
    ∃ pss r' last r'', callSeqG S D cfg dco calls r = ((pss, none), r') ∧ pss.length = calls.length ∧
      read S D cfg r' none dco = (.ok last, r'') ∧ pss.flatten.flatten ++ last = payload := by
  obtain ⟨pss, r', rest', h1, hinv', hcat, hlen⟩ := (InvB.cursor S D cfg hR hA hR1 hD hCN hCA hZ).callSeqG dco hdc
    hdef hnc calls r payload (fun c hc => ⟨hcs c hc, fun _ => rfl⟩) ⟨hinv, hfuel⟩ hfuelS
  obtain ⟨r'', h2, _⟩ := read_all_spec S D cfg hA hD r' rest' dco false hdc hinv'.1
  exact ⟨pss, r', rest', r'', h1, hlen, h2, hcat⟩

/-- the whole API on non-chunked bodies with decoding off from the start (`RawInv`; iteration always
decodes and is not a member; `readinto` follows the response default, hence
`cfg.decodeDefault = false`): all pieces in order followed by a final `read()` are the
transfer-decoded raw payload -/
theorem C12_concat_api_raw_partial {σ δ : Type} (S : Src σ) (D : Dec δ) (cfg : Cfg δ)
    {rem : σ → Bytes} {I : σ → Option Int → Prop}
    (hR : RawReadSpec S cfg rem I) (hA : RawReadAllSpec S cfg rem I) (hR1 : RawRead1Spec S cfg rem I)
    (hCN : ClosesN S cfg rem I) (hCA : ClosesAll S cfg I) (hZ : ClosedNil S rem I)
    (dco : Option Bool) (hdc : dco.getD cfg.decodeDefault = false) (hdef : cfg.decodeDefault = false)
    (hnc : cfg.chunked = false) (calls : List Call) (hcs : ∀ c ∈ calls, c ≠ .stream (some 0) ∧ c ≠ .iter)
    (r : R σ δ) (raw : Bytes) (hinv : RawInv rem I r raw) (hfuelS : 2 * raw.length + 1 < cfg.fuel) :
    ∃ pss r' last r'', callSeqG S D cfg dco calls r = ((pss, none), r') ∧ pss.length = calls.length ∧
      read S D cfg r' none dco = (.ok last, r'') ∧ pss.flatten.flatten ++ last = raw := by
  obtain ⟨pss, r', raw', h1, hinv', hcat, hlen⟩ := (RawInv.cursor S D cfg hR hA hR1 hCN hCA hZ).callSeqG dco hdc
    hdef hnc calls r raw (fun c hc => ⟨(hcs c hc).1, fun h => absurd h (hcs c hc).2⟩) hinv hfuelS
  obtain ⟨r'', h2, _⟩ := read_raw_none S D cfg hA dco hdc r' raw' hinv'
  exact ⟨pss, r', raw', r'', h1, hlen, h2, hcat⟩

/-- how `Inv` starts: on a response nothing has been read from (no decoder installed yet, empty
buffer) the invariant says exactly "the framing is intact and the decoder `_init_decoder` will
install (`cfg.newDecoder`, none for identity) makes `payload` of the raw body" -/
theorem C12_inv_at_start {σ δ : Type} (cfg : Cfg δ) {rem : σ → Bytes} {I : σ → Option Int → Prop}
    {G : δ → Bytes → Bytes → Prop} (r : R σ δ) (payload : Bytes)
    (hdec : r.decoder = none) (hbuf : r.buf = []) :
    Inv cfg rem I G r payload ↔
      (I r.fp r.lengthRemaining ∧ Owes G cfg.newDecoder (rem r.fp) payload) := by
  constructor
  · rintro ⟨hI, p, hO, hp⟩
    rw [hdec] at hO
    rw [hbuf] at hp
    exact ⟨hI, hp ▸ hO⟩
  · rintro ⟨hI, hO⟩
    exact ⟨hI, payload, by rw [hdec]; exact hO, by rw [hbuf]; rfl⟩

/-- what `begin()` leaves of the two-frame zstd response `wireZstdAA`: the head is skipped, the 20
body bytes wait on the wire -/
theorem begin_zstdAA : hBegin ⟨[], wireZstdAA, 3⟩ none (some (lit "20")) false 200 false =
    ⟨some ⟨[], zstdFrameA ++ zstdFrameA, 3⟩, false, false, none, some 20, false, false⟩ := by
  rw [wireZstdAA]
  simp only [lit_ofList]
  decide +kernel

/-- the whole API evaluated on the two-frame zstd response: `readinto(1)`, `read(0)`, `stream(1)`,
iteration, `read1()` -/
example :
    (callSeqG hSrc cdDec cfgZstdAA (some true) [.readinto 1, .read (some 0), .stream (some 1), .iter, .read1 none]
      ({ fp := hBegin ⟨[], wireZstdAA, 3⟩ none (some (lit "20")) false 200 false,
         lengthRemaining := some 20, conn := true } : R H CD)).1 =
      ([[lit "a"], [[]], [lit "a"], [], [[]]], none) := by
  rw [begin_zstdAA]
  decide +kernel

/-- `read_chunked(amt)` / `stream(amt)` (`amt ≠ 0`, decoding on) run by urllib3's own chunk parser
from the start of a well-framed chunked body — ANY chunk vector, size-line spelling, chunk
extensions, trailers (`CI` / `cRem`: the same reference reader as for `http.client`), any decoder
obeying the `StreamLaw`, any segmentation, `amt` smaller or larger than the chunks: terminates,
never raises, yields no empty piece, the pieces concatenate to the decoded payload, the file ends up
closed and the response at its end (`Inv … []`: every later `read` / `read1` returns b"",
`C12_after_end_empty`) -/
theorem C12_read_chunked_concat {δ : Type} (D : Dec δ) (cfg : Cfg δ) {G : δ → Bytes → Bytes → Prop}
    (hD : StreamLaw D G) (amt : Option Nat) (hamt : amt ≠ some 0)
    (hch : cfg.chunked = true) (hhd : cfg.head = false) (r : R H δ) (payload : Bytes)
    (hinv : Inv cfg cRem CI G r payload) (hfr : Fresh r)
    (hfuel : ∀ f, r.fp.fp = some f → f.content.length < cfg.fuel) :
    ∃ ps r', readChunked hSrc D cfg r amt true = ((ps, none), r') ∧
      stream hSrc D cfg r amt (some true) = ((ps, none), r') ∧
      ps.flatten = payload ∧ (∀ x ∈ ps, x ≠ []) ∧ Inv cfg cRem CI G r' [] ∧ hSrc.isclosed r'.fp = true := by
  obtain ⟨ps, r', h1, h2, h3, h4⟩ := readChunked_on D cfg hD amt hamt hch hhd r payload hinv hfr hfuel
  refine ⟨ps, r', h1, by simp [stream, hch, h1], h2, ?_, h3, h4⟩
  have := readChunked_nonempty hSrc D cfg r amt true
  rwa [h1] at this

/-- `read_chunked(amt)` / `stream(amt)` (`amt ≠ 0`) with `decode_content=False` from the start of a
well-framed chunked body: no empty piece, and the pieces concatenate to the de-chunked raw body -/
theorem C12_read_chunked_raw_concat {δ : Type} (D : Dec δ) (cfg : Cfg δ)
    (amt : Option Nat) (hamt : amt ≠ some 0) (hch : cfg.chunked = true) (hhd : cfg.head = false)
    (r : R H δ) (raw : Bytes) (hinv : RawInv cRem CI r raw) (hfr : Fresh r)
    (hfuel : ∀ f, r.fp.fp = some f → f.content.length < cfg.fuel) :
    ∃ ps r', readChunked hSrc D cfg r amt false = ((ps, none), r') ∧
      stream hSrc D cfg r amt (some false) = ((ps, none), r') ∧ ps.flatten = raw ∧ (∀ x ∈ ps, x ≠ []) := by
  obtain ⟨ps, r', h1, h2, _⟩ := readChunked_raw D cfg amt hamt hch hhd r raw hinv hfr hfuel
  refine ⟨ps, r', h1, by simp [stream, hch, h1], h2, ?_⟩
  have := readChunked_nonempty hSrc D cfg r amt false
  rwa [h1] at this

/-- iteration over a well-framed chunked response from the start: terminates, never raises, no empty
line piece, the pieces concatenate to the decoded payload -/
theorem C12_iter_chunked_concat {δ : Type} (D : Dec δ) (cfg : Cfg δ) {G : δ → Bytes → Bytes → Prop}
    (hD : StreamLaw D G) (hch : cfg.chunked = true) (hhd : cfg.head = false) (r : R H δ) (payload : Bytes)
    (hinv : Inv cfg cRem CI G r payload) (hfr : Fresh r)
    (hfuel : ∀ f, r.fp.fp = some f → f.content.length < cfg.fuel) :
    ∃ lines r', iter hSrc D cfg r = ((lines, none), r') ∧ lines.flatten = payload ∧ (∀ x ∈ lines, x ≠ []) ∧
      Inv cfg cRem CI G r' [] := by
  obtain ⟨ps, r', _, hs, h2, _, h3, _⟩ :=
    C12_read_chunked_concat D cfg hD (some 65536) (by simp) hch hhd r payload hinv hfr hfuel
  have hi : iter hSrc D cfg r = ((iterSplit ps [], none), r') := by rw [iter, hs]
  refine ⟨iterSplit ps [], r', hi, by rw [iterSplit_flatten, h2]; rfl, ?_, h3⟩
  have := iter_nonempty hSrc D cfg r
  rwa [hi] at this

/-- for EVERY list of payloads (each at most 65535 bytes), the stored-block gzip stream
`gzStream ps` (one member per payload: header, final stored block, CRC-32, ISIZE — what `zlib`
produces at level 0 for short inputs, up to the XFL and OS bytes of the header) stands in the
relation `GzG` / `CDGall` to the concatenated payload: the hypothesis `Inv` of the theorems above is
met by real gzip bytes for all payloads and member counts, not only by evaluated examples -/
theorem C12_gzip_stored_family (ps : List Bytes) (hps : ∀ p ∈ ps, p.length ≤ 65535 ∧ ∀ b ∈ p, b < 256) :
    GzG gzipO (Gz.new gzipO) (gzStream ps) ps.flatten ∧
    CDGall (.one (.gzip (Gz.new gzipO))) (gzStream ps) ps.flatten :=
  ⟨GzG_gzStream ps hps, GzG_gzStream ps hps⟩

/-- a fresh `Content-Encoding: gzip` response whose *chunked* body carries `gzStream ps` in ANY
chunk vector (any size-line spellings, extensions, trailers) satisfies `Inv` for the payload
`ps.flatten` — every hypothesis of `C12_concat` (b) is discharged for all payloads and chunkings -/
theorem C12_inv_gzip_chunked (cfg : Cfg CD) (hnd : cfg.newDecoder = some (.one (.gzip (Gz.new gzipO))))
    (r : R H CD) (f : Fp) (cs : List WChunk) (last after : Bytes) (ps : List Bytes)
    (hdec : r.decoder = none) (hbuf : r.buf = []) (hlr : r.lengthRemaining = none) (hcl0 : r.chunkLeft = none)
    (hh : r.fp.head = false) (hc : r.fp.chunked = true) (hcl : r.fp.closed = false) (hf : r.fp.fp = some f)
    (hl : r.fp.chunkLeft = none) (hcont : f.content = encChunks cs last after)
    (hcs : ∀ c ∈ cs, c.ok) (hlast : SizeLineOk last 0)
    (hdata : (cs.map WChunk.data).flatten = gzStream ps)
    (hps : ∀ p ∈ ps, p.length ≤ 65535 ∧ ∀ b ∈ p, b < 256) :
    Inv cfg cRem CI CDGall r ps.flatten ∧ Fresh r := by
  obtain ⟨h1, h2⟩ := CInv_of_encoded r.fp f cs last after hh hc hcl hf hl hcont hcs hlast
  refine ⟨(C12_inv_at_start cfg r ps.flatten hdec hbuf).mpr ⟨⟨h1, hlr⟩, ?_⟩, ⟨by rw [hbuf]; rfl, hcl0, hl⟩⟩
  rw [hnd, h2, hdata]
  exact GzG_gzStream ps hps

/-- a fresh `Content-Encoding: gzip` response carrying `gzStream ps` under a `Content-Length` (or,
with `length = none`, close-delimited) framing satisfies `Inv` for the payload `ps.flatten` -/
theorem C12_inv_gzip_length (cfg : Cfg CD) (hnd : cfg.newDecoder = some (.one (.gzip (Gz.new gzipO))))
    (r : R H CD) (f : Fp) (ps : List Bytes)
    (hdec : r.decoder = none) (hbuf : r.buf = [])
    (hh : r.fp.head = false) (hc : r.fp.chunked = false) (hcl : r.fp.closed = false) (hf : r.fp.fp = some f)
    (hcont : f.content = gzStream ps)
    (hlen : (r.fp.length = some (gzStream ps).length ∧ r.lengthRemaining = some ((gzStream ps).length : Int)) ∨
            (r.fp.length = none ∧ r.lengthRemaining = none))
    (hps : ∀ p ∈ ps, p.length ≤ 65535 ∧ ∀ b ∈ p, b < 256) :
    Inv cfg hRem HI CDGall r ps.flatten := by
  rw [← hcont] at hlen
  obtain ⟨hi, hrem⟩ := HI_whole hh hc hcl hf hlen
  refine (C12_inv_at_start cfg r ps.flatten hdec hbuf).mpr ⟨hi, ?_⟩
  rw [hnd, hrem, hcont]
  exact GzG_gzStream ps hps

example : ∀ p ∈ [lit "hello", [], lit "!"], p.length ≤ 65535 ∧ ∀ b ∈ p, b < 256 := by decide

/-- **`C12_concat`** — the headline, for responses read through `http.client` (`hSrc`) with
urllib3's decoders (`cdDec`), decoding on, in the reading of DESIGN §6 "Interpretation":

(a) *Content-Length / close-delimited framing* (`Inv … hRem HI …`): EVERY interleaving of
`read()`, `read(0)`, `read(n)`, `read1()`, `read1(n)`, `readinto(k)`, `stream(n)`, `stream(None)` and
iteration: no call raises and all pieces in order, followed by a final `read()`, are the payload.

(b) *chunked framing* (`Inv … cRem CI …`): every interleaving of the `read` / `read1` family
(through `http.client`'s chunk reader); and, from the start of the body (`Fresh`), each whole-body
consumer `read_chunked(amt)` = `stream(amt)` (`amt ≠ 0`) and iteration (urllib3's own chunk parser):
the pieces are the payload and every `read` / `read1` call afterwards returns b"".  (Switching
between the two chunk parsers in mid-body is outside the quantified domain, DESIGN §6.)

`payload` is tied to the wire by `Inv` (`C12_inv_at_start`): `CDGall` = byte-wise semantics of gzip
incl. multi-member and trailing garbage / deflate incl. raw fallback / zstd incl. multi-frame /
stacked codings over the stored-block / raw-block `decompressobj`s; `HI` / `CI` = intact framing for
any body, any chunk vector, size-line spelling, extension, trailer (`C12_chunked_wellframed`), any
network segmentation.  The fuel hypotheses only say that the model's loop bounds exceed the sizes
involved (the driver uses 64·|wire| + 100000).  Decoding off: `C12_concat_api_raw_partial`,
`C12_concat_raw_http_chunked_partial`, `C12_read_chunked_raw_concat`. -/
theorem C12_concat (cfg : Cfg CD) (r : R H CD) (payload : Bytes) (hdef : cfg.decodeDefault = true)
    (hhd : cfg.head = false) :
    (cfg.chunked = false → Inv cfg hRem HI CDGall r payload →
      2 * payload.length + 1 < cfg.fuel → (hRem r.fp).length + 1 < cfg.fuel →
      ∀ calls : List Call, (∀ c ∈ calls, c ≠ .stream (some 0)) →
        ∃ pss r' last r'', callSeqG hSrc cdDec cfg (some true) calls r = ((pss, none), r') ∧
          pss.length = calls.length ∧ read hSrc cdDec cfg r' none (some true) = (.ok last, r'') ∧
          pss.flatten.flatten ++ last = payload) ∧
    (cfg.chunked = true → Inv cfg cRem CI CDGall r payload →
      (cRem r.fp).length + 1 < cfg.fuel → (∀ f, r.fp.fp = some f → f.content.length < cfg.fuel) →
      (∀ calls : List RCall,
        ∃ outs r' last r'', callSeq hSrc cdDec cfg (some true) calls r = (.ok outs, r') ∧
          outs.length = calls.length ∧ read hSrc cdDec cfg r' none (some true) = (.ok last, r'') ∧
          outs.flatten ++ last = payload) ∧
      (Fresh r → ∀ amt : Option Nat, amt ≠ some 0 →
        ∃ ps lines r', readChunked hSrc cdDec cfg r amt true = ((ps, none), r') ∧
          stream hSrc cdDec cfg r amt (some true) = ((ps, none), r') ∧ ps.flatten = payload ∧
          (iter hSrc cdDec cfg r).1 = (lines, none) ∧ lines.flatten = payload ∧
          ∀ tail : List RCall, ∃ outs r'', callSeq hSrc cdDec cfg (some true) tail r' = (.ok outs, r'') ∧
            outs.length = tail.length ∧ outs.flatten = [])) := by
  have hdc : (some true : Option Bool).getD cfg.decodeDefault = true := rfl
  refine ⟨fun hnc hinv hfS hf calls hcs => ?_, fun hch hinv hf hfc => ⟨fun calls => ?_, fun hfr amt hamt => ?_⟩⟩
  · exact C12_concat_api_partial hSrc cdDec cfg (rawReadSpec_of_src hSrc_spec) (rawReadAllSpec_of_src hSrc_spec)
      (rawRead1Spec_of_src hSrc_spec) cdDec_streamLaw (closesN_of_src hSrc_spec) (closesAll_of_src hSrc_spec)
      hSrc_spec.closedNil (some true) hdc hdef hnc calls hcs r payload hinv hfS hf
  · exact C12_concat_http_chunked_partial cfg (some true) hdc calls r payload hinv hf
  · obtain ⟨ps, r', h1, h2, h3, _, h5, h6⟩ :=
      C12_read_chunked_concat cdDec cfg cdDec_streamLaw amt hamt hch hhd r payload hinv hfr hfc
    obtain ⟨lines, ri, i1, i2, _⟩ :=
      C12_iter_chunked_concat cdDec cfg cdDec_streamLaw hch hhd r payload hinv hfr hfc
    refine ⟨ps, lines, r', h1, h2, h3, by rw [i1], i2, fun tail => ?_⟩
    have hrem : cRem r'.fp = [] := hSrc_spec_chunked.closedNil r'.fp r'.lengthRemaining h5.framing h6
    obtain ⟨outs, r'', _, _, e1, e4, _, e3⟩ := C12_concat_http_chunked_partial cfg (some true) hdc tail r' [] h5
      (by
        rw [hrem]
        simp only [List.length_nil]
        omega)
    exact ⟨outs, r'', e1, e4, (List.append_eq_nil_iff.mp e3).1⟩

/-- non-vacuity: the chunked gzip response is `Fresh`, and `stream(7)` / `read_chunked(None)` /
iteration on it yield "hello" -/
example : Fresh
    ({ fp := hBegin ⟨[], wireChunkedGzipHello, 3⟩ (some (lit "chunked")) none false 200 false,
       lengthRemaining := none, conn := true } : R H CD) := ⟨rfl, rfl, by rw [hBegin_chunkedGzipHello, begin_chunkedGzipHello]⟩

example :
    let r0 : R H CD := { fp := hBegin ⟨[], wireChunkedGzipHello, 3⟩ (some (lit "chunked")) none false 200 false,
                         lengthRemaining := none, conn := true }
    let cfg : Cfg CD := cfgGzipChunked
    (stream hSrc cdDec cfg r0 (some 7) (some true)).1 = ([lit "he", lit "llo"], none) ∧
    (readChunked hSrc cdDec cfg r0 none true).1 = ([lit "hello"], none) ∧
    (iter hSrc cdDec cfg r0).1 = ([lit "hello"], none) := by
  simp only [hBegin_chunkedGzipHello, begin_chunkedGzipHello]
  decide +kernel

/-! non-vacuity of the hypotheses of the theorems above: the `Content-Length: 20`,
`Content-Encoding: zstd` response carrying two frames "a" + "a", segmentation 3 -/

example : StreamLaw cdDec CDG := cdDec_streamLaw_zstd

theorem HI_zstdAA : HI (hBegin ⟨[], wireZstdAA, 3⟩ none (some (lit "20")) false 200 false) (some 20) :=
  (HI_begin begin_zstdAA rfl).1

example : Inv cfgZstdAA hRem HI CDG
    ({ fp := hBegin ⟨[], wireZstdAA, 3⟩ none (some (lit "20")) false 200 false,
       lengthRemaining := some 20, conn := true } : R H CD) (lit "aa") :=
  ⟨HI_zstdAA, lit "aa", by rw [begin_zstdAA]; exact ZsG_of_zsOk zstdObj _ _ _ rfl (by decide +kernel), rfl⟩

/-- the same response satisfies `RawInv` (decoding off): what is left is the raw body -/
example : RawInv hRem HI
    ({ fp := hBegin ⟨[], wireZstdAA, 3⟩ none (some (lit "20")) false 200 false,
       lengthRemaining := some 20, conn := true } : R H CD) (zstdFrameA ++ zstdFrameA) :=
  ⟨HI_zstdAA, rfl, rfl, by rw [begin_zstdAA]; decide⟩

/-- the model evaluated on the two-frame zstd response, as the theorems say: `read(1)`, `read(0)`,
`read1()`, `read()` -/
example : out (callSeq hSrc cdDec cfgZstdAA (some true) [.read (some 1), .read (some 0), .read1 none, .read none]
      ({ fp := hBegin ⟨[], wireZstdAA, 3⟩ none (some (lit "20")) false 200 false,
         lengthRemaining := some 20, conn := true } : R H CD)) = some [lit "a", [], lit "a", []] := by
  rw [begin_zstdAA]
  decide +kernel

/-- on the two-frame zstd response: `stream(None)` after a partial `read(1)`, and `stream(1)` from
the start -/
example :
    let r0 : R H CD := { fp := hBegin ⟨[], wireZstdAA, 3⟩ none (some (lit "20")) false 200 false,
                         lengthRemaining := some 20, conn := true }
    let s1 := read hSrc cdDec cfgZstdAA r0 (some 1) (some true)
    (stream hSrc cdDec cfgZstdAA s1.2 none (some true)).1 = ([lit "a"], none) ∧
    (stream hSrc cdDec cfgZstdAA r0 (some 1) (some true)).1 = ([lit "a", lit "a"], none) := by
  simp only [begin_zstdAA]
  decide +kernel

/-- `drain_conn()` (= `read()` with the result thrown away and urllib3 / socket errors swallowed)
called at ANY point of a well-framed body — also with decoded bytes waiting in the buffer after
partial reads — returns without an exception and leaves the response at its end: every later call of
the `read` / `read1` family, in any interleaving, returns b"". For ANY source obeying the read specs
and ANY decoder obeying the streaming law (or none). -/
theorem C12_drain_leaves_nothing {σ δ : Type} (S : Src σ) (D : Dec δ) (cfg : Cfg δ)
    {rem : σ → Bytes} {I : σ → Option Int → Prop} {G : δ → Bytes → Bytes → Prop}
    (hR : RawReadSpec S cfg rem I) (hA : RawReadAllSpec S cfg rem I) (hR1 : RawRead1Spec S cfg rem I)
    (hD : StreamLaw D G) (hdef : cfg.decodeDefault = true)
    (dco : Option Bool) (hdc : dco.getD cfg.decodeDefault = true)
    (r : R σ δ) (rest : Bytes) (hinv : Inv cfg rem I G r rest) (hfuel : 1 < cfg.fuel) :
    ∃ r', drainConn S D cfg r = (.ok (), r') ∧ Inv cfg rem I G r' [] ∧
      ∀ tail : List RCall, ∃ outs r'', callSeq S D cfg dco tail r' = (.ok outs, r'') ∧
        outs.length = tail.length ∧ outs.flatten = [] := by
  obtain ⟨r', h1, hinv', hrem⟩ := drainConn_spec S D cfg hA hD hdef r rest hinv
  refine ⟨r', h1, hinv', fun tail => ?_⟩
  obtain ⟨outs, r'', rest', e1, _, e3, e4⟩ :=
    callSeq_concat S D cfg hR hA hR1 hD dco hdc tail r' [] ⟨hinv', by rw [hrem]; simpa using hfuel⟩
  exact ⟨outs, r'', e1, e4, (List.append_eq_nil_iff.mp e3).1⟩

/-- `drain_conn()` with `decode_content=False` throughout (`RawInv`: nothing decoded so far): it
returns without an exception and every later `read` / `read1` call returns b"" -/
theorem C12_drain_leaves_nothing_raw {σ δ : Type} (S : Src σ) (D : Dec δ) (cfg : Cfg δ)
    {rem : σ → Bytes} {I : σ → Option Int → Prop}
    (hR : RawReadSpec S cfg rem I) (hA : RawReadAllSpec S cfg rem I) (hR1 : RawRead1Spec S cfg rem I)
    (hdef : cfg.decodeDefault = false) (dco : Option Bool) (hdc : dco.getD cfg.decodeDefault = false)
    (r : R σ δ) (raw : Bytes) (hinv : RawInv rem I r raw) :
    ∃ r', drainConn S D cfg r = (.ok (), r') ∧ RawInv rem I r' [] ∧
      ∀ tail : List RCall, ∃ outs r'', callSeq S D cfg dco tail r' = (.ok outs, r'') ∧
        outs.length = tail.length ∧ outs.flatten = [] := by
  obtain ⟨r', h1, hinv'⟩ := drainConn_spec_raw S D cfg hA hdef r raw hinv
  refine ⟨r', h1, hinv', fun tail => ?_⟩
  obtain ⟨outs, r'', raw', e1, _, e3, e4⟩ := callSeq_concat_raw S D cfg hR hA hR1 dco hdc tail r' [] hinv'
  exact ⟨outs, r'', e1, e4, (List.append_eq_nil_iff.mp e3).1⟩

/-- `drain_conn()` after any interleaving, for responses read through `http.client` with urllib3's
decoders, decoding on (the domain of `C12_concat`):
(a) Content-Length / close-delimited framing: after EVERY interleaving of `read()`, `read(0)`,
`read(n)`, `read1()`, `read1(n)`, `readinto(k)`, `stream(n)`, `stream(None)` and iteration;
(b) chunked framing: after every interleaving of the `read` / `read1` family (`drain_conn` is `read()`:
`http.client`'s chunk reader);
`drain_conn()` returns without an exception and every later `read` / `read1` call returns b"". -/
theorem C12_drain_after_calls (cfg : Cfg CD) (r : R H CD) (payload : Bytes) (hdef : cfg.decodeDefault = true) :
    (cfg.chunked = false → Inv cfg hRem HI CDGall r payload →
      2 * payload.length + 1 < cfg.fuel → (hRem r.fp).length + 1 < cfg.fuel →
      ∀ calls : List Call, (∀ c ∈ calls, c ≠ .stream (some 0)) →
        ∃ pss r' r'', callSeqG hSrc cdDec cfg (some true) calls r = ((pss, none), r') ∧
          drainConn hSrc cdDec cfg r' = (.ok (), r'') ∧
          ∀ tail : List RCall, ∃ outs r3, callSeq hSrc cdDec cfg (some true) tail r'' = (.ok outs, r3) ∧
            outs.length = tail.length ∧ outs.flatten = []) ∧
    (Inv cfg cRem CI CDGall r payload → (cRem r.fp).length + 1 < cfg.fuel →
      ∀ calls : List RCall,
        ∃ outs r' r'', callSeq hSrc cdDec cfg (some true) calls r = (.ok outs, r') ∧
          drainConn hSrc cdDec cfg r' = (.ok (), r'') ∧
          ∀ tail : List RCall, ∃ outs' r3, callSeq hSrc cdDec cfg (some true) tail r'' = (.ok outs', r3) ∧
            outs'.length = tail.length ∧ outs'.flatten = []) := by
  have hdc : (some true : Option Bool).getD cfg.decodeDefault = true := rfl
  refine ⟨fun hnc hinv hfS hf calls hcs => ?_, fun hinv hf calls => ?_⟩
  · obtain ⟨pss, r', rest', h1, hinv', _, _⟩ :=
      (InvB.cursor hSrc cdDec cfg (rawReadSpec_of_src hSrc_spec) (rawReadAllSpec_of_src hSrc_spec)
        (rawRead1Spec_of_src hSrc_spec) cdDec_streamLaw (closesN_of_src hSrc_spec) (closesAll_of_src hSrc_spec)
        hSrc_spec.closedNil).callSeqG (some true) hdc hdef hnc
        calls r payload (fun c hc => ⟨hcs c hc, fun _ => rfl⟩) ⟨hinv, hf⟩ hfS
    obtain ⟨r'', h2, _, h3⟩ := C12_drain_leaves_nothing hSrc cdDec cfg (rawReadSpec_of_src hSrc_spec)
      (rawReadAllSpec_of_src hSrc_spec) (rawRead1Spec_of_src hSrc_spec) cdDec_streamLaw hdef (some true) hdc
      r' rest' hinv'.1 (by omega)
    exact ⟨pss, r', r'', h1, h2, h3⟩
  · obtain ⟨outs, r', rest', h1, hinv', _, _⟩ :=
      callSeq_concat hSrc cdDec cfg (rawReadSpec_of_src hSrc_spec_chunked) (rawReadAllSpec_of_src hSrc_spec_chunked)
        (rawRead1Spec_of_src hSrc_spec_chunked) cdDec_streamLaw (some true) hdc calls r payload ⟨hinv, hf⟩
    obtain ⟨r'', h2, _, h3⟩ := C12_drain_leaves_nothing hSrc cdDec cfg (rawReadSpec_of_src hSrc_spec_chunked)
      (rawReadAllSpec_of_src hSrc_spec_chunked) (rawRead1Spec_of_src hSrc_spec_chunked) cdDec_streamLaw hdef
      (some true) hdc r' rest' hinv'.1 (by omega)
    exact ⟨outs, r', r'', h1, h2, h3⟩

/-- non-vacuity (hypotheses: the gzip response "hello" with a Content-Length and in chunks), and what
the model computes: `read(2)`, `drain_conn()`, then `read(5)` / `read1()` / `read()` return b"" -/
example : Inv cfgGzipHello hRem HI CDGall respGzipHello (lit "hello") := inv_gzipHello
example : Inv cfgGzipChunked cRem CI CDGall respChunkedGzipHello (lit "hello") := inv_chunkedGzipHello
example : RawInv hRem HI respGzipHello gzipHello := rawInv_gzipHello

example :
    let s1 := read hSrc cdDec cfgGzipChunked respChunkedGzipHello (some 2) (some true)
    let s2 := drainConn hSrc cdDec cfgGzipChunked s1.2
    out s1 = some (lit "he") ∧ err s2 = none ∧
    out (callSeq hSrc cdDec cfgGzipChunked (some true) [.read (some 5), .read1 none, .read none] s2.2) =
      some [[], [], []] := by
  rw [show respChunkedGzipHello = { fp := respChunkedGzipHello.fp, lengthRemaining := none, conn := true } from rfl,
    begin_chunkedGzipHello]
  decide +kernel

/-- the chunk-parser round trip: urllib3's `read_chunked` loop (`rcLoop`: `_update_chunk_length` +
`_handle_chunk`) over `enchunk cs`, in any segmentation, returns exactly the chunks `cs` -/
theorem C12_dechunk_enchunk {δ : Type} (D : Dec δ) (cs : List Bytes) (hne : ∀ c ∈ cs, c ≠ [])
    (fuel : Nat) (hfuel : cs.length < fuel) (r : R H δ) (f : Fp) (tail : Bytes)
    (hf : r.fp.fp = some f) (hc : f.content = enchunk cs ++ tail) (hl : r.chunkLeft = none)
    (hd : r.hasDecoded = false) :
    ∃ f', rcLoop hSrc D none false fuel r [] =
        ((cs, .ok ()), { r with fp := { r.fp with fp := some f' }, chunkLeft := some 0 }) ∧
      f'.content = crlf ++ tail := by
  obtain ⟨f', h1, h2⟩ := rcLoop_enchunk D cs hne fuel hfuel r f tail [] hf hc hl hd
  exact ⟨f', by simpa using h1, h2⟩

example : ∀ c ∈ [lit "hi", lit "!"], c ≠ ([] : Bytes) := by decide

/-! ### the defects repaired in /repo, on the inputs that showed them -/

/-- `read()` after a partial `read(2)` on a gzip body "hello": the byte already decoded and waiting
in the buffer ("l") comes first — `read()` returns "llo" and leaves the buffer empty
(before the repair it returned "lo": finding `read-all-skips-decoded-buffer`) -/
theorem C12_read_all_after_partial_ok :
    let r0 := respOf wireGzipHello 0 (some (lit "28")) false (some 28)
    let s1 := read hSrc cdDec cfgGzip r0 (some 2) (some true)
    let s2 := read hSrc cdDec cfgGzip s1.2 none (some true)
    out s1 = some (lit "he") ∧ bqAll s1.2.buf = lit "l" ∧ out s2 = some (lit "llo") ∧ bqLen s2.2.buf = 0 := by
  decide +kernel

/-- `stream(None)` after the partial `read(2)` on the gzip body "hello" yields one piece holding the
whole rest ("llo") and terminates
(before the repair it used up any amount of fuel: finding `stream-none-spins-on-decoded-buffer`) -/
theorem C12_stream_none_after_partial_ok :
    let r0 := respOf wireGzipHello 0 (some (lit "28")) false (some 28)
    let s1 := read hSrc cdDec cfgGzip r0 (some 2) (some true)
    (stream hSrc cdDec (cfgOf (some (lit "gzip")) none 40) s1.2 none (some true)).1 = ([lit "llo"], none) := by
  decide +kernel

/-- zstd: two frames decode to "aa" whether they are fed as one input or frame by frame, and the
decoder ends at `eof` (flush succeeds) (before the repair the second `decompress` raised: finding
`zstd-frame-boundary-on-feed-boundary:DecodeError`) -/
theorem C12_zstd_multiframe_on_boundary_ok :
    let s1 := zsDecompress zstdObj (ZObj.fresh zstdObj) zstdFrameA
    let s2 := zsDecompress zstdObj s1.2 zstdFrameA
    outD (zsDecompress zstdObj (ZObj.fresh zstdObj) (zstdFrameA ++ zstdFrameA)) = some (lit "aa") ∧
    outD s1 = some (lit "a") ∧ outD s2 = some (lit "a") ∧ outD (zsFlush zstdObj s2.2) = some [] := by
  decide +kernel

end U3.Props
