import U3.Model.Pool
import U3.Lemmas.Pool
import U3.Lemmas.PoolProv
import U3.Lemmas.PoolLink
/-! # C03 — a response only ever contains bytes sent in reply to its own request

The theorems about histories are about `U3.Pool.step` / `U3.Pool.run` (the definitions the driver `u3-pool` runs),
for every `ops : List Op` (requests with arbitrary server scripts, caller behaviours, pool closes), every pool size
and blocking mode; the others hold in every state.  The invariants behind them are `U3.Pool.Prov`
(`lean/U3/Lemmas/PoolSafe.lean`; every operation keeps it: `lean/U3/Lemmas/PoolProv.lean`) and, for the second clause,
`U3.Pool.Link` (`lean/U3/Lemmas/PoolLink.lean`).
-/
namespace U3.Props
open U3 U3.Pool

/-- the server's reaction to request `rid` carries that request's tag on every head byte, payload byte
and framing byte of the chunked coding, and `stray` on everything unsolicited (by construction of
`serverCells`); what it sends at once and what it holds back until the next request arrives are,
together, exactly that reaction — the held-back tail keeps the tag of the *old* request -/
theorem C03_server_tags (rid : Nat) (a : Attempt) :
    (∀ c ∈ serverCells rid a, cellTag c = .req rid ∨ cellTag c = .stray) ∧
    serverNow rid a ++ serverHeld rid a = serverCells rid a :=
  ⟨serverCells_tags rid a, serverNow_held rid a⟩

/-- **Unconditional form.**  After any history, from any initial pool, whatever the caller did with
earlier responses (read, partial read, early release, drain, close, drop, stream), whatever the
server scripts were (any framing, chunked or not, any chunk sizes and trailer sections, any tail of
a reply held back and delivered late, when the next request arrives on that connection): everything
a response has delivered is a prefix of what the server sent in reaction to one attempt of *that
response's own request* — for a chunked reply a prefix of its de-chunked payload, otherwise a prefix
of the bytes that follow the head — never a byte of another request's reply, never a byte the server
held back for an earlier request, and never more than the length `http.client` derived from that
reply's head. -/
theorem C03_prefix_of_own_sent (ops : List Op) (n : Nat) (block proxy : Bool) :
    ∀ r ∈ (run (init n block proxy) ops).resps,
      r.delivered = [] ∨
      ∃ a h, Scripted ops r.rid a ∧ a.head = some h ∧ r.delivered <+: deliverable r.rid a h ∧
        ∀ l, lenBound h r.isHead = some l → r.delivered.length ≤ l := by
  intro r hr
  obtain ⟨i, hi⟩ := List.getElem?_of_mem hr
  rcases (run_prov ops n block proxy).resp i r hi with ⟨_, h⟩ | ⟨a, h, fr⟩
  · exact Or.inl h
  · exact Or.inr ⟨a, h, fr.att, fr.head, fr.dpre, fr.dlen⟩

/-- **The property as stated** (`DESIGN.md` App. E): if the server scripts call `stray` only bytes
that lie beyond the declared end of a reply (`WellFramed`: no stray bytes, or a chunked reply — the
chunked coding delimits itself —, or a 1xx/204/304 reply, or `Content-Length ≤` the body sent; for a
read-until-close reply "stray" bytes *are* body), then for every history — chunked framing, trailer
sections and tails of replies that the server holds back and delivers late included — every byte
delivered for a response carries the tag of that response's own request, and the delivered bytes are
a prefix of the body (the de-chunked payload) the server sent for one attempt of that request.
No hypothesis on the caller: the known finding (`known_findings/C03.json`) does not produce foreign
bytes in the model (late arrival of the rest of an abandoned body is kernel timing, DESIGN **P**); it
violates the *second* clause of the property, see `C03_released_unread_witness`. -/
theorem C03_prefix_of_own_reply (ops : List Op) (n : Nat) (block proxy : Bool)
    (hfr : ∀ rid a, Scripted ops rid a → WellFramed a) :
    ∀ r ∈ (run (init n block proxy) ops).resps,
      ownBytes r = true ∧
      (r.delivered = [] ∨ ∃ a, Scripted ops r.rid a ∧ r.delivered <+: a.body.map (Cell.body (.req r.rid))) := by
  intro r hr
  rcases C03_prefix_of_own_sent ops n block proxy r hr with h | ⟨a, h, hs, hh, hp, hl⟩
  · exact ⟨by simp [ownBytes, h], Or.inl h⟩
  · have := prefix_body_of_framed (hfr _ _ hs) hh hp hl
    exact ⟨ownBytes_of_prefix this, Or.inr ⟨a, hs, this⟩⟩

/-- a `Content-Length: 2` reply followed by 3 stray bytes / a 204 followed by a stray byte -/
def strayAfterBody : Attempt :=
  { head := some { status := 200, close := false, cl := some 2, location := false, retryAfter := false },
    body := [1, 2], stray := [7, 7, 7] }
def strayAfter204 : Attempt :=
  { head := some { status := 204, close := false, cl := none, location := false, retryAfter := false }, stray := [9] }

/-- a chunked reply (chunks of 2 and 1 bytes, two trailer fields) followed by 2 stray bytes, the last 9
bytes of all that held back by the server until the next request arrives -/
def chunkedHeld : Attempt :=
  { head := some { status := 200, close := false, cl := none, location := false, retryAfter := false, chunked := true },
    body := [1, 2, 3], sizes := [2, 1], trailers := [3, 4], stray := [7, 7], hold := 9 }

/-- non-vacuity: a history with stray bytes after a `Content-Length` reply, after a 204 and after a
chunked reply whose tail is held back satisfies the framing hypothesis -/
example : ∀ rid a, Scripted [.request 0 {} (.count 2) [strayAfterBody], .dispose 0 .readAll,
    .request 1 {} .off [strayAfter204], .request 2 {} .off [chunkedHeld]] rid a → WellFramed a := by
  intro rid a ⟨rc, rt, script, hm, ha⟩
  simp at hm
  rcases hm with ⟨_, _, _, rfl⟩ | ⟨_, _, _, rfl⟩ | ⟨_, _, _, rfl⟩
  · simp at ha
    subst ha
    exact Or.inr ⟨_, rfl, Or.inr (Or.inr ⟨2, rfl, by simp [strayAfterBody]⟩)⟩
  · simp at ha
    subst ha
    exact Or.inr ⟨_, rfl, Or.inr (Or.inl (Or.inl rfl))⟩
  · simp at ha
    subst ha
    exact Or.inr ⟨_, rfl, Or.inl rfl⟩

/-- stray bytes after a body-less reply (HEAD, 1xx, 204, 304) never reach the response they follow:
in every reachable state such a response has delivered nothing (and by `C03_prefix_of_own_sent` no
*other* response can deliver them either: a response only delivers bytes of its own request's
reply).  No hypothesis on the history; the reply is one that is not chunked, or a reply to `HEAD`
(`http.client` looks at `Transfer-Encoding: chunked` before it looks at the status: a chunked 204 is
read as a chunked body — bytes of that very reply, see `C03_prefix_of_own_sent`). -/
theorem C03_bodyless_stray_discarded (ops : List Op) (n : Nat) (block proxy : Bool) :
    ∀ r ∈ (run (init n block proxy) ops).resps, noBody r.status r.isHead = true →
      (r.chunked = false ∨ r.isHead = true) → r.delivered = [] := by
  intro r hr hnb hc
  obtain ⟨i, hi⟩ := List.getElem?_of_mem hr
  rcases (run_prov ops n block proxy).resp i r hi with ⟨_, h⟩ | ⟨a, h, fr⟩
  · exact h
  · have hb : lenBound h r.isHead = some 0 := by
      have hch : (h.chunked && !r.isHead) = false := by
        rcases hc with hc | hc
        · rw [← fr.ch, hc]
          rfl
        · rw [hc]
          simp
      simp [lenBound, hch, initLength, ← fr.st, hnb]
    have := fr.dlen 0 hb
    exact List.eq_nil_of_length_eq_zero (by omega)

/-- non-vacuity: a 204 followed by a stray byte, read to the end — a body-less reply that is not chunked -/
example :
    let s := run (init 1 false) [.request 0 { preload := false, release := false } .off [strayAfter204], .dispose 0 .readAll]
    (s.resps.map fun r => (noBody r.status r.isHead, r.chunked, r.delivered)) = [(true, false, [])] := by
  decide +kernel

/-- … and under the framing hypothesis no stray byte is ever delivered to anybody -/
theorem C03_stray_never_delivered (ops : List Op) (n : Nat) (block proxy : Bool)
    (hfr : ∀ rid a, Scripted ops rid a → WellFramed a) :
    ∀ r ∈ (run (init n block proxy) ops).resps, ∀ c ∈ r.delivered, cellTag c ≠ .stray := by
  intro r hr c hc
  have := (C03_prefix_of_own_reply ops n block proxy hfr r hr).1
  unfold ownBytes at this
  rw [List.all_eq_true] at this
  have := this c hc
  intro h
  rw [h] at this
  simp at this

/-- **Checkout probe** (`_get_conn` + `is_connection_dropped`): if the connection on top of the queue
has unread bytes or EOF pending on its socket `k`, checkout returns that connection *closed*, and
whatever request is then made on it goes out on a socket that did not exist at checkout — the dirty
socket is never used again. -/
theorem C03_dirty_never_yields {s : State} {c k : Nat} {cn : Conn} {rest : List (Option Nat)}
    (hopen : s.closed = false) (hq : s.queue = some c :: rest) (hc : s.conns[c]? = some cn) (hk : cn.sock = some k)
    (hdirty : sockReadable s k = true) :
    (getConn s).2 = .ok c ∧
    (∀ cn', (getConn s).1.conns[c]? = some cn' → cn'.sock = none) ∧
    ∀ rid a s2 k', connRequest (getConn s).1 c rid a = (s2, .ok k') → s.socks.length ≤ k' := by
  have hg : getConn s = (connClose { s with queue := rest } c, .ok c) := by
    have hdrop : isDropped { s with queue := rest } c = true := by
      simp only [isDropped, show ({ s with queue := rest } : State).conns[c]? = some cn from hc, hk]
      exact hdirty
    unfold getConn
    rw [if_neg (by simp [hopen])]
    simp only [hq]
    rw [if_pos hdrop]
  rw [hg]
  refine ⟨rfl, fun cn' h => connClose_sock_none _ _ _ h, fun rid a s2 k' hcr => ?_⟩
  -- the connection is closed: `conn.request` has to connect, and the socket it gets is a new one
  dsimp only at hcr
  generalize hs1 : connClose { s with queue := rest } c = s1 at hcr
  have hsock1 : s1.socks = s.socks := by rw [← hs1, connClose_socks]
  obtain ⟨_, fs, fc, fn⟩ := forget_fields s1 c
  unfold connRequest at hcr
  generalize forgetClosedPending s1 c = sF at hcr fs fc fn
  dsimp only at hcr
  split at hcr
  · cases hcr
  rename_i cnF hcnF
  have hsF : cnF.sock = none := by
    cases h1 : s1.conns[c]? with
    | none => rw [fn h1] at hcnF; cases hcnF
    | some cn1 =>
      obtain ⟨cn'', g1, g2⟩ := fc cn1 h1
      cases g1.symm.trans hcnF
      rw [g2]
      exact connClose_sock_none _ _ _ (hs1 ▸ h1)
  split at hcr
  · cases hcr
  simp only [hsF] at hcr
  unfold connect at hcr
  cases hcon : a.connect <;> simp only [hcon] at hcr
  · cases hse : sendExc a.send <;> simp only [hse] at hcr <;> cases hcr
    show s.socks.length ≤ (setConn sF c _).socks.length
    simp [setConn, fs, hsock1]
  all_goals cases hcr

/-- non-vacuity: a keep-alive reply followed by stray bytes, released after the declared body was
read — the idle connection on top of the queue has unread bytes pending -/
example :
    let s := run (init 1 false) [.request 0 { preload := false, release := false } .off
        [{ head := some { status := 200, close := false, cl := some 2, location := false, retryAfter := false },
           body := [1, 2], stray := [7, 7], seg := 3 }], .dispose 0 .readAll]
    s.closed = false ∧ s.queue = [some 0] ∧ (s.conns[0]?.map (·.sock)) = some (some 0) ∧ sockReadable s 0 = true := by
  decide +kernel

/-- the model reproduces the known finding (`known_findings/C03.json`, signature
`dirty-connection-yielded-response:released-before-body-read`): `urlopen(preload_content=False,
release_conn=True)` answered with `Content-Length: 9` and 3 body bytes, `response.close()`, next
request.  The connection went back to the pool while its response was unread; `close()` then only
closed the reader; the second request is written to and answered on the *same* socket 0 (one
`connect`, two `send`s), although 6 declared bytes of reply 0 are still outstanding
(`length = some 9` on the closed response) — the second clause of the property ("a connection whose
previous exchange did not end cleanly never yields a response") is false on this tree.  The bytes
delivered for request 1 are its own (`C03_prefix_of_own_reply` holds): the late arrival of the rest
of reply 0 is kernel timing, outside the model. -/
theorem C03_released_unread_witness :
    let a0 : Attempt := { head := some { status := 200, close := false, cl := some 9, location := false, retryAfter := false },
                          headLen := 37, body := [1, 2, 3] }
    let a1 : Attempt := { head := some { status := 200, close := false, cl := some 5, location := false, retryAfter := false },
                          headLen := 37, body := [11, 12, 13, 14, 15] }
    let early : ReqCfg := { preload := false, release := true }
    let s := run (init 1 false) [.request 0 early .off [a0], .dispose 0 .close]
    let s' := (step s (.request 1 early .off [a1])).1
    -- response 0 is closed with 9 declared bytes outstanding, its connection idles in the pool, connected
    (s.resps.map fun r => (r.fp, r.length)) = [(none, some 9)] ∧ s.queue = [some 0] ∧
    (s.conns.map (·.sock)) = [some 0] ∧
    -- the next request is answered on the same socket: no second `connect`
    (match (step s (.request 1 early .off [a1])).2 with | .result (.resp r) => r == 1 | _ => false) = true ∧
    s'.log = [.connect 0, .send 0, .recv 0, .put (some 0), .send 0, .recv 0, .put (some 0)] ∧
    (s'.resps.map (·.fp)) = [none, some 0] := by
  decide +kernel

/-! ### the second clause: "a connection whose previous exchange did not end cleanly never yields a
response" — false on this tree in general (`C03_released_unread_witness`), true for every history
that does not release a connection while its response is unread -/

/-- **Partial** (full statement: the same without `hne`; it is false, see
`C03_released_unread_witness`).  In every state reachable by a history without early release
(`NoEarlyOp`: no `release_conn=True` together with `preload_content=False`, no `release_conn()` /
`read(k)+release_conn()` by the caller — everything else is allowed: partial reads, `close()`,
dropping responses, draining, streaming, closing the pool, any server script): for every *connected*
connection `c` whose last response (`http.client`'s `__response`) is `r`,
* if `r` is closed then its exchange is over (`Done`: read to its declared end, `length_remaining = 0`;
  for a chunked reply: a chunk parser has read the empty line that ends the trailer section, or has
  hit EOF while discarding it — see `C03_chunked_incomplete_never_reusable_partial`), and
* if `r` is still open then it reads from `c`'s socket and holds `c` (`_connection = c`), so every way
  of abandoning `r` — `close()`, a failed read, garbage collection — closes `c`.
Hence no connection with an unfinished exchange is ever idle in the pool. -/
theorem C03_unclean_never_yields_partial (ops : List Op) (n : Nat) (block proxy : Bool)
    (hne : ∀ op ∈ ops, NoEarlyOp op) :
    ∀ (c : Nat) (cn : Conn) (k r : Nat) (rs : Resp), (run (init n block proxy) ops).conns[c]? = some cn → cn.sock = some k →
      cn.pending = some r → (run (init n block proxy) ops).resps[r]? = some rs →
      (rs.fp = none → Done rs) ∧ (rs.fp ≠ none → rs.fp = some k ∧ rs.conn = some c) := by
  intro c cn k r rs h1 h2 h3 h4
  have q := (run_link ops n block proxy hne).pend c cn k r rs h1 h2 h3 h4
  have q3' := q.hold (by intro e; cases e)
  simp only [reduceCtorEq, if_false] at q3'
  refine ⟨q3'.1, fun hn => ⟨?_, q3'.2 hn⟩⟩
  cases hfp : rs.fp with
  | none => exact absurd hfp hn
  | some k' => rw [q.sock k' (Or.inl hfp)]

/-- **A chunked exchange whose trailer section was not completely received never leaves a reusable
connection** (partial: the same hypothesis as `C03_unclean_never_yields_partial`, the full statement is
false for the same reason, `C03_released_unread_witness`).  In every state reachable by a history
without early release, with arbitrary server scripts (chunk sizes, trailer sections, tails of replies
held back and delivered late): if a *connected* connection (socket `k`) has a closed chunked response
(not a reply to `HEAD`) as its last response `r`, then
* one of the two chunk parsers — urllib3's `read_chunked` or `http.client`'s `_read_chunked` — has read
  the empty line that ends the message (`eom`), or
* the peer's FIN is pending on socket `k` (`sockReadable`): the parser stopped discarding the trailer
  section because it hit EOF, the FIN has been pending ever since, and the checkout probe
  (`C03_dirty_never_yields`) will discard the connection instead of reusing it.
A parser that stops earlier — after the last-chunk line, after the first trailer line (the seeded
defect `seeded/C03-m4`) — would leave a connected, not readable connection with `eom = false` behind. -/
theorem C03_chunked_incomplete_never_reusable_partial (ops : List Op) (n : Nat) (block proxy : Bool)
    (hne : ∀ op ∈ ops, NoEarlyOp op) :
    ∀ (c : Nat) (cn : Conn) (k r : Nat) (rs : Resp), (run (init n block proxy) ops).conns[c]? = some cn → cn.sock = some k →
      cn.pending = some r → (run (init n block proxy) ops).resps[r]? = some rs →
      rs.chunked = true → rs.isHead = false → rs.fp = none →
      rs.eom = true ∨ sockReadable (run (init n block proxy) ops) k = true := by
  intro c cn k r rs h1 h2 h3 h4 hch hnh hfp
  have hd := (C03_unclean_never_yields_partial ops n block proxy hne c cn k r rs h1 h2 h3 h4).1 hfp
  have q := (run_link ops n block proxy hne).pend c cn k r rs h1 h2 h3 h4
  rw [done_chunked hch hnh] at hd
  rcases hd with hd | hd
  · exact Or.inl hd
  · right
    cases he : rs.eofAt with
    | none => rw [he] at hd; cases hd
    | some k' =>
      have hk' : k' = k := q.sock k' (Or.inr he)
      subst hk'
      obtain ⟨_, hf⟩ := (run_prov ops n block proxy).eofB r rs k' h4 he
      exact hf.elim FinAt.readable fun hf => absurd h2 (hf c cn h1)

/-- non-vacuity: streaming a chunked reply with two trailer fields to its end leaves the connection
connected, idle in the pool, with a closed chunked `__response` — and `eom` set -/
example :
    let hc : Head := { status := 200, close := false, cl := none, location := false, retryAfter := false, chunked := true }
    let a0 : Attempt := { head := some hc, headLen := 3, body := [1, 2, 3], sizes := [2, 1], trailers := [2, 2] }
    let s := run (init 1 false) [.request 0 { preload := false, release := false } .off [a0], .dispose 0 (.stream 7)]
    s.queue = [some 0] ∧ (s.conns.map fun x => (x.sock, x.pending)) = [(some 0, some 0)] ∧
    (s.resps.map fun x => (x.fp, x.chunked, x.isHead, x.eom, x.delivered.length)) = [(none, true, false, true, 3)] := by
  decide +kernel

/-- when a trailer loop ends without having seen the empty line, it ended at EOF, and the peer's FIN is
pending on the socket at that moment: the connection is "readable", which is what the checkout probe
(`C03_dirty_never_yields`) looks at.  (Both loops: urllib3's and `http.client`'s.) -/
theorem C03_trailer_eof_pending (r k fuel : Nat) (s s' : State) (hex : ∃ rs : Resp, s.resps[r]? = some rs)
    (hne : ∀ rs' : Resp, s'.resps[r]? = some rs' → rs'.eom = false) :
    (skipTrailers fuel s r k = (s', none) → sockReadable s' k = true) ∧
    (hcDiscardTrailer fuel s r k = (s', none) → sockReadable s' k = true) :=
  ⟨fun h => hcDiscardTrailer_eof r k fuel s s' (skipTrailers_eq fuel s r k ▸ h) hex hne, fun h => hcDiscardTrailer_eof r k fuel s s' h hex hne⟩

/-- non-vacuity: a chunked reply whose server closes the connection in the middle of the trailer
section — `stream()` ends cleanly at EOF (`eofAt`), the connection goes back to the pool connected, and the
socket is readable (FIN pending) -/
example :
    let hc : Head := { status := 200, close := false, cl := none, location := false, retryAfter := false, chunked := true }
    let a0 : Attempt := { head := some hc, headLen := 3, body := [1, 2, 3], sizes := [3], trailers := [2, 2], hold := 6, after := .fin }
    let s := run (init 1 false) [.request 0 { preload := false, release := false } .off [a0], .dispose 0 (.stream 7)]
    s.queue = [some 0] ∧ (s.conns.map fun x => x.sock) = [some 0] ∧
    (s.resps.map fun x => (x.fp, x.eom, x.eofAt)) = [(none, false, some 0)] ∧ sockReadable s 0 = true := by
  decide +kernel

/-- the scenario of the seeded defect `seeded/C03-m4` on the model of the unmodified code: request 0 is
answered with a chunked body and two trailer fields; the server sends the last-chunk line and the
first trailer field at once and holds back the rest of the trailer section (6 bytes) until the next
request arrives.  `b"".join(r.stream(7))` reads the three payload bytes, then waits for the rest of the
trailer section: `ReadTimeoutError`, the connection is closed (`close 0`) before it goes back to the
pool, and request 1 is made on a fresh socket (`connect 1`) — the 6 held-back bytes are never
delivered to anybody (they are still held for the dead socket 0). -/
theorem C03_held_trailer_closes_connection :
    let hc : Head := { status := 200, close := false, cl := none, location := false, retryAfter := false, chunked := true }
    let a0 : Attempt := { head := some hc, headLen := 3, body := [1, 2, 3], sizes := [3], trailers := [2, 2], hold := 6 }
    let h1 : Head := { status := 200, close := false, cl := some 2, location := false, retryAfter := false }
    let a1 : Attempt := { head := some h1, headLen := 3, body := [8, 9] }
    let cfg : ReqCfg := { preload := false, release := false }
    let s := run (init 1 false) [.request 0 cfg .off [a0]]
    let st := step s (.dispose 0 (.stream 7))
    let s' := (step st.1 (.request 1 cfg .off [a1])).1
    -- the rest of the trailer section is held back
    (s.socks.map fun x => (x.inbound.length, x.held.length)) = [(0, 6)] ∧
    -- streaming fails, the connection is closed, response 0 never saw the end of the message
    (match st.2 with | .disp (.raised e) => e.cls == Gen.cU3ReadTimeoutError | _ => false) = true ∧
    (st.1.conns.map (·.sock)) = [none] ∧ (st.1.resps.map fun x => (x.fp, x.eom, x.eofAt)) = [(none, false, none)] ∧
    -- the next request goes out on a new socket
    s'.log = [.connect 0, .send 0, .recv 0, .recv 0, .close 0, .put (some 0), .connect 1, .send 1, .recv 1] ∧
    (s'.socks.map fun x => x.held.length) = [6, 0] := by
  decide +kernel

/-- … and therefore `getresponse()` yields a response on a connection only if that connection's
previous response (if `http.client` still remembers one) had been read to its end: an unread or
half-read previous response makes `getresponse()` raise `ResponseNotReady` instead. -/
theorem C03_yield_only_after_complete_partial (ops : List Op) (n : Nat) (block proxy : Bool)
    (hne : ∀ op ∈ ops, NoEarlyOp op) {c k k' rid r' : Nat} {rc : ReqCfg} {cn : Conn} {s' : State}
    (hc : (run (init n block proxy) ops).conns[c]? = some cn) (hk : cn.sock = some k')
    (hy : getResponse (run (init n block proxy) ops) c k rid rc = (s', .resp r')) :
    ∀ (r0 : Nat) (rs0 : Resp), cn.pending = some r0 → (run (init n block proxy) ops).resps[r0]? = some rs0 →
      rs0.fp = none ∧ Done rs0 := by
  intro r0 rs0 hp hr0
  have hcl : rs0.fp = none := by
    cases hfp : rs0.fp with
    | none => rfl
    | some k0 =>
      exfalso
      have hst : Settled (run (init n block proxy) ops) c := by
        intro cn1 r1 rs1 g1 g2 g3
        rw [hc] at g1
        cases g1
        rw [hp] at g2
        cases g2
        rw [hr0] at g3
        cases g3
        simp [hfp]
      rw [getResponse_notReady hst hc (by simp [hp])] at hy
      cases hy
  exact ⟨hcl, (C03_unclean_never_yields_partial ops n block proxy hne c cn k' r0 rs0 hc hk hp hr0).1 hcl⟩

/-- non-vacuity: a history with a streamed response that is read partially and then closed, a
preloaded request and a drained one satisfies the hypothesis … -/
example : ∀ op ∈ [Op.request 0 { preload := false, release := false } (.count 2) [strayAfterBody], .dispose 0 (.readK 1),
    .dispose 0 .close, .request 1 {} .off [strayAfter204], .request 2 { preload := false, release := false } .off [strayAfterBody],
    .dispose 2 .drain, .closePool], NoEarlyOp op := by
  intro op hm
  simp only [List.mem_cons, List.mem_nil_iff, or_false] at hm
  rcases hm with rfl | rfl | rfl | rfl | rfl | rfl | rfl <;> simp [NoEarlyOp, NoEarlyCfg, NoEarlyHow]

/-- … and the history of the finding is exactly one that does not -/
example : ¬ NoEarlyOp (.request 0 { preload := false, release := true } .off []) := by
  simp [NoEarlyOp, NoEarlyCfg]

/-! ### requests rejected on the client side after the checkout (`ReqCfg.badHeader`)

`conn.request()` with a header value that `putheader` cannot encode raises between `putrequest()` and
`endheaders()`.  The headline theorems above quantify over every `ReqCfg`, so they cover histories that contain such
requests; the statements below say what the rejected request itself does. -/

/-- **Nothing of a rejected request is sent.**  `conn.request()` of a request whose header block cannot be encoded
(`connRequestH … true`): no socket is created or written to, nothing is logged (no `connect`, no `send`), no response
object comes into being, and the outcome is an exception that `_make_request` does not swallow — in every state. -/
theorem C03_rejected_request_sends_nothing (s : State) (c rid : Nat) (a : Attempt) :
    (connRequestH s c rid a true).1.socks = s.socks ∧ (connRequestH s c rid a true).1.log = s.log ∧
    (connRequestH s c rid a true).1.resps = s.resps ∧
    ∃ e, (connRequestH s c rid a true).2 = .error e ∧ sendSwallowed e = false := by
  -- `putrequest()` touches the connection object only
  have hf : (forgetClosedPending s c).socks = s.socks ∧ (forgetClosedPending s c).log = s.log ∧
      (forgetClosedPending s c).resps = s.resps := by
    rcases forget_cases s c with ⟨e, _⟩ | ⟨_, _, e, _⟩ <;> rw [e] <;> exact ⟨rfl, rfl, rfl⟩
  have hr : (connReject s c).1.socks = s.socks ∧ (connReject s c).1.log = s.log ∧ (connReject s c).1.resps = s.resps := by
    unfold connReject
    dsimp only
    split
    · exact hf
    · split <;> exact hf
  exact ⟨hr.1, hr.2.1, hr.2.2, connReject_out s c⟩

example : (connRequestH (getConn (init 1 true)).1 0 7 {} true).2 = .error (exc Gen.cValueError) := rfl

/-- **A rejected request never yields a response** — from any state, for any server script, retry budget and pool
configuration (a retry of `CannotSendRequest` on a busy connection object meets the same header again): the caller
gets an exception, so no byte of anybody's reply is delivered for it. -/
theorem C03_rejected_request_yields_no_response (s : State) (rid : Nat) (rc : ReqCfg) (retries : Retry)
    (script : List Attempt) (hb : rc.badHeader = true) (r : Nat) :
    (request s rid rc retries script).2 ≠ .resp r :=
  request_rejected rid script s rc retries hb r

example : ({ badHeader := true } : ReqCfg).badHeader = true ∧
    (match (step (init 1 true) (.request 0 { badHeader := true } (.count 2) [{}, {}])).2 with
      | .result (.raised e) => e.cls == Gen.cValueError
      | _ => false) = true := by decide +kernel

/-- **… and the connection object it had checked out is thrown away.**  With a valid `timeout`, a successful checkout
of an idle connection object `c`: whatever the retry budget and the rest of the script, `urlopen` runs `discard`
(`conn.close()`, `_put_conn(None)`) on the state in which nothing was sent, and raises `putheader`'s `ValueError`
(or `FullPoolError` if `_put_conn` does).  The connection object — whose output buffer holds the request line of the
rejected request — never returns to the queue, so nothing of the rejected request can precede a later one. -/
theorem C03_rejected_request_discards_connection (s s1 : State) (rid c : Nat) (rc : ReqCfg) (retries : Retry)
    (a : Attempt) (rest : List Attempt) (cn : Conn) (hb : rc.badHeader = true) (hp : preflight rc a = none)
    (hg : getConnT s rc.badPoolTimeout = (s1, .ok c))
    (hc : (forgetClosedPending s1 c).conns[c]? = some cn) (hi : cn.http = .idle) :
    request s rid rc retries (a :: rest) =
      match discard (connReject s1 c).1 (some c) with
      | (s2, some e') => (s2, .raised e')
      | (s2, none) => (s2, .raised (exc Gen.cValueError)) := by
  have hm := makeRequest_rejected_eq s1 c rid a rc hb _ (connReject_idle s1 c cn hc hi) (by decide)
  unfold request
  rw [hp]
  dsimp only
  rw [hg]
  dsimp only
  rw [hm]
  dsimp only
  rw [show (exc Gen.cValueError).cls = Gen.cValueError from rfl, handleError_valueError]
  rfl

example : let s := run (init 1 true) [.request 0 {} .off [{ head := some { status := 200, close := false, cl := some 0, location := false, retryAfter := false } }]]
    let x := step { s with log := [] } (.request 1 { badHeader := true } (.count 2) [{}, {}])
    s.queue = [some 0] ∧ x.1.queue = [none] ∧ x.1.log = [.close 0, .put none] := by decide +kernel

end U3.Props
