import U3.Model.Hostname
import U3.Lemmas.Hostname
/-!
# C08 — certificate name and fingerprint matching accept exactly what the rules allow

All theorems are about the executable model `U3.Hostname` (the definitions the driver
`u3-hostname` runs against the real urllib3 on every check) and hold for **all** strings, not the small
label alphabet of the enumeration.  `san`, `host`, labels are arbitrary code-point lists.

A real host name never contains `*`; where a clause can only be stated for such hosts the hypothesis
`star ∉ host` is explicit (the counter-examples with a literal star in the host are given).

Two clauses rest on repairs of `ssl_match_hostname.py` ("Repaired defects" in `notes/C08.md`,
`known_findings/C08.json`); the inputs of the two findings are theorems of their own:

* an exact dNSName match is reached wherever it stands in the list, also behind a dNSName with ≥ 2
  stars in its left-most label (`C08_exact_san_accepts`, `C08_exact_san_after_multi_wildcard_ok`);
* an A-label is recognised by the ACE prefix `xn--` in any capitalisation
  (`C08_rejects_wildcard_in_alabel`, `C08_alabel_uppercase_prefix_ok`).
-/
namespace U3.Props
open U3 U3.Hostname

/-- "exactly": an entry without wildcard accepts nothing but its own spelling up to case. -/
theorem C08_nowildcard_iff {san host : Str} (hs : star ∉ san) :
    dnsnameMatch san host = .ok true ↔ san ≠ [] ∧ lower san = lower host := by
  by_cases hn : san = []
  · subst hn
    simp [dnsnameMatch_nil]
  · obtain ⟨l, r, hsp⟩ := List.exists_cons_of_ne_nil (splitOn1_ne_nil dot san)
    have hl : l.count star = 0 :=
      List.count_eq_zero.2 fun hx => hs (mem_of_mem_splitOn1 (hsp ▸ List.mem_cons_self) hx)
    rw [dnsnameMatch_eq hn hsp]
    simp [hl, hn]

example : dnsnameMatch (lit "a.b") (lit "a.bb") = .ok false := by decide +kernel

/-- An entry without wildcard that equals the host up to (ASCII) case is accepted. -/
theorem C08_exact_accepts {san host : Str} (hn : san ≠ []) (hs : star ∉ san) (h : lower san = lower host) :
    dnsnameMatch san host = .ok true :=
  (C08_nowildcard_iff hs).2 ⟨hn, h⟩

example : dnsnameMatch (lit "Www.Example.COM") (lit "www.example.com") = .ok true := by decide +kernel

/-- A whole-label wildcard covers exactly one non-empty left-most label: `*.rest` accepts
`l.rest'` for every non-empty dot-free `l` when `rest'` equals `rest` label by label up to case. -/
theorem C08_wildcard_one_label_accepts (rest rest' : List Str) (l : Str) (hl : l ≠ []) (hld : dot ∉ l)
    (hrest : ∀ r ∈ rest, dot ∉ r) (hcase : rest.map lower = rest'.map lower) :
    dnsnameMatch (joinWith [dot] ([star] :: rest)) (joinWith [dot] (l :: rest')) = .ok true := by
  have hrest' : ∀ r ∈ rest', dot ∉ r := by
    intro r' hr'
    obtain ⟨r, hr, hlow⟩ := List.mem_map.1 (hcase ▸ List.mem_map_of_mem (f := lower) hr')
    exact mt (mem_iff_of_lower_eq rfl hlow).2 (hrest r hr)
  have hsan : splitOn1 dot (joinWith [dot] ([star] :: rest)) = [star] :: rest :=
    splitOn1_join dot _ (by simp) (List.forall_mem_cons.2 ⟨by decide, hrest⟩)
  have hhost : splitOn1 dot (joinWith [dot] (l :: rest')) = l :: rest' :=
    splitOn1_join dot _ (by simp) (List.forall_mem_cons.2 ⟨hld, hrest'⟩)
  rw [dnsnameMatch_eq (fun e => by simpa using joinWith_eq_nil (by decide) e) hsan]
  have hall : l.all (fun x => x != dot) = true := by
    simpa using fun x hx (h : x = dot) => hld (h ▸ hx)
  simp [star, leftPat, matchPats, hhost, matchLeft, hall, hl, labelsEqCI_iff.2 hcase]

example : dnsnameMatch (joinWith [dot] ([star] :: [lit "Example", lit "com"]))
    (joinWith [dot] (lit "www" :: [lit "example", lit "COM"])) = .ok true := by decide +kernel

/-- RFC 6125 6.4.3 (1): a `*` outside the left-most label is never a wildcard — an entry carrying one
accepts no genuine (star-free) host name. -/
theorem C08_rejects_wildcard_not_leftmost {san host : Str}
    (h : ∃ l ∈ (splitOn1 dot san).tail, star ∈ l) (hh : star ∉ host) :
    dnsnameMatch san host ≠ .ok true := by
  obtain ⟨l, hl, hstar⟩ := h
  obtain ⟨l0, r, hsp⟩ := List.exists_cons_of_ne_nil (splitOn1_ne_nil dot san)
  rw [hsp] at hl
  intro hacc
  rcases dnsnameMatch_true hsp hacc with ⟨-, heq⟩ | ⟨-, h0, hs, hsplit, -, hlab⟩
  · exact hh ((mem_iff_of_lower_eq rfl heq).1 (mem_of_mem_splitOn1 (hsp ▸ List.mem_cons_of_mem _ hl) hstar))
  · -- the label with the star is compared literally with a label of the host
    obtain ⟨b, hb, hab⟩ := List.mem_map.1 (hlab ▸ List.mem_map_of_mem (f := lower) hl)
    exact hh (mem_of_mem_splitOn1 (hsplit ▸ List.mem_cons_of_mem _ hb) ((mem_iff_of_lower_eq rfl hab).2 hstar))

example : (∃ l ∈ (splitOn1 dot (lit "a.*.c")).tail, star ∈ l) ∧ star ∉ lit "a.b.c" ∧
    dnsnameMatch (lit "a.*.c") (lit "a.b.c") = .ok false := by decide +kernel
-- why `star ∉ host` is needed: the later labels are compared literally
example : dnsnameMatch (lit "*.*") (lit "a.*") = .ok true := by decide +kernel

/-- More than one `*` in the left-most label: `CertificateError`, whatever the host. -/
theorem C08_rejects_multiple_wildcards_leftmost {san host leftmost : Str} {remainder : List Str}
    (hs : splitOn1 dot san = leftmost :: remainder) (h : leftmost.count star > 1) :
    dnsnameMatch san host = .error .certificateError := by
  have hn : san ≠ [] := by
    rintro rfl
    cases hs
    cases h
  rw [dnsnameMatch_eq hn hs]
  simp [h]

example : dnsnameMatch (lit "a*b*.c") (lit "ab.c") = .error .certificateError := by decide +kernel

/-- RFC 6125 / the code's policy: an entry with more than one `*` anywhere accepts no genuine host. -/
theorem C08_rejects_multiple_wildcards {san host : Str} (h : san.count star > 1) (hh : star ∉ host) :
    dnsnameMatch san host ≠ .ok true := by
  obtain ⟨l0, r, hsp⟩ := List.exists_cons_of_ne_nil (splitOn1_ne_nil dot san)
  by_cases h0 : l0.count star > 1
  · rw [C08_rejects_multiple_wildcards_leftmost hsp h0]
    simp
  · apply C08_rejects_wildcard_not_leftmost _ hh
    have hsum := count_star_split san
    rw [hsp] at hsum ⊢
    simp only [List.map_cons, List.sum_cons, List.tail_cons] at hsum ⊢
    obtain ⟨n, hn, hpos⟩ := List.sum_pos_iff_exists_pos_nat.1 (show 0 < (r.map (List.count star)).sum by omega)
    obtain ⟨l, hl, rfl⟩ := List.mem_map.1 hn
    exact ⟨l, hl, List.count_pos_iff.1 hpos⟩

example : (lit "*.*.c").count star > 1 ∧ dnsnameMatch (lit "*.*.c") (lit "a.b.c") = .ok false := by decide +kernel

/-- A wildcard never spans a dot: when the left-most label of the entry carries a `*`, an accepted
host has exactly as many labels as the entry, and all labels after the first agree up to case — the
wildcard's contribution is confined to the first label. -/
theorem C08_rejects_wildcard_spanning_dots {san host leftmost : Str} {remainder : List Str}
    (hs : splitOn1 dot san = leftmost :: remainder) (hw : star ∈ leftmost)
    (h : dnsnameMatch san host = .ok true) :
    (splitOn1 dot host).length = (splitOn1 dot san).length ∧
    (splitOn1 dot host).tail.map lower = remainder.map lower := by
  rcases dnsnameMatch_true hs h with ⟨hno, -⟩ | ⟨-, h0, hs', hsplit, -, hlab⟩
  · exact absurd hw hno
  · rw [hsplit, hs]
    refine ⟨?_, hlab.symm⟩
    have := congrArg List.length hlab
    simp only [List.length_map] at this
    simp [this]

example : dnsnameMatch (lit "*.c") (lit "a.b.c") = .ok false := by decide +kernel
example : dnsnameMatch (lit "a*.c") (lit "a.b.c") = .ok false := by decide +kernel

/-- A whole-label wildcard never matches an empty label (`.example` or the empty host). -/
theorem C08_rejects_wildcard_empty_label {san host : Str} {remainder hs' : List Str}
    (hs : splitOn1 dot san = [star] :: remainder) (hh : splitOn1 dot host = [] :: hs') :
    dnsnameMatch san host ≠ .ok true := by
  intro hacc
  rcases dnsnameMatch_true hs hacc with ⟨hno, -⟩ | ⟨-, h0, hs'', hsplit, hleft, -⟩
  · exact hno (by simp)
  · rw [hh] at hsplit
    cases hsplit
    simp [leftPat, matchLeft] at hleft

example : dnsnameMatch (lit "*.a") (lit ".a") = .ok false := by decide +kernel
example : dnsnameMatch (lit "*") (lit "") = .ok false := by decide +kernel

/-- RFC 6125 6.4.3 (3): a wildcard embedded in an A-label is taken literally, so such an entry accepts
no genuine host name.  The A-label is recognised by its ACE prefix "xn--" *in any capitalisation*
(RFC 5890 2.3.2.5), on the entry's side or (for partial wildcards) on the host's side. -/
theorem C08_rejects_wildcard_in_alabel {san host leftmost : Str} {remainder : List Str}
    (hs : splitOn1 dot san = leftmost :: remainder) (hw : star ∈ leftmost)
    (hx : lower (leftmost.take 4) = xnPrefix ∨ (lower (host.take 4) = xnPrefix ∧ leftmost ≠ [star]))
    (hh : star ∉ host) :
    dnsnameMatch san host ≠ .ok true := by
  intro hacc
  rcases dnsnameMatch_true hs hacc with ⟨hno, -⟩ | ⟨-, h0, hs', hsplit, hleft, -⟩
  · exact hno hw
  · -- the pattern for the first label is the literal text of `leftmost`
    have hpat : leftPat leftmost host = .literal leftmost := by
      rcases hx with hx | hx
      · have hne : leftmost ≠ [star] := by
          rintro rfl
          revert hx
          decide
        simp [leftPat, hne, (xnPrefix_lower_iff leftmost).2 hx]
      · simp [leftPat, hx.2, (xnPrefix_lower_iff host).2 hx.1]
    rw [hpat] at hleft
    simp only [matchLeft, beq_iff_eq] at hleft
    exact hh (mem_of_mem_splitOn1 (hsplit ▸ List.mem_cons_self) ((mem_iff_of_lower_eq rfl hleft).1 hw))

example : dnsnameMatch (lit "xn--a*.b") (lit "xn--ab.b") = .ok false := by decide +kernel
example : dnsnameMatch (lit "x*.b") (lit "xn--ab.b") = .ok false := by decide +kernel
-- the hypotheses are satisfiable by an upper-case and by a mixed-case prefix, on either side
example : splitOn1 dot (lit "XN--a*.b") = lit "XN--a*" :: [lit "b"] ∧ star ∈ lit "XN--a*" ∧
    lower ((lit "XN--a*").take 4) = xnPrefix ∧ star ∉ lit "XN--ab.b" := by decide +kernel
example : lower ((lit "Xn--ab.b").take 4) = xnPrefix ∧ lit "x*" ≠ [star] ∧
    dnsnameMatch (lit "x*.b") (lit "Xn--ab.b") = .ok false := by decide +kernel
-- without an ACE prefix on either side the partial wildcard is honoured (the clause is not vacuous)
example : dnsnameMatch (lit "xm--a*.b") (lit "xm--ab.b") = .ok true := by decide +kernel
/-- the input of the former finding `alabel-wildcard-uppercase-ace-prefix` (it used to be accepted):
the wildcard inside an A-label spelled with an upper-case ACE prefix is not honoured -/
theorem C08_alabel_uppercase_prefix_ok :
    dnsnameMatch (lit "XN--a*.b") (lit "XN--ab.b") = .ok false ∧
    dnsnameMatch (lit "xn--a*.b") (lit "XN--ab.b") = .ok false := by decide +kernel

/-- DNS entries (and commonName) against an IP host never match: when the requested host is an IP
literal, only an iPAddress entry whose value matches can make `match_hostname` succeed. -/
theorem C08_rejects_dns_san_for_ip_host {cert : Cert} {host : Str} {ip : IpAddr} {cn : Bool}
    (hip : hostIpOf host = some ip)
    (hno : ∀ e ∈ cert.san, e.1 = kIP → ipaddressMatch e.2 ip ≠ .ok true) :
    matchHostname (some cert) host cn ≠ .ok () := by
  intro hacc
  rw [matchHostname_ok_iff, hip] at hacc
  rcases hacc with hl | ⟨-, hnone, -⟩
  · obtain ⟨e, he, hret⟩ := sanLoop_spec.1 hl
    obtain ⟨hk, hm⟩ := sanStep_ip_ret.1 hret
    exact hno e he hk hm
  · cases hnone

example : matchHostname (some ⟨[(kDNS, lit "1.2.3.4")], [[(kCN, lit "1.2.3.4")]]⟩) (lit "1.2.3.4") true
    = .error .certificateError := by decide +kernel

/-- `_ipaddress_match` itself: equal packed value iff accept. -/
theorem C08_ipaddress_match_iff {ipname : Str} {ip : IpAddr} :
    ipaddressMatch ipname ip = .ok true ↔ ∃ a, ipAddress (rstrip ipname) = some a ∧ a.packed = ip.packed := by
  unfold ipaddressMatch
  cases h : ipAddress (rstrip ipname) <;> simp

/-- iPAddress entries are compared by address value only: for an IP host and a certificate whose
iPAddress entries all parse, `match_hostname` succeeds iff some entry denotes the same packed
address — whatever the spelling on either side. -/
theorem C08_ip_san_by_value_iff {cert : Cert} {host : Str} {ip : IpAddr} {cn : Bool}
    (hip : hostIpOf host = some ip)
    (hp : ∀ e ∈ cert.san, e.1 = kIP → (ipAddress (rstrip e.2)).isSome) :
    matchHostname (some cert) host cn = .ok () ↔
      ∃ e ∈ cert.san, e.1 = kIP ∧ ∃ a, ipAddress (rstrip e.2) = some a ∧ a.packed = ip.packed := by
  rw [matchHostname_ok_iff, hip, (sanLoop_ip_host hp).1]
  simp [C08_ipaddress_match_iff]

-- different spellings, same value: accepted; same text class, different value: rejected;
-- an IPv4 address is not its IPv4-mapped IPv6 address (4 packed bytes against 16)
example : matchHostname (some ⟨[(kIP, lit "0:0:0:0:0:0:0:1")], []⟩) (lit "::1") = .ok () := by decide +kernel
example : matchHostname (some ⟨[(kIP, lit "FE80::1\n")], []⟩) (lit "fe80:0::0:1%eth0") = .ok () := by decide +kernel
example : matchHostname (some ⟨[(kIP, lit "1.2.3.4")], []⟩) (lit "1.2.3.5") = .error .certificateError := by decide +kernel
example : matchHostname (some ⟨[(kIP, lit "::ffff:1.2.3.4")], []⟩) (lit "1.2.3.4") = .error .certificateError := by decide +kernel

/-- commonName is ignored as soon as the certificate has a dNSName or iPAddress entry: the subject
has no influence on the verdict, enabled or not. -/
theorem C08_rejects_cn_when_san_present {cert : Cert} {host : Str} {cn : Bool} (subject' : List (List (Str × Str)))
    (h : ∃ e ∈ cert.san, e.1 = kDNS ∨ e.1 = kIP) :
    matchHostname (some cert) host cn = matchHostname (some { cert with subject := subject' }) host cn := by
  unfold matchHostname
  simp only
  cases hl : sanLoop host (hostIpOf host) cert.san [] with
  | error e => rfl
  | ok r =>
    cases r with
    | none => rfl
    | some names =>
      have hne : names ≠ [] := sanLoop_recorded hl h
      have : names.isEmpty = false := by cases names <;> simp_all
      simp [this]

example : matchHostname (some ⟨[(kDNS, lit "x.y")], [[(kCN, lit "a.b")]]⟩) (lit "a.b") true
    = .error .certificateError := by decide +kernel

/-- commonName is ignored when `hostname_checks_common_name` is off. -/
theorem C08_rejects_cn_when_not_enabled {cert : Cert} {host : Str} (subject' : List (List (Str × Str))) :
    matchHostname (some cert) host false = matchHostname (some { cert with subject := subject' }) host false := by
  unfold matchHostname
  simp

example : matchHostname (some ⟨[], [[(kCN, lit "a.b")]]⟩) (lit "a.b") false = .error .certificateError ∧
    matchHostname (some ⟨[], [[(kCN, lit "a.b")]]⟩) (lit "a.b") true = .ok () := by decide +kernel

/-- An exact dNSName entry makes `match_hostname` succeed for a DNS host — wherever the entry stands
in the list and whatever the other entries are (a malformed dNSName in front of it, which makes
`_dnsname_match` raise, is passed over). -/
theorem C08_exact_san_accepts {cert : Cert} {v host : Str} {cn : Bool}
    (hmem : (kDNS, v) ∈ cert.san) (hv : v ≠ []) (hs : star ∉ v) (heq : lower v = lower host)
    (hdns : hostIpOf host = none) :
    matchHostname (some cert) host cn = .ok () := by
  rw [matchHostname_ok_iff, hdns]
  exact Or.inl (sanLoop_dns_host.1.2 ⟨(kDNS, v), hmem, rfl, C08_exact_accepts hv hs heq⟩)

example : matchHostname (some ⟨[(kDNS, lit "*.x"), (kIP, lit "::1")] ++ (kDNS, lit "b.a") :: [], []⟩) (lit "B.A")
    = .ok () := by decide +kernel
example : (kDNS, lit "b.a") ∈ [(kDNS, lit "a**.x"), (kIP, lit "<invalid>"), (kDNS, lit "b.a")] ∧
    hostIpOf (lit "B.A") = none ∧ lower (lit "b.a") = lower (lit "B.A") := by decide +kernel
/-- the input of the former finding `accept-blocked-by-earlier-multi-wildcard-san` (the first
certificate used to be refused with `CertificateError`): the order of the entries does not matter -/
theorem C08_exact_san_after_multi_wildcard_ok :
    matchHostname (some ⟨[(kDNS, lit "**"), (kDNS, lit "b")], []⟩) (lit "b") = .ok () ∧
    matchHostname (some ⟨[(kDNS, lit "b"), (kDNS, lit "**")], []⟩) (lit "b") = .ok () := by decide +kernel

/-- Passing over malformed entries never turns into acceptance: for a DNS host (commonName not
enabled) `match_hostname` succeeds **iff** some dNSName entry is accepted by `_dnsname_match` — so
every reject clause proved above for a single entry carries over to whole certificates; a
certificate all of whose entries are malformed or non-matching is refused with `CertificateError`. -/
theorem C08_dns_host_accepts_iff_entry_matches {cert : Cert} {host : Str} (hdns : hostIpOf host = none) :
    (matchHostname (some cert) host false = .ok () ↔
      ∃ e ∈ cert.san, e.1 = kDNS ∧ dnsnameMatch e.2 host = .ok true) ∧
    (matchHostname (some cert) host false ≠ .ok () → matchHostname (some cert) host false = .error .certificateError) := by
  constructor
  · rw [matchHostname_ok_iff, hdns, sanLoop_dns_host.1]
    simp
  · unfold matchHostname
    simp only [hdns]
    cases hl : sanLoop host none cert.san [] with
    | error x => exact absurd hl (sanLoop_dns_host.2 x)
    | ok r => cases r <;> simp

example : matchHostname (some ⟨[(kDNS, lit "**")], []⟩) (lit "b") = .error .certificateError ∧
    matchHostname (some ⟨[(kDNS, lit "**"), (kDNS, lit "a*b*"), (kDNS, lit "c")], []⟩) (lit "b") = .error .certificateError ∧
    matchHostname (some ⟨[], [[(kCN, lit "**"), (kCN, lit "b")]]⟩) (lit "b") true = .ok () := by decide +kernel

/-- No certificate (`None` / `{}`): never accepted. -/
theorem C08_rejects_missing_certificate (host : Str) (cn : Bool) : matchHostname none host cn = .error .valueError := rfl

/-- Brackets are stripped only around IP literals; every other name reaches `match_hostname` untouched. -/
theorem C08_wrapper_strips_brackets_only_for_ip (cert : Option Cert) (host : Str) (cn : Bool) :
    matchHostnameWrapper cert host cn =
      if isIpaddress (stripBrackets host) then matchHostname cert (stripBrackets host) cn
      else matchHostname cert host cn := by
  unfold matchHostnameWrapper
  split <;> simp_all

example : matchHostnameWrapper (some ⟨[(kIP, lit "::1")], []⟩) (lit "[0:0::1]") = .ok () ∧
    matchHostname (some ⟨[(kIP, lit "::1")], []⟩) (lit "[0:0::1]") = .error .certificateError ∧
    matchHostnameWrapper (some ⟨[(kDNS, lit "a")], []⟩) (lit "[a]") = .error .certificateError := by decide +kernel

/-- The generated `HASHFUNC_MAP`: lengths 32 / 40 / 64 select md5 / sha1 / sha256 … -/
theorem C08_hash_table_selects :
    algOfLength 32 = some .md5 ∧ algOfLength 40 = some .sha1 ∧ algOfLength 64 = some .sha256 := by decide +kernel

/-- … and no other length selects anything. -/
theorem C08_hash_table_only (n : Nat) (alg : Alg) (h : algOfLength n = some alg) :
    (n = 32 ∧ alg = .md5) ∨ (n = 40 ∧ alg = .sha1) ∨ (n = 64 ∧ alg = .sha256) := by
  have hsel := C08_hash_table_selects
  by_cases h32 : n = 32
  · subst h32
    rw [hsel.1] at h
    cases h
    simp
  · by_cases h40 : n = 40
    · subst h40
      rw [hsel.2.1] at h
      cases h
      simp
    · by_cases h64 : n = 64
      · subst h64
        rw [hsel.2.2] at h
        cases h
        simp
      · have e1 : (32 == n) = false := by simpa using fun e : 32 = n => h32 e.symm
        have e2 : (40 == n) = false := by simpa using fun e : 40 = n => h40 e.symm
        have e3 : (64 == n) = false := by simpa using fun e : 64 = n => h64 e.symm
        simp [algOfLength, hashEntry, Gen.hashfuncMap, List.find?, e1, e2, e3] at h

/-- The length of the hex pin that selects an algorithm is twice that algorithm's digest size
(md5 16, sha1 20, sha256 32 bytes). -/
theorem C08_hash_table_digest_size (n : Nat) (alg : Alg) (h : algOfLength n = some alg) :
    n = 2 * (match alg with | .md5 => 16 | .sha1 => 20 | .sha256 => 32 | .other _ => 0) := by
  rcases C08_hash_table_only n alg h with ⟨rfl, rfl⟩ | ⟨rfl, rfl⟩ | ⟨rfl, rfl⟩ <;> rfl

/-- Accept iff the normalised pin (colons removed, lower-cased) has a length listed in the table and
is the hex of the digest the table selects for that length. -/
theorem C08_fingerprint_iff (H : Alg → Bytes → Bytes) (cert : Bytes) (pin : Str) :
    assertFingerprint H (some cert) pin = .ok () ↔
      ∃ alg, algOfLength (normPin pin).length = some alg ∧ unhexlify (normPin pin) = some (H alg cert) := by
  unfold assertFingerprint algOfLength
  simp only
  cases he : hashEntry (normPin pin).length with
  | none => simp
  | some e =>
    obtain ⟨name, avail⟩ := e
    cases avail with
    | false => simp
    | true =>
      simp only [Option.some.injEq, exists_eq_left']
      cases hu : unhexlify (normPin pin) with
      | none => split <;> simp
      | some b =>
        have hsur : (normPin pin).any (fun c => decide (0xD800 ≤ c) && decide (c ≤ 0xDFFF)) = false := by
          rw [List.any_eq_false]
          intro c hc
          have := hexVal_lt_128 (unhexlify_some_hex hu c hc)
          simp
          omega
        simp only [hsur, Bool.false_eq_true, if_false, Option.some.injEq]
        by_cases hb : H (algOfName name) cert = b
        · simp [hb]
        · have : (H (algOfName name) cert == b) = false := by simpa using hb
          simp [this]
          exact fun h => hb h.symm

example : ∃ pin, assertFingerprint (fun _ _ => List.replicate 16 171) (some [1, 2, 3]) pin = .ok () :=
  ⟨lit "AB:ab:AB:ab:AB:ab:AB:ab:AB:ab:AB:ab:AB:ab:AB:ab", by simp only [lit_ofList]; decide +kernel⟩

/-- Pins of any other length are rejected. -/
theorem C08_fingerprint_rejects_other_lengths (H : Alg → Bytes → Bytes) (cert : Option Bytes) (pin : Str)
    (h : (normPin pin).length ≠ 32 ∧ (normPin pin).length ≠ 40 ∧ (normPin pin).length ≠ 64) :
    assertFingerprint H cert pin ≠ .ok () := by
  cases cert with
  | none => simp [assertFingerprint]
  | some c =>
    intro hok
    obtain ⟨alg, ha, _⟩ := (C08_fingerprint_iff H c pin).1 hok
    rcases C08_hash_table_only _ _ ha with h' | h' | h' <;> omega

example : assertFingerprint (fun _ _ => []) (some []) [] = .error .sslError := by decide +kernel

/-- Case and colons are ignored: upper-casing the pin or inserting / removing a colon anywhere does
not change the verdict. -/
theorem C08_fingerprint_ignores_case_and_colons (H : Alg → Bytes → Bytes) (cert : Option Bytes) (a b : Str) :
    assertFingerprint H cert (upper (a ++ b)) = assertFingerprint H cert (a ++ b) ∧
    assertFingerprint H cert (a ++ colon :: b) = assertFingerprint H cert (a ++ b) := by
  unfold assertFingerprint
  rw [normPin_upper, normPin_insert_colon]
  exact ⟨rfl, rfl⟩

/-- A pin that decodes to anything but the selected digest is rejected (single-nibble flips,
foreign digests): the comparison is on the whole digest. -/
theorem C08_fingerprint_rejects_wrong_digest (H : Alg → Bytes → Bytes) (cert : Bytes) (pin : Str) (alg : Alg) (b : Bytes)
    (ha : algOfLength (normPin pin).length = some alg) (hu : unhexlify (normPin pin) = some b) (hne : b ≠ H alg cert) :
    assertFingerprint H (some cert) pin ≠ .ok () := by
  intro hok
  obtain ⟨alg', ha', hu'⟩ := (C08_fingerprint_iff H cert pin).1 hok
  rw [ha] at ha'
  cases ha'
  rw [hu] at hu'
  cases hu'
  exact hne rfl

end U3.Props
