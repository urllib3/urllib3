import U3.Lemmas.Wire
/-!
# C11 — request bodies are framed exactly and re-sent identically

Framing theorems are about `U3.Wire.framing / sendChunks / bodyPhase` (transcription of
`HTTPConnection.request`) against the independent strict decoder `dechunk` / `ofHex`; the re-send
theorems about `U3.Wire.sendHistory` (how `urlopen` threads `body_pos`).
-/
namespace U3.Props
open U3 U3.Wire

def c11cfg : Cfg := ⟨lit "h", 80, 80, 4, .ok [], .error .unicodeError⟩

/-- the `%x` chunk-size line is read back exactly by a strict hex reader, for every length -/
theorem C11_hex_roundtrip (n : Nat) : ofHex (toHex n) = some n := ofHex_toHex n

/-- chunk framing round trip: non-empty pieces framed as `hex CRLF data CRLF … 0 CRLF CRLF` are
decoded by the strict chunked decoder to exactly their concatenation (any number / size of pieces) -/
theorem C11_chunk_roundtrip (ds : List Bytes) (hne : ∀ d ∈ ds, d ≠ []) :
    dechunk ((frameData ds ++ lastChunk).length + 1) (frameData ds ++ lastChunk) = some ds.flatten := by
  apply dechunk_frameData ds hne
  have := length_le_frameData ds
  simp only [List.length_append]
  omega

example : dechunk 100 (frameData [[1, 2], [3]] ++ lastChunk) = some [1, 2, 3] := by decide

/-- component of the round trip: for every list of pieces (bytes, str, buffers of any item size —
`wellSized` is only the object invariant of a buffer: positive item size, a whole number of items),
what the body loop writes in chunked mode is the chunk framing of the non-empty encoded pieces — which
`C11_chunk_roundtrip` decodes to the payload — and in Content-Length mode it is the payload itself -/
theorem C11_body_loop_frames_payload (cs : List Chunk) (hw : ∀ c ∈ cs, wellSized c) (chunked : Bool)
    (hok : (sendChunks chunked cs).err = none) :
    ∃ ds : List Bytes, (∀ d ∈ ds, d ≠ []) ∧ chunksPayload cs = some ds.flatten ∧
      (sendChunks chunked cs).written = if chunked then frameData ds else ds.flatten :=
  sendChunks_spec cs hw chunked hok

example : (sendChunks true [.bytes [1, 2], .str [], .str [233]]).written
    = frameData [[1, 2], [0xC3, 0xA9]] := by decide

example : (∀ c ∈ [Chunk.buf [1, 0, 2, 0] 2, .buf [] 4], wellSized c) ∧
    (sendChunks true [.buf [1, 0, 2, 0] 2, .buf [] 4]).written = frameData [[1, 0, 2, 0]] :=
  ⟨by simp [wellSized], by decide⟩

/-- The full round trip: whenever the caller supplies no framing header and the request is accepted,
the permissive head parser followed by the strict de-framer (exactly one of Content-Length / chunked, or
neither with an empty body part) recovers exactly the body's bytes (str as UTF-8; files from their
start offset, read with `read(blocksize)` calls that may each return fewer items than asked for — `body`
ranges over file-like bodies with EVERY read script, see `C11_read_loop_yields_all_data`; iterables with
empty pieces; buffers with items of any width, see `C11_wide_buffer_ok`).  Hypotheses: a positive
blocksize, and the object invariant of buffers (`WellSizedBody`: positive item size, a whole number of
items — not a restriction on the item size); the method needs no hypothesis (`putrequest` refuses the
empty method, see C10). -/
theorem C11_payload_roundtrip (cfg : Cfg) (meth url : Str) (headers : List (Str × Str)) (body : Body) (ch : Bool)
    (w : Bytes)
    (h1 : (headerKeys headers).contains (lit "content-length") = false)
    (h2 : (headerKeys headers).contains (lit "transfer-encoding") = false)
    (hbs : 0 < cfg.blocksize) (hw : WellSizedBody body)
    (h : serialize cfg meth url headers body ch = .ok w) :
    ∃ r kind pay, strictParse w = some r ∧ deframe r = some (kind, pay) ∧ payload body = some pay := by
  obtain ⟨p, hp, hok, rfl⟩ := serialize_ok h
  obtain ⟨kind, pay, hd, hpay⟩ := deframe_prepared hp h1 h2 hbs hw hok meth (urlOrSlash url)
  exact ⟨_, kind, pay, strictParse_prepared (prepare_legal hp) _, hd, hpay⟩

/-- with block size 4 the second `read(4)` is a short read in the middle of the data -/
def c11Stream : FileB := ⟨[[1, 2, 3, 4], [5], [6, 7, 8, 9], [10]], 0, .ok, .ok, false⟩

/-- The round trips quoted below — a file read from an offset, a stream with a short read in the middle,
a text stream, a buffer of two-byte items — run in one evaluation: every evaluation of `request`
decodes the string constants of the model afresh, which is nearly all of its work. -/
theorem c11_roundtrip_vectors :
    (serialize c11cfg (lit "PUT") (lit "/") [] (.file ⟨[[1, 2, 3, 4, 5, 6]], 1, .ok, .ok, false⟩) false).toOption.bind
      (fun w => (strictParse w).bind deframe) = some (.chunked, [2, 3, 4, 5, 6]) ∧
    (serialize c11cfg (lit "PUT") (lit "/") [] (.file c11Stream) false).toOption.bind
      (fun w => (strictParse w).bind deframe) = some (.chunked, [1, 2, 3, 4, 5, 6, 7, 8, 9, 10]) ∧
    (serialize c11cfg (lit "PUT") (lit "/") [] (.file ⟨[[97, 233], [98], [99, 100, 101, 102, 103]], 0, .ok, .ok, true⟩) false).toOption.bind
      (fun w => (strictParse w).bind deframe) = some (.chunked, [97, 0xC3, 0xA9, 98, 99, 100, 101, 102, 103]) ∧
    (serialize c11cfg (lit "PUT") (lit "/") [] (.buffer [1, 0, 2, 0, 3, 0] 2) true).toOption.bind
      (fun w => (strictParse w).bind deframe) = some (.chunked, [1, 0, 2, 0, 3, 0]) := by
  decide +kernel

example : (serialize c11cfg (lit "PUT") (lit "/") [] (.file ⟨[[1, 2, 3, 4, 5, 6]], 1, .ok, .ok, false⟩) false).toOption.bind
    (fun w => (strictParse w).bind deframe) = some (.chunked, [2, 3, 4, 5, 6]) := c11_roundtrip_vectors.1

/-- what a read script can ever hand out is the concatenation of its pieces before the first empty one
(an empty `read()` result is end-of-file) — for a script without empty piece that of all its pieces -/
theorem C11_script_data (ps : List (List Nat)) :
    scriptData ps = (ps.takeWhile fun p => !p.isEmpty).flatten ∧
    ((∀ p ∈ ps, p ≠ []) → scriptData ps = ps.flatten) := by
  have h : scriptData ps = (ps.takeWhile fun p => !p.isEmpty).flatten := by
    induction ps with
    | nil => rfl
    | cons p t ih =>
      simp only [scriptData, List.takeWhile_cons]
      cases p.isEmpty <;> simp [ih]
  refine ⟨h, fun hne => ?_⟩
  have := List.takeWhile_append_of_pos (p := fun p : List Nat => !p.isEmpty) (l₂ := [])
    fun p hp => by simpa using hne p hp
  rw [h, ← List.append_nil ps, this, List.takeWhile_nil]

example : (∀ p ∈ c11Stream.pieces, p ≠ []) ∧ scriptData c11Stream.pieces = [1, 2, 3, 4, 5, 6, 7, 8, 9, 10] := by
  decide

/-- The loop of `chunk_readable()` (`read(blocksize)` until the first empty result) over a file-like
body with **any** read script, from any offset, with any positive block size — however short the
individual reads are: the blocks it yields are non-empty, concatenate to ALL the data from the offset
on, and the file is left at the end of the data. -/
theorem C11_read_loop_yields_all_data (f : FileB) (bs : Nat) (hbs : 0 < bs) :
    (chunkReadable bs f).1.flatten = f.content.drop f.pos ∧
    (∀ d ∈ (chunkReadable bs f).1, d ≠ []) ∧
    (chunkReadable bs f).2 = { f with pos := max f.pos f.content.length } :=
  chunkReadable_spec hbs f

example : (chunkReadable 4 c11Stream).1 = [[1, 2, 3, 4], [5], [6, 7, 8, 9], [10]] := by decide
example : (chunkReadable 3 c11Stream).1 = [[1, 2, 3], [4], [5], [6, 7, 8], [9], [10]] := by decide
example : (chunkReadable 4 { c11Stream with pos := 2 }).1 = [[3, 4], [5], [6, 7, 8, 9], [10]] := by decide
example : (chunkReadable 4 ⟨[[1, 2], [], [3]], 0, .ok, .ok, false⟩).1 = [[1, 2]] := by decide

/-- The body loop of `request` over a file-like body (binary or text) with **any** read script: if
nothing fails — only the UTF-8 encoding of a piece of a text stream can — what is written is, in chunked
mode, the chunk framing of non-empty pieces whose concatenation is the payload (all the data from the
file's offset on, str as UTF-8), which `C11_chunk_roundtrip` decodes to the payload; and otherwise the
payload itself.  No Content-Length is recommended for such a body. -/
theorem C11_stream_body_loop (f : FileB) (meth : Str) (bs : Nat) (hbs : 0 < bs) (chunked : Bool) :
    ∃ cc cs, bodyToChunks (.file f) meth bs = .ok cc ∧ cc.chunks = some cs ∧ cc.contentLength = none ∧
      ((sendChunks chunked cs).err = none →
        ∃ ds : List Bytes, (∀ d ∈ ds, d ≠ []) ∧ payload (.file f) = some ds.flatten ∧
          (sendChunks chunked cs).written = if chunked then frameData ds else ds.flatten) := by
  refine ⟨_, _, rfl, rfl, rfl, fun hok => ?_⟩
  have hb := bodyToChunks_spec (m := meth) hbs (body := .file f) rfl
  obtain ⟨ds, h1, h2, h3⟩ := sendChunks_spec _ (hb.sized trivial _ rfl) chunked hok
  exact ⟨ds, h1, hb.pay ▸ h2, h3⟩

/-- … for a binary stream nothing can fail and every `read()` result is one chunk: the chunked body
`request` writes (with the terminating chunk) is decoded by the strict chunked decoder to exactly the
data from the file's offset on, for every read script -/
theorem C11_stream_binary_dechunks (f : FileB) (hb : f.text = false) (meth : Str) (bs : Nat) (hbs : 0 < bs) :
    ∃ cc cs, bodyToChunks (.file f) meth bs = .ok cc ∧ cc.chunks = some cs ∧
      (sendChunks true cs).err = none ∧
      (sendChunks true cs).written = frameData (chunkReadable bs f).1 ∧
      dechunk (((sendChunks true cs).written ++ lastChunk).length + 1) ((sendChunks true cs).written ++ lastChunk)
        = some (f.content.drop f.pos) := by
  obtain ⟨h1, h3, _⟩ := chunkReadable_spec hbs f
  obtain ⟨g1, g2⟩ := sendChunks_bytes_blocks _ h3
  refine ⟨_, _, rfl, rfl, ?_⟩
  simp only [hb, Bool.false_eq_true, if_false]
  refine ⟨g1, g2, ?_⟩
  rw [g2, ← h1]
  exact C11_chunk_roundtrip _ h3

example : c11Stream.text = false ∧ 0 < 4 := by decide

example : (serialize c11cfg (lit "PUT") (lit "/") [] (.file c11Stream) false).toOption.bind
    (fun w => (strictParse w).bind deframe) = some (.chunked, [1, 2, 3, 4, 5, 6, 7, 8, 9, 10]) :=
  c11_roundtrip_vectors.2.1

example : (sendChunks true ((chunkReadable 4 c11Stream).1.map Chunk.bytes)).written
    = frameData [[1, 2, 3, 4], [5], [6, 7, 8, 9], [10]] := by decide

example : (serialize c11cfg (lit "PUT") (lit "/") [] (.file ⟨[[97, 233], [98], [99, 100, 101, 102, 103]], 0, .ok, .ok, true⟩) false).toOption.bind
    (fun w => (strictParse w).bind deframe) = some (.chunked, [97, 0xC3, 0xA9, 98, 99, 100, 101, 102, 103]) :=
  c11_roundtrip_vectors.2.2.1

/-- `array('H', [1, 2, 3])` -/
example : WellSizedBody (.buffer [1, 0, 2, 0, 3, 0] 2) := by simp [WellSizedBody]

example : (serialize c11cfg (lit "PUT") (lit "/") [] (.buffer [1, 0, 2, 0, 3, 0] 2) true).toOption.bind
    (fun w => (strictParse w).bind deframe) = some (.chunked, [1, 0, 2, 0, 3, 0]) := c11_roundtrip_vectors.2.2.2

/-- `array('H', [1, 2, 3])` with `chunked=True` (the input on which the chunk-size line used to count
items instead of bytes): the strict decoder recovers exactly the six bytes -/
theorem C11_wide_buffer_ok :
    (sendChunks true [.buf [1, 0, 2, 0, 3, 0] 2]).err = none ∧
    dechunk 100 ((sendChunks true [.buf [1, 0, 2, 0, 3, 0] 2]).written ++ lastChunk) = some [1, 0, 2, 0, 3, 0] := by
  decide

/-- exactly one framing: when the caller supplies no framing header, `request` adds at most one of
`Transfer-Encoding: chunked` / `Content-Length: n`, and exactly one unless the body is absent, the
method expects none and chunking was not requested -/
theorem C11_exactly_one_framing (keys : List Str) (ch : Bool) (chunks : Option (List Chunk)) (cl : Option Nat)
    (fr : Framing) (h : framing keys ch chunks cl = .ok fr)
    (hk1 : keys.contains (lit "content-length") = false) (hk2 : keys.contains (lit "transfer-encoding") = false) :
    (fr.chunked = true ∧ fr.lines = [(lit "Transfer-Encoding", lit "chunked")] ∧ (ch = true ∨ (cl = none ∧ chunks.isSome)))
    ∨ (fr.chunked = false ∧ fr.lines = [] ∧ ch = false ∧ cl = none ∧ chunks = none)
    ∨ (∃ n, fr.chunked = false ∧ fr.lines = [(lit "Content-Length", toDec n)] ∧ ch = false ∧ cl = some n) := by
  rcases framing_inv h with ⟨rfl, _, h3⟩ | ⟨hl, hn⟩ | ⟨n, rfl, _, _, hch, hcl⟩
  · exact .inl ⟨rfl, rfl, h3⟩
  · obtain ⟨h1, h2, h3, h4⟩ := hn hk1 hk2
    exact .inr (.inl ⟨h1, hl, h2, h3, h4⟩)
  · exact .inr (.inr ⟨n, rfl, rfl, hch, hcl⟩)

/-- body-less requests: unframed for the methods of `_METHODS_NOT_EXPECTING_BODY` (which contain
GET / HEAD / DELETE / OPTIONS and none of POST / PUT / PATCH), `Content-Length: 0` otherwise;
`chunked=True` is honoured in both cases -/
theorem C11_bodyless_table (meth : Str) (bs : Nat) :
    (∀ m ∈ [lit "GET", lit "HEAD", lit "DELETE", lit "OPTIONS"], Gen.methodsNotExpectingBody.contains m = true) ∧
    (∀ m ∈ [lit "POST", lit "PUT", lit "PATCH"], Gen.methodsNotExpectingBody.contains m = false) ∧
    (∃ cc, bodyToChunks .none meth bs = .ok cc ∧ cc.chunks = none ∧
      cc.contentLength = (if Gen.methodsNotExpectingBody.contains (upper meth) then none else some 0)) ∧
    (∃ fr, framing [] false none none = .ok fr ∧ fr.lines = [] ∧ fr.chunked = false) ∧
    (∃ fr, framing [] false none (some 0) = .ok fr ∧ fr.lines = [(lit "Content-Length", [48])] ∧ fr.chunked = false) ∧
    (∃ fr, framing [] true none none = .ok fr ∧ fr.lines = [(lit "Transfer-Encoding", lit "chunked")] ∧ fr.chunked = true) := by
  have ⟨h1, h2, h3, h4, h5⟩ :
      (∀ m ∈ [lit "GET", lit "HEAD", lit "DELETE", lit "OPTIONS"], Gen.methodsNotExpectingBody.contains m = true) ∧
      (∀ m ∈ [lit "POST", lit "PUT", lit "PATCH"], Gen.methodsNotExpectingBody.contains m = false) ∧
      framing [] false none none = .ok ⟨false, []⟩ ∧
      framing [] false none (some 0) = .ok ⟨false, [(lit "Content-Length", [48])]⟩ ∧
      framing [] true none none = .ok ⟨true, [(lit "Transfer-Encoding", lit "chunked")]⟩ := by decide +kernel
  exact ⟨h1, h2, ⟨_, rfl, rfl, rfl⟩, ⟨_, h3, rfl, rfl⟩, ⟨_, h4, rfl, rfl⟩, ⟨_, h5, rfl, rfl⟩⟩

def c11PayloadOf (a : Attempt) : Option (FrameKind × Bytes) := (strictParse a.wire).bind deframe

def c11St0 (meth : Str) (body : Body) : HState := ⟨meth, [], body, .none, false, none⟩

/-
Full statement (Appendix E):
  `(∀ a ∈ (sendHistory lvl cfg t ch hist st).attempts, ¬a.after303 → payload a = payload (first attempt))
     ∨ (sendHistory …).result = .error .unrewindableBody`   for every body, level and history.
It does NOT hold of the code as it stands for two kinds of body: one-shot iterables and files without
`tell()` (`C11_resend_oneshot_witness`, `C11_resend_no_tell_witness`: the call succeeds while the
re-sent body is empty).  What holds is `C11_resend_identical_or_unrewindable_partial`.
-/
/-- the hypothesis of the partial theorem — everything except the two kinds of body of the remaining
findings: not a one-shot iterable, not a file without `tell()`.  It is `Wire.Replayable` (as `c11Rewindable`
below is `Wire.Good`) written out, so that the theorem can be read without the lemma file. -/
def c11Replayable (body : Body) : Prop :=
  match body with
  | .iter _ one => one = false
  | .file f => f.tell ≠ .absent
  | _ => True

/-- bodies that can always be re-sent: `None` / bytes / str / a buffer / a re-iterable iterable, or a
file with working `seek()` and `tell()` -/
def c11Rewindable (body : Body) : Prop :=
  Stable body ∨ ∃ f, body = .file f ∧ f.seek = .ok ∧ f.tell = .ok

/-- For **every** attempt history, at pool and at manager level, and every body other than a one-shot
iterable or a file without `tell()`: every request written before a 303 is byte-identical to the
first one (so in particular its de-framed payload is), and the call can only fail with
`UnrewindableBodyError` — and that only when the body is a file whose `tell()` or `seek()` is
missing or failing — or with the error of sending a request. -/
theorem C11_resend_identical_or_unrewindable_partial (lvl : Level) (cfg : Cfg) (target : Str) (chunked : Bool)
    (meth : Str) (hs : List (Str × Str)) (body : Body) (hist : List Outcome) (hr : c11Replayable body) :
    (∀ a ∈ (sendHistory lvl cfg target chunked hist ⟨meth, hs, body, .none, false, none⟩).attempts,
        a.after303 = false → a.wire = (request cfg meth target hs body chunked).sent.written) ∧
    ((sendHistory lvl cfg target chunked hist ⟨meth, hs, body, .none, false, none⟩).result = .ok () ∨
     (¬ c11Rewindable body ∧
      (sendHistory lvl cfg target chunked hist ⟨meth, hs, body, .none, false, none⟩).result = .error .unrewindableBody) ∨
     ∃ e m h b, (sendHistory lvl cfg target chunked hist ⟨meth, hs, body, .none, false, none⟩).result = .error e ∧
       (request cfg m target h b chunked).sent.err = some e) := by
  obtain ⟨h1, h2⟩ := sendHistory_inv lvl cfg target chunked hist body _ hr (inv_first body meth hs false)
  exact ⟨fun a ha h3 => (h1 a ha h3).2, h2⟩

example : c11Replayable (.file ⟨[[1, 2, 3]], 1, .absent, .ok, false⟩) := by simp [c11Replayable]
example : c11Replayable (.iter [.bytes [1], .str []] false) := rfl
example : c11Rewindable (.file ⟨[[1, 2, 3]], 1, .ok, .ok, false⟩) := Or.inr ⟨_, rfl, rfl, rfl⟩
example : c11Rewindable (.iter [.bytes [1], .str []] false) := Or.inl rfl

/-- … in particular a rewindable body is re-sent identically and the call never fails because of
re-positioning the body: at both levels, also across a 303 -/
theorem C11_resend_rewindable (lvl : Level) (cfg : Cfg) (target : Str) (chunked : Bool)
    (meth : Str) (hs : List (Str × Str)) (body : Body) (hist : List Outcome) (hr : c11Rewindable body) :
    (∀ a ∈ (sendHistory lvl cfg target chunked hist ⟨meth, hs, body, .none, false, none⟩).attempts,
        a.after303 = false → a.wire = (request cfg meth target hs body chunked).sent.written) ∧
    ((sendHistory lvl cfg target chunked hist ⟨meth, hs, body, .none, false, none⟩).result = .ok () ∨
     ∃ e m h b, (sendHistory lvl cfg target chunked hist ⟨meth, hs, body, .none, false, none⟩).result = .error e ∧
       (request cfg m target h b chunked).sent.err = some e) := by
  obtain ⟨h1, h2⟩ := C11_resend_identical_or_unrewindable_partial lvl cfg target chunked meth hs body hist
    (Good.replayable hr)
  refine ⟨h1, ?_⟩
  rcases h2 with h | ⟨hn, _⟩ | h
  · exact Or.inl h
  · exact absurd hr hn
  · exact Or.inr h

/-- how the call over an attempt history ends and what the de-framer recovers from each request written -/
def c11Run (lvl : Level) (hist : List Outcome) (meth : Str) (body : Body) :
    Except Exc Unit × List (Option (FrameKind × Bytes)) :=
  let r := sendHistory lvl c11cfg (lit "/p") false hist (c11St0 meth body)
  (r.result, r.attempts.map c11PayloadOf)

theorem c11Run_eq {lvl : Level} {hist : List Outcome} {meth : Str} {body : Body} {res : Except Exc Unit}
    {ps : List (Option (FrameKind × Bytes))} (h : c11Run lvl hist meth body = (res, ps)) :
    let r := sendHistory lvl c11cfg (lit "/p") false hist (c11St0 meth body)
    r.result = res ∧ r.attempts.map c11PayloadOf = ps :=
  ⟨congrArg Prod.fst h, congrArg Prod.snd h⟩

instance : DecidableEq (Except Exc Unit × List (Option (FrameKind × Bytes))) := inferInstance

/-- The histories of the witnesses and examples below, run in one evaluation: every evaluation of
`request` decodes the string constants of the model afresh, which is nearly all of its work. -/
theorem c11_resend_vectors :
    c11Run .pool [.retryStatus, .ok] (lit "POST") (.iter [.bytes [97, 98]] true)
      = (.ok (), [some (.chunked, [97, 98]), some (.chunked, [])]) ∧
    c11Run .pool [.redirectKeep, .ok] (lit "PUT") (.file ⟨[[1, 2, 3]], 0, .ok, .absent, false⟩)
      = (.ok (), [some (.chunked, [1, 2, 3]), some (.chunked, [])]) ∧
    c11Run .manager [.redirectKeep, .ok] (lit "PUT") (.file ⟨[[1, 2, 3]], 0, .ok, .ok, false⟩)
      = (.ok (), [some (.chunked, [1, 2, 3]), some (.chunked, [1, 2, 3])]) ∧
    c11Run .manager [.redirectKeep, .readErr, .redirectKeep, .ok] (lit "PUT") (.file ⟨[[1, 2, 3]], 1, .ok, .ok, false⟩)
      = (.ok (), [some (.chunked, [2, 3]), some (.chunked, [2, 3]), some (.chunked, [2, 3]), some (.chunked, [2, 3])]) ∧
    c11Run .pool [.redirectKeep, .readErr, .ok] (lit "PUT") (.file ⟨[[1, 2, 3]], 1, .ok, .ok, false⟩)
      = (.ok (), [some (.chunked, [2, 3]), some (.chunked, [2, 3]), some (.chunked, [2, 3])]) ∧
    c11Run .manager [.retryStatus, .redirectKeep, .ok] (lit "PUT") (.file { c11Stream with pos := 2 })
      = (.ok (), [some (.chunked, [3, 4, 5, 6, 7, 8, 9, 10]), some (.chunked, [3, 4, 5, 6, 7, 8, 9, 10]),
          some (.chunked, [3, 4, 5, 6, 7, 8, 9, 10])]) ∧
    c11Run .pool [.retryStatus, .ok] (lit "PUT") (.file ⟨[[1, 2, 3]], 0, .absent, .ok, false⟩)
      = (.error .unrewindableBody, [some (.chunked, [1, 2, 3])]) ∧
    c11Run .pool [.retryStatus, .ok] (lit "PUT") (.file ⟨[[1, 2, 3]], 0, .ok, .raises, false⟩)
      = (.error .unrewindableBody, [some (.chunked, [1, 2, 3])]) := by
  decide +kernel

theorem C11_resend_oneshot_witness :
    let r := sendHistory .pool c11cfg (lit "/p") false [.retryStatus, .ok] (c11St0 (lit "POST") (.iter [.bytes [97, 98]] true))
    r.result = .ok () ∧ r.attempts.map c11PayloadOf = [some (.chunked, [97, 98]), some (.chunked, [])] :=
  c11Run_eq c11_resend_vectors.1

theorem C11_resend_no_tell_witness :
    let r := sendHistory .pool c11cfg (lit "/p") false [.redirectKeep, .ok]
      (c11St0 (lit "PUT") (.file ⟨[[1, 2, 3]], 0, .ok, .absent, false⟩))
    r.result = .ok () ∧ r.attempts.map c11PayloadOf = [some (.chunked, [1, 2, 3]), some (.chunked, [])] :=
  c11Run_eq c11_resend_vectors.2.1

/-- the input on which `PoolManager.urlopen` used to re-send an empty body after a 307 (position not
threaded to the follow-up request): the file is re-sent from its recorded position -/
theorem C11_resend_manager_redirect_ok :
    let r := sendHistory .manager c11cfg (lit "/p") false [.redirectKeep, .ok]
      (c11St0 (lit "PUT") (.file ⟨[[1, 2, 3]], 0, .ok, .ok, false⟩))
    r.result = .ok () ∧ r.attempts.map c11PayloadOf = [some (.chunked, [1, 2, 3]), some (.chunked, [1, 2, 3])] :=
  c11Run_eq c11_resend_vectors.2.2.1

example :
    let r := sendHistory .manager c11cfg (lit "/p") false [.redirectKeep, .readErr, .redirectKeep, .ok]
      (c11St0 (lit "PUT") (.file ⟨[[1, 2, 3]], 1, .ok, .ok, false⟩))
    r.result = .ok () ∧ r.attempts.map c11PayloadOf =
      [some (.chunked, [2, 3]), some (.chunked, [2, 3]), some (.chunked, [2, 3]), some (.chunked, [2, 3])] :=
  c11Run_eq c11_resend_vectors.2.2.2.1

example :
    let r := sendHistory .pool c11cfg (lit "/p") false [.redirectKeep, .readErr, .ok]
      (c11St0 (lit "PUT") (.file ⟨[[1, 2, 3]], 1, .ok, .ok, false⟩))
    r.result = .ok () ∧ r.attempts.map c11PayloadOf = [some (.chunked, [2, 3]), some (.chunked, [2, 3]), some (.chunked, [2, 3])] :=
  c11Run_eq c11_resend_vectors.2.2.2.2.1

example :
    let r := sendHistory .manager c11cfg (lit "/p") false [.retryStatus, .redirectKeep, .ok]
      (c11St0 (lit "PUT") (.file { c11Stream with pos := 2 }))
    r.result = .ok () ∧ r.attempts.map c11PayloadOf =
      [some (.chunked, [3, 4, 5, 6, 7, 8, 9, 10]), some (.chunked, [3, 4, 5, 6, 7, 8, 9, 10]),
       some (.chunked, [3, 4, 5, 6, 7, 8, 9, 10])] :=
  c11Run_eq c11_resend_vectors.2.2.2.2.2.1

/-- the input on which the pool used to fail with a bare `ValueError` (303 followed with `body=None`
but the recorded position kept): the follow-up is a body-less, unframed GET -/
theorem C11_resend_pool_303_ok :
    let r := sendHistory .pool c11cfg (lit "/p") false [.redirect303, .ok]
      (c11St0 (lit "POST") (.file ⟨[[1, 2, 3]], 0, .ok, .ok, false⟩))
    r.result = .ok () ∧ r.attempts.map (·.after303) = [false, true] ∧
      r.attempts.map c11PayloadOf = [some (.chunked, [1, 2, 3]), some (.unframed, [])] ∧
      (r.attempts.map fun a => (strictParse a.wire).map (·.method)) = [some (lit "POST"), some (lit "GET")] := by
  decide +kernel

/-- the input on which every retry used to fail with a bare `ValueError` (a file with `tell()` but
without `seek()`): the first re-send is refused with `UnrewindableBodyError`, nothing is re-sent -/
theorem C11_resend_tell_without_seek_unrewindable :
    let r := sendHistory .pool c11cfg (lit "/p") false [.retryStatus, .ok]
      (c11St0 (lit "PUT") (.file ⟨[[1, 2, 3]], 0, .absent, .ok, false⟩))
    r.result = .error .unrewindableBody ∧ r.attempts.map c11PayloadOf = [some (.chunked, [1, 2, 3])] :=
  c11Run_eq c11_resend_vectors.2.2.2.2.2.2.1

example :
    (sendHistory .pool c11cfg (lit "/p") false [.retryStatus, .ok]
      (c11St0 (lit "PUT") (.file ⟨[[1, 2, 3]], 0, .ok, .raises, false⟩))).result = .error .unrewindableBody :=
  (c11Run_eq c11_resend_vectors.2.2.2.2.2.2.2).1

end U3.Props
