import U3.Lemmas.Resp
import U3.Lemmas.RespIO
import U3.Lemmas.RespWitness
import U3.Lemmas.RespDrain
import U3.Lemmas.RespDrainWitness
import U3.Lemmas.RespBroken
/-!
# C13 — a cut-off or corrupt response is never presented as complete

Proved for all inputs / segmentations: a `_safe_read` past the end of the received bytes raises
(the core of every truncation case); `read()` / preload on a body shorter than its Content-Length
raises `ProtocolError` and closes the connection; a chunk-size line that `int(x, 16)` rejects (or
EOF where a line should start) raises `ProtocolError` and closes; decoder errors become
`DecodeError`; an unfinished zstd frame fails `flush`; `_error_catcher` closes and releases the
connection on every unclean exit.

`read()` on every *broken chunked* body (`Broken`: the lenient reference reader finds the framing
incomplete or a size line unparseable) raises ProtocolError through `http.client`'s chunk reader;
`drain_conn()` on a short Content-Length body or a broken chunked body leaves the connection closed
(never released open), on a complete body it leaves it released and unclosed; in general the
connection survives `drain_conn()` only if `http.client` read the body to its end without an exception.

A defect of urllib3 (`read1()` ended a short Content-Length body silently) is repaired in /repo and
the model follows the repaired code: `C13_eof_before_length_raises` is the general statement,
`C13_read1_none_raises` evaluates the model on the input that showed it.

**`C13_truncated_raises`** ("for every call sequence", DESIGN Appendix E) is proved in full for the
framing level — a body short of its Content-Length, a chunked body the lenient reference reader finds
incomplete or unparseable —, for any decoder: no call of the read family ever signals an end of body;
`C13_truncated_generators_raise` is the same for `stream` / `read_chunked` / iteration.  Extended to
"the compressed stream is incomplete (zstd) / a later gzip member is corrupt" the statement is
**false** of the code as it is; the `…_silent` theorems are kernel-evaluated counter-examples
(`read(n)` on a truncated zstd stream; `MultiDecoder.flush`; a corrupt gzip member after the first,
swallowed as "trailing garbage").
-/
namespace U3.Props
open U3 U3.Resp U3.Resp.Witness

/-- reading `amt` bytes that the framing promises but the peer never sent raises IncompleteRead,
for every segmentation (this is `_safe_read`, used for Content-Length bodies, chunk data and the
CRLF after a chunk by both `http.client` and `read_chunked`) -/
theorem C13_truncated_raises_safe_read (h : H) (f : Fp) (amt : Nat) (hf : h.fp = some f)
    (hlen : f.content.length < amt) : (hSafeRead h amt).1 = .error .incompleteRead := by
  obtain ⟨f', he, _⟩ := hSafeRead_short h f amt hf hlen
  rw [he]

/-- `read()` (and therefore preload / `.data`) on a body shorter than its Content-Length raises
ProtocolError, closes the http.client response and the connection, and releases it -/
theorem C13_truncated_raises_content_length {δ : Type} (D : Dec δ) (cfg : Cfg δ) (r : R H δ)
    (f : Fp) (l : Nat) (dco : Option Bool) (cache : Bool)
    (hf : r.fp.fp = some f) (hcl : r.fp.closed = false) (hh : r.fp.head = false)
    (hc : r.fp.chunked = false) (hl : r.fp.length = some l) (hlen : f.content.length < l)
    (hb : r.buf = []) (hconn : r.conn = true) :
    let res := read hSrc D cfg r none dco cache
    res.1 = .error .protocolError ∧ res.2.connClosed = true ∧ res.2.released = true ∧
    res.2.fp.isclosed = true := by
  obtain ⟨r1, c, c4, hread, _⟩ := read_none_src_error hSrc D cfg hSrc_close_isclosed r .incompleteRead _ hcl
    (Prod.ext (hRead_length_short r.fp f l hf hh hc hl hlen).1 rfl) hconn
  intro res
  rw [show res = _ from hread dco cache]
  exact ⟨rfl, c.1, c.2.1, c4⟩

/-- preload is `read(decode_content=…)` in the constructor: same theorem -/
theorem C13_preload_raises {δ : Type} (D : Dec δ) (cfg : Cfg δ) (r : R H δ) (f : Fp) (l : Nat) (dc : Bool)
    (hf : r.fp.fp = some f) (hcl : r.fp.closed = false) (hh : r.fp.head = false)
    (hc : r.fp.chunked = false) (hl : r.fp.length = some l) (hlen : f.content.length < l)
    (hb : r.buf = []) (hconn : r.conn = true) :
    (read hSrc D cfg r none (some dc)).1 = .error .protocolError :=
  (C13_truncated_raises_content_length D cfg r f l (some dc) false hf hcl hh hc hl hlen hb hconn).1

example : (respOf wireShortCL 0 (some (lit "5")) false (some 5)).fp.length = some 5 ∧
    (respOf wireShortCL 0 (some (lit "5")) false (some 5)).fp.fp.map (·.content) = some (lit "ab") := by
  rw [begin_shortCL]
  decide +kernel

/-- `_update_chunk_length`: a size line that `int(line, 16)` rejects raises (InvalidChunkLength →)
ProtocolError, and EOF where a size line should start raises ProtocolError("Response ended
prematurely"); in both cases the response and the connection are closed first -/
theorem C13_bad_chunk_raises {δ : Type} (r : R H δ) (f : Fp) (hf : r.fp.fp = some f)
    (hl : r.chunkLeft = none) (hbad : parseSize (cutExt (lineOf f.content)) = .valueError) (hconn : r.conn = true) :
    let res := updateChunkLength hSrc r
    (∃ e, res.1 = .error e ∧ mapExc e = .protocolError) ∧ res.2.connClosed = true ∧
    res.2.fp.isclosed = true := by
  have h1 := hFpReadline_eq r.fp f hf
  simp only [updateChunkLength, hl, hSrc, h1, hbad, closeResp]
  by_cases hne : (cutExt (lineOf f.content)).isEmpty
  · simp [hne, mapExc, H.isclosed, H.close, hconn]
  · simp [hne, mapExc, H.isclosed, H.close, hconn]

example : parseSize (cutExt (lineOf (lit "zz\r\nabc"))) = .valueError ∧
    parseSize (cutExt (lineOf [])) = .valueError := by decide +kernel

/-- a decoder error inside `_decode` is raised as DecodeError -/
theorem C13_undecodable_raises {σ δ : Type} (D : Dec δ) (r : R σ δ) (d d' : δ) (data : Bytes) (fl : Bool)
    (hd : r.decoder = some d) (he : D.decompress d data = (.error .decodeError, d')) :
    (decode D r data true fl).1 = .error .decodeError := by
  simp [decode, hd, he, excOfDecompress]

/-- zstd: flushing a decoder whose current frame is unfinished is a DecodeError -/
theorem C13_zstd_incomplete_flush_raises {ρ : Type} (O : RawObj ρ) (z : ZObj ρ) (h : O.eof z.st = false) :
    (zsFlush O z).1 = .error .decodeError := by
  simp [zsFlush, h]

/-- `_error_catcher`: every unclean exit closes the original response and the connection, and the
connection is given back to the pool (closed, to be re-opened on a fresh socket) -/
theorem C13_error_closes_connection {δ α : Type} (r : R H δ) (e : RawExc) (hconn : r.conn = true) :
    let res := errorCatcher (α := α) hSrc r (.error e)
    res.1 = .error (mapExc e) ∧ res.2.connClosed = true ∧ res.2.released = true ∧
    res.2.conn = false ∧ res.2.fp.isclosed = true ∧ res.2.fp.closed = true := by
  simp [errorCatcher, releaseConn, hSrc, H.close, H.isclosed, hconn]

/-- **finding `silent-end:read1():cl-short`, in general**: whenever `_raw_read` — through `read(n)`,
`read1(n)` or `read1()` (no amount) — sees the end of the stream (`http.client` returns b"") while
`length_remaining` says that body bytes are still owed, it raises (IncompleteRead →) ProtocolError,
closes the response and the connection and hands the connection back closed.  (`read()` without
amount is `C13_truncated_raises_content_length`: `http.client` raises there itself.)
Before the repair in /repo the `read1()` case returned b"" — a normal end. -/
theorem C13_eof_before_length_raises {δ : Type} (cfg : Cfg δ) (r : R H δ) (amt : Option Nat) (rd1 : Bool) (h' : H)
    (hcl : r.fp.closed = false)
    (hread : (if rd1 then hRead1 r.fp amt else hRead r.fp amt) = (.ok [], h'))
    (hamt : amt ≠ some 0) (hapi : rd1 = true ∨ amt ≠ none)
    (henf : cfg.enforce = true) (hlr : r.lengthRemaining ≠ none ∧ r.lengthRemaining ≠ some 0)
    (hconn : r.conn = true) :
    let res := rawRead hSrc cfg r amt rd1
    res.1 = .error .protocolError ∧ res.2.connClosed = true ∧ res.2.released = true ∧
    res.2.conn = false ∧ res.2.fp.isclosed = true := by
  have hsrc : srcRead hSrc r amt rd1 = (.ok [], h') := by
    simp only [srcRead, hSrc, hcl, Bool.false_eq_true, if_false]
    exact hread
  obtain ⟨c, c4⟩ := caught_done hSrc hSrc_close_isclosed { r with fp := hSrc.close h' } hconn
  intro res
  rw [show res = _ from rawRead_eof_owed hSrc cfg r amt rd1 h' hsrc hamt hapi henf hlr]
  exact ⟨rfl, c.1, c.2.1, c.2.2, c4⟩

/-- the hypotheses of `C13_eof_before_length_raises` are met by the short body of
`C13_read1_none_raises`: after "ab" has been read, `http.client.read1()` returns b"" with
`length_remaining = 3` -/
example :
    let r0 := respOf wireShortCL 0 (some (lit "5")) false (some 5)
    let s1 := read1 hSrc cdDec cfgNone r0 none (some false)
    s1.2.fp.closed = false ∧ (hRead1 s1.2.fp none).1.toOption = some [] ∧ s1.2.lengthRemaining = some 3 ∧
    s1.2.conn = true := by
  decide +kernel

/-! ### the defect repaired in /repo, on the input that showed it -/

/-- `Content-Length: 5`, only "ab" arrives: `read1()` returns "ab", the next `read1()` raises
ProtocolError (IncompleteRead), closes the connection and hands it back closed — exactly as
`read()` does on the same response (before the repair the second `read1()` returned b"" and released
the still-open connection: findings `silent-end:read1():cl-short`,
`conn-released-open-after-silent-read1()`) -/
theorem C13_read1_none_raises :
    let r0 := respOf wireShortCL 0 (some (lit "5")) false (some 5)
    let s1 := read1 hSrc cdDec cfgNone r0 none (some false)
    let s2 := read1 hSrc cdDec cfgNone s1.2 none (some false)
    out s1 = some (lit "ab") ∧ err s2 = some .protocolError ∧ s2.2.lengthRemaining = some 3 ∧
    s2.2.released = true ∧ s2.2.connClosed = true ∧ s2.2.fp.isclosed = true ∧
    err (read hSrc cdDec cfgNone r0 none (some false)) = some .protocolError := by
  decide +kernel

/-! ### chunked bodies through `http.client`'s chunk reader, and `drain_conn()`

`Broken cl c` (Lemmas/RespRef) is the lenient reference reader's verdict "framing incomplete or
chunk-size line unparseable" on the bytes `c` that arrived before the peer's FIN, from the position
`cl` of `http.client`'s chunk bookkeeping — the Lean counterpart of `lenient_chunked` in
harness/props/c13.py returning `incomplete` / `unparseable`. -/

/-- **`read()` on a broken chunked body** — cut inside a chunk, before the CRLF after a chunk, before
the terminating zero-size chunk, or with a size line `int(x, 16)` rejects, after any number of whole
chunks, for every segmentation and from every position: `http.client`'s `_read_chunked` raises
`IncompleteRead`, `_error_catcher` turns it into ProtocolError, the response and the connection are
closed and the connection is handed back closed.  (urllib3's own parser: `C13_bad_chunk_raises`.) -/
theorem C13_truncated_raises_chunked {δ : Type} (D : Dec δ) (cfg : Cfg δ) (r : R H δ) (f : Fp)
    (dco : Option Bool) (cache : Bool)
    (hf : r.fp.fp = some f) (hcl : r.fp.closed = false) (hh : r.fp.head = false) (hc : r.fp.chunked = true)
    (hb : Broken r.fp.chunkLeft f.content) (hconn : r.conn = true) :
    let res := read hSrc D cfg r none dco cache
    res.1 = .error .protocolError ∧ res.2.connClosed = true ∧ res.2.released = true ∧
    res.2.conn = false ∧ res.2.fp.isclosed = true := by
  obtain ⟨h', e⟩ := hRead_broken_none r.fp f hf hh hc hb
  obtain ⟨r1, c, c4, hread, _⟩ := read_none_src_error hSrc D cfg hSrc_close_isclosed r .incompleteRead h' hcl e hconn
  intro res
  rw [show res = _ from hread dco cache]
  exact ⟨rfl, c.1, c.2.1, c.2.2, c4⟩

/-- non-vacuity: a chunk of 5 with 2 bytes before EOF; a whole chunk then EOF instead of the next
size line; a whole chunk then an unparseable size line -/
example : Broken none (lit "5\r\nab") := lit_cut ▸ broken_cut
example : Broken none (lit "2\r\nab\r\n") := by
  rw [show lit "2\r\nab\r\n" = [50, 13, 10, 97, 98, 13, 10] from by decide +kernel]
  exact .line _ 1 (by decide) (.data 1 _ (by decide) (.sep _ (by decide) (.badline _ (by decide))))
example : Broken none (lit "2\r\nab\r\nzz\r\ncd\r\n0\r\n\r\n") := by
  rw [show lit "2\r\nab\r\nzz\r\ncd\r\n0\r\n\r\n" =
    [50, 13, 10, 97, 98, 13, 10, 122, 122, 13, 10, 99, 100, 13, 10, 48, 13, 10, 13, 10] from by decide +kernel]
  exact .line _ 1 (by decide) (.data 1 _ (by decide) (.sep _ (by decide) (.badline _ (by decide))))
example : Broken (some 3) (lit "ab") := .short 2 _ (by decide +kernel)
example : Broken (some 0) (lit "\r") := .nosep _ (by decide +kernel)

/-- … and the response `begin()` makes of such a wire meets the other hypotheses -/
example :
    let h := (respChunked wireChunkedCut 3).fp
    h.head = false ∧ h.chunked = true ∧ h.closed = false ∧ h.chunkLeft = none ∧
    h.fp.map (·.content) = some (lit "5\r\nab") ∧ (respChunked wireChunkedCut 3).conn = true := by
  simp only [begin_chunkedCut]
  decide +kernel

/-- **`drain_conn()` on a body shorter than its Content-Length** (the hypotheses of
`C13_truncated_raises_content_length`): it returns normally — the ProtocolError is swallowed —,
and the response and the connection are closed; the connection goes back to the pool closed, never
open -/
theorem C13_drain_closes_content_length {δ : Type} (D : Dec δ) (cfg : Cfg δ) (r : R H δ) (f : Fp) (l : Nat)
    (hf : r.fp.fp = some f) (hcl : r.fp.closed = false) (hh : r.fp.head = false)
    (hc : r.fp.chunked = false) (hl : r.fp.length = some l) (hlen : f.content.length < l)
    (hconn : r.conn = true) :
    let res := drainConn hSrc D cfg r
    res.1 = .ok () ∧ res.2.connClosed = true ∧ res.2.released = true ∧ res.2.conn = false ∧
    res.2.fp.isclosed = true := by
  obtain ⟨r1, c, c4, _, hdrain⟩ := read_none_src_error hSrc D cfg hSrc_close_isclosed r .incompleteRead _ hcl
    (Prod.ext (hRead_length_short r.fp f l hf hh hc hl hlen).1 rfl) hconn
  intro res
  rw [show res = _ from hdrain]
  exact ⟨rfl, c.1, c.2.1, c.2.2, c4⟩

/-- **`drain_conn()` on a broken chunked body** (the hypotheses of `C13_truncated_raises_chunked`):
returns normally, response and connection closed, the connection handed back closed -/
theorem C13_drain_closes_chunked {δ : Type} (D : Dec δ) (cfg : Cfg δ) (r : R H δ) (f : Fp)
    (hf : r.fp.fp = some f) (hcl : r.fp.closed = false) (hh : r.fp.head = false) (hc : r.fp.chunked = true)
    (hb : Broken r.fp.chunkLeft f.content) (hconn : r.conn = true) :
    let res := drainConn hSrc D cfg r
    res.1 = .ok () ∧ res.2.connClosed = true ∧ res.2.released = true ∧ res.2.conn = false ∧
    res.2.fp.isclosed = true := by
  obtain ⟨h', e⟩ := hRead_broken_none r.fp f hf hh hc hb
  obtain ⟨r1, c, c4, _, hdrain⟩ := read_none_src_error hSrc D cfg hSrc_close_isclosed r .incompleteRead h' hcl e hconn
  intro res
  rw [show res = _ from hdrain]
  exact ⟨rfl, c.1, c.2.1, c.2.2, c4⟩

/-- the model computes it on the two damaged chunked wires (segmentation 3) -/
example :
    let s1 := drainConn hSrc cdDec cfgChunkedNone (respChunked wireChunkedCut 3)
    let s2 := drainConn hSrc cdDec cfgChunkedNone (respChunked wireChunkedBadLine 3)
    err s1 = none ∧ s1.2.connClosed = true ∧ s1.2.released = true ∧
    err s2 = none ∧ s2.2.connClosed = true ∧ s2.2.released = true ∧
    err (read hSrc cdDec cfgChunkedNone (respChunked wireChunkedBadLine 3) none (some true)) = some .protocolError := by
  simp only [begin_chunkedCut, begin_chunkedBadLine]
  decide +kernel

/-- **after `drain_conn()` the connection is open only if `http.client` read the body to its end**:
for EVERY response state that still holds its connection — any framing, any damage, any position, any
decoder — either `drain_conn()` leaves the connection closed, or the underlying file had been closed
before, or `http.client`'s `read()` of the whole remaining body returned without an exception
(which it does not on a short Content-Length body or a broken chunked body: the two theorems
above).  No exception inside `_raw_read` can leave a still-open connection behind — the seeded defect
that drained `_fp` directly and released by hand breaks exactly this. -/
theorem C13_drain_closed_unless_read_to_end {δ : Type} (D : Dec δ) (cfg : Cfg δ) (r : R H δ)
    (hconn : r.conn = true) :
    (drainConn hSrc D cfg r).2.connClosed = true ∨ r.fp.closed = true ∨
    ∃ d, (hRead r.fp none).1 = .ok d := by
  cases hcl : r.fp.closed with
  | true => exact Or.inr (Or.inl rfl)
  | false =>
    generalize hres : hRead r.fp none = res
    obtain ⟨x, h'⟩ := res
    cases x with
    | ok d => exact Or.inr (Or.inr ⟨d, rfl⟩)
    | error e =>
      obtain ⟨r1, c, _, _, hdrain⟩ := read_none_src_error hSrc D cfg hSrc_close_isclosed r e h' hcl hres hconn
      rw [hdrain]
      exact Or.inl c.1

example : (respChunked wireChunkedCut 3).conn = true := rfl

/-- **`drain_conn()` on a complete body** — intact Content-Length / close-delimited framing (`HI`) or
intact chunked framing (`CI`), any decoder obeying the streaming law, decoding on, from any point of
the body (also after partial reads): it returns, the response file is closed, the connection has
been *released* and the response has **not** closed it: it is reusable (for a close-delimited body
`http.client` has closed the socket itself, `will_close`) -/
theorem C13_drain_complete_released {δ : Type} (D : Dec δ) (cfg : Cfg δ) {G : δ → Bytes → Bytes → Prop}
    (hD : StreamLaw D G) (hdef : cfg.decodeDefault = true) (r : R H δ) (rest : Bytes)
    (hinv : Inv cfg hRem HI G r rest ∨ Inv cfg cRem CI G r rest)
    (hconn : r.conn = true) (hnc : r.connClosed = false) :
    ∃ r', drainConn hSrc D cfg r = (.ok (), r') ∧ r'.released = true ∧ r'.conn = false ∧
      r'.connClosed = false ∧ r'.fp.isclosed = true := by
  -- the same argument for either framing: any source that meets the contract `SrcSpec`
  suffices key : ∀ {rem : H → Bytes} {I : H → Option Int → Prop}, SrcSpec hSrc rem I → Inv cfg rem I G r rest → _ from
    hinv.elim (key hSrc_spec) (key hSrc_spec_chunked)
  intro rem I hS hinv
  obtain ⟨r', h1, h4, h5, h6⟩ := drainConn_complete hSrc D cfg (rawReadAllSpec_of_src hS) hD (closesAll_of_src hS)
    hdef r rest hinv
  exact ⟨r', h1, (h6 hconn).1, (h6 hconn).2, h5.trans hnc, h4⟩

example : StreamLaw cdDec CDGall := cdDec_streamLaw
example : Inv cfgGzipHello hRem HI CDGall respGzipHello (lit "hello") := inv_gzipHello
example : Inv cfgGzipChunked cRem CI CDGall respChunkedGzipHello (lit "hello") := inv_chunkedGzipHello
example : respGzipHello.conn = true ∧ respGzipHello.connClosed = false ∧ cfgGzipHello.decodeDefault = true :=
  ⟨rfl, rfl, rfl⟩

/-- … and with `decode_content=False` as the response default (nothing decoded so far) -/
theorem C13_drain_complete_released_raw {δ : Type} (D : Dec δ) (cfg : Cfg δ)
    (hdef : cfg.decodeDefault = false) (r : R H δ) (raw : Bytes)
    (hinv : RawInv hRem HI r raw ∨ RawInv cRem CI r raw)
    (hconn : r.conn = true) (hnc : r.connClosed = false) :
    ∃ r', drainConn hSrc D cfg r = (.ok (), r') ∧ r'.released = true ∧ r'.conn = false ∧
      r'.connClosed = false ∧ r'.fp.isclosed = true := by
  suffices key : ∀ {rem : H → Bytes} {I : H → Option Int → Prop}, SrcSpec hSrc rem I → RawInv rem I r raw → _ from
    hinv.elim (key hSrc_spec) (key hSrc_spec_chunked)
  intro rem I hS hinv
  obtain ⟨r', h1, h4, h5, h6⟩ := drainConn_complete_raw hSrc D cfg (rawReadAllSpec_of_src hS) (closesAll_of_src hS)
    hdef r raw hinv
  exact ⟨r', h1, (h6 hconn).1, (h6 hconn).2, h5.trans hnc, h4⟩

example : RawInv hRem HI respGzipHello gzipHello := rawInv_gzipHello

/-- the model computes both outcomes on the gzip response "hello" after a partial `read(2)`:
complete body → released, not closed; `Content-Length: 5` with only "ab" → closed -/
example :
    let s1 := read hSrc cdDec cfgGzipHello respGzipHello (some 2) (some true)
    let s2 := drainConn hSrc cdDec cfgGzipHello s1.2
    let s3 := read hSrc cdDec cfgGzipHello s2.2 (some 5) (some true)
    let t := drainConn hSrc cdDec cfgNone (respOf wireShortCL 0 (some (lit "5")) false (some 5))
    out s1 = some (lit "he") ∧ err s2 = none ∧ s2.2.released = true ∧ s2.2.connClosed = false ∧
    out s3 = some [] ∧ err t = none ∧ t.2.released = true ∧ t.2.connClosed = true := by
  decide +kernel

/-! ### the headline: no read pattern ends normally on a cut-off body

`LShort h lr` — a non-chunked body that ends before its Content-Length (`l` bytes owed, fewer there
before the FIN, `length_remaining = l`); `CBroken h lr` — a chunked body the lenient reference reader
finds incomplete or unparseable (`Broken`), from any position.  `EndSignal c out` — the call `c`
returning `out` tells the caller that the body is over: `read()` returning at all, `read(n)` /
`read1(n)` / `read1()` (`n ≠ 0`) returning b"". -/

/-- **`C13_truncated_raises`** (DESIGN Appendix E, proved in full for the framing level): for EVERY
sequence of `read()`, `read(0)`, `read(n)` (= `readinto(n)`), `read1()`, `read1(n)` calls on a response
whose body is short of its Content-Length or whose chunked framing is incomplete / has an unparseable
size line — every cut position, every segmentation, ANY content decoder, decoding on or off —:
either a call raises — never the model's `fuel` outcome (the loops terminate), and if it is
ProtocolError (`_raw_read`'s `IncompleteRead` / `InvalidChunkLength`; anything else comes from the
decoder) **the connection has been closed and handed back closed** —, or the sequence runs through and
**no call has signalled an end of body** — every `read(n)` / `read1(n)` returned a non-empty piece —,
the body is still broken, the connection still held, and the next `read()` raises ProtocolError and
closes it.  `enforce_content_length` is on (the default). -/
theorem C13_truncated_raises {δ : Type} (D : Dec δ) (cfg : Cfg δ) (henf : cfg.enforce = true)
    (dco : Option Bool) (r : R H δ)
    (hbroken : LShort r.fp r.lengthRemaining ∨ CBroken r.fp r.lengthRemaining)
    (hfuel : r.fp.avail < cfg.fuel) (hconn : r.conn = true) (calls : List RCall) :
    (∃ e r', callSeq hSrc D cfg dco calls r = (.error e, r') ∧ e ≠ .fuel ∧
      (e = .protocolError → r'.connClosed = true ∧ r'.released = true ∧ r'.conn = false)) ∨
    (∃ outs r', callSeq hSrc D cfg dco calls r = (.ok outs, r') ∧ outs.length = calls.length ∧
      (∀ i (hi : i < calls.length) (ho : i < outs.length), ¬ EndSignal calls[i] outs[i]) ∧
      (LShort r'.fp r'.lengthRemaining ∨ CBroken r'.fp r'.lengthRemaining) ∧ r'.conn = true ∧
      ∃ r'', read hSrc D cfg r' none dco = (.error .protocolError, r'') ∧
        r''.connClosed = true ∧ r''.released = true ∧ r''.conn = false) := by
  -- the same argument for either framing `B`
  suffices key : ∀ B : H → Option Int → Prop, RawBrokenSpec (δ := δ) hSrc cfg B H.avail →
      (∀ h lr, B h lr → LShort h lr ∨ CBroken h lr) → B r.fp r.lengthRemaining → _ from
    hbroken.elim (key LShort (hSrc_rawBroken_short cfg henf) (fun _ _ => .inl))
      (key CBroken (hSrc_rawBroken_chunked cfg) (fun _ _ => .inr))
  intro B hB hor hb
  refine (callSeq_broken hSrc D cfg hB dco calls r ⟨hb, hfuel, hconn⟩).imp_right
    (fun ⟨outs, r', e1, e2, e3, e4, _, e6⟩ => ?_)
  obtain ⟨r'', f1, f2⟩ := read_none_broken hSrc D cfg hB dco false r' e4
  exact ⟨outs, r', e1, e2, e3, hor _ _ e4, e6, r'', f1, f2 e6⟩

/-- non-vacuity: `Content-Length: 5` with "ab"; a chunk of 5 cut after 2 bytes (segmentation 3) -/
example : LShort (respOf wireShortCL 0 (some (lit "5")) false (some 5)).fp
    (respOf wireShortCL 0 (some (lit "5")) false (some 5)).lengthRemaining := lShort_shortCL
example : CBroken (respChunked wireChunkedCut 3).fp (respChunked wireChunkedCut 3).lengthRemaining :=
  cBroken_chunkedCut
example : cfgNone.enforce = true ∧ (respOf wireShortCL 0 (some (lit "5")) false (some 5)).fp.avail < cfgNone.fuel ∧
    (respOf wireShortCL 0 (some (lit "5")) false (some 5)).conn = true := by
  decide +kernel

/-- … and what the model computes on them: `read(1)`, `read1()` return pieces, then `read(7)` raises -/
example :
    let x := callSeq hSrc cdDec cfgNone (some true) [.read (some 1), .read1 none, .read (some 7)]
      (respOf wireShortCL 0 (some (lit "5")) false (some 5))
    let y := callSeq hSrc cdDec cfgChunkedNone (some true) [.read (some 1), .read1 (some 9), .read1 none]
      (respChunked wireChunkedCut 3)
    err x = some .protocolError ∧ x.2.connClosed = true ∧
    err y = some .protocolError ∧ y.2.connClosed = true := by
  simp only [begin_chunkedCut]
  decide +kernel

/-- **the generators on a cut-off body end in an exception, never in StopIteration**:
(a) non-chunked body short of its Content-Length: `stream(amt)` (`amt ≠ 0`) and iteration (loops of
`read(amt)`);  (b) broken chunked body, urllib3's own chunk parser: `read_chunked(amt)`, `stream(amt)`
and iteration — `_update_chunk_length` / `_handle_chunk` run into the unparseable line or the EOF —
and, the whole chunk loop running inside `_error_catcher`, the connection the response held is
closed and handed back closed whatever the exception.
Any decoder, decoding on or off, any segmentation; in (b) any amount and any `cfg.fuel`.  (The outcome
may be the model's `fuel` — where an arbitrary decoder inflates without bound, and in (b) also for
`amt = 0`, which spins, or a `cfg.fuel` below the bytes there —; it is an error outcome too.) -/
theorem C13_truncated_generators_raise {δ : Type} (D : Dec δ) (cfg : Cfg δ) (r : R H δ) :
    (cfg.enforce = true → cfg.chunked = false → LShort r.fp r.lengthRemaining → r.fp.avail < cfg.fuel →
      r.conn = true → ∀ amt dco, amt ≠ some 0 →
        (∃ e, (stream hSrc D cfg r amt dco).1.2 = some e) ∧ (∃ e, (iter hSrc D cfg r).1.2 = some e)) ∧
    (cfg.chunked = true → cfg.head = false →
      ∀ f, r.fp.fp = some f → BrokenU r.chunkLeft f.content →
      ∀ amt, (∀ dc, (∃ e, (readChunked hSrc D cfg r amt dc).1.2 = some e) ∧
          (r.conn = true → (readChunked hSrc D cfg r amt dc).2.connClosed = true ∧
            (readChunked hSrc D cfg r amt dc).2.released = true ∧ (readChunked hSrc D cfg r amt dc).2.conn = false)) ∧
        (∀ dco, (∃ e, (stream hSrc D cfg r amt dco).1.2 = some e) ∧
          (r.conn = true → (stream hSrc D cfg r amt dco).2.connClosed = true ∧
            (stream hSrc D cfg r amt dco).2.released = true ∧ (stream hSrc D cfg r amt dco).2.conn = false)) ∧
        (∃ e, (iter hSrc D cfg r).1.2 = some e)) := by
  refine ⟨fun henf hnc hb hf hconn amt dco hamt => ?_, fun hch hhd f hf hb amt => ?_⟩
  · have hs := stream_broken hSrc D cfg (hSrc_rawBroken_short cfg henf) hnc
    exact ⟨hs amt dco r ⟨hb, hf, hconn⟩, iter_error hSrc D cfg r (hs _ _ r ⟨hb, hf, hconn⟩)⟩
  · have hrc := readChunked_broken cfg D hch hhd
    have hs : ∀ amt dco, (∃ e, (stream hSrc D cfg r amt dco).1.2 = some e) ∧
        (r.conn = true → ConnDone (stream hSrc D cfg r amt dco).2) := by
      intro amt dco
      unfold stream
      rw [if_pos hch]
      exact hrc amt r f hf hb _
    exact ⟨hrc amt r f hf hb, hs amt, iter_error hSrc D cfg r (hs _ _).1⟩

example : BrokenU (respChunked wireChunkedCut 3).chunkLeft (lit "5\r\nab") := lit_cut ▸ broken_cut

example :
    (stream hSrc cdDec cfgNone (respOf wireShortCL 0 (some (lit "5")) false (some 5)) (some 1) (some true)).1 =
      ([lit "a", lit "b"], some .protocolError) ∧
    (readChunked hSrc cdDec cfgChunkedNone (respChunked wireChunkedCut 3) (some 1) true).1 =
      ([lit "a", lit "b"], some .protocolError) ∧
    (iter hSrc cdDec cfgChunkedNone (respChunked wireChunkedBadLine 3)).1.2 = some .protocolError := by
  simp only [begin_chunkedCut, begin_chunkedBadLine]
  decide +kernel

/-! ### negation witnesses (known findings that are not repaired) -/

/-- close-delimited zstd frame of "hello" cut two bytes short: `read(64)` returns "hel", then b"";
`read()` raises DecodeError ("Zstandard data is incomplete") -/
theorem C13_zstd_incomplete_read_n_silent :
    let r0 := respOf wireZstdCut 0 none true none
    let s1 := read hSrc cdDec cfgZstd r0 (some 64) (some true)
    let s2 := read hSrc cdDec cfgZstd s1.2 (some 64) (some true)
    out s1 = some (lit "hel") ∧ out s2 = some [] ∧
    err (read hSrc cdDec cfgZstd r0 none (some true)) = some .decodeError := by
  decide +kernel

/-- `Content-Encoding: deflate, zstd` with the zstd layer cut short: even `read()` ends normally,
because `MultiDecoder.flush` only flushes the first-listed decoder -/
theorem C13_multidecoder_inner_zstd_silent :
    let r0 := respOf wireStackCut 0 none true none
    out (read hSrc cdDec cfgStack r0 none (some true)) = some (lit "h") := by
  decide +kernel

/-- after a truncated zstd body has been consumed by `read(64)` calls that ended silently, a final
`read()` ends silently too (finding `silent-end:zstd-incomplete:read()-after-drained`) -/
theorem C13_zstd_incomplete_read_all_after_drained_silent :
    let r0 := respOf wireZstdCut 0 none true none
    let s1 := read hSrc cdDec cfgZstd r0 (some 64) (some true)
    let s2 := read hSrc cdDec cfgZstd s1.2 (some 64) (some true)
    let s3 := read hSrc cdDec cfgZstd s2.2 none (some true)
    out s2 = some [] ∧ out s3 = some [] := by
  decide +kernel

/-- **a corrupt gzip member after the first is swallowed** (finding
`silent-end:gzip-later-member-corrupt`): two members "hello" + "hello", one CRC-32 byte of the second
flipped, framing intact.  zlib reports "incorrect data check" on the second member; `GzipDecoder`
(state OTHER_MEMBERS) swallows the error as "trailing garbage", so no API raises — and the bytes
delivered depend on the read pattern: `read()` returns "hello" (the output of the failing
`decompress()` call is lost with the exception), `stream(3)` / `read(3)` loops return "hellohello"
(the data bytes had been handed out before the checksum arrived), both end normally, and
`drain_conn()` / `read()` release the connection unclosed. -/
theorem C13_gzip_later_member_corrupt_silent :
    let r0 := respOf wireGzipLaterCorrupt 3 (some (lit "56")) false (some 56)
    let a := read hSrc cdDec cfgGzipHello r0 none (some true)
    let b := stream hSrc cdDec cfgGzipHello r0 (some 3) (some true)
    out a = some (lit "hello") ∧ out (read hSrc cdDec cfgGzipHello a.2 none (some true)) = some [] ∧
    b.1.2 = none ∧ b.1.1.flatten = lit "hellohello" ∧
    a.2.released = true ∧ a.2.connClosed = false := by
  rw [wireGzipLaterCorrupt]
  simp only [lit_ofList]
  decide +kernel

end U3.Props
