import U3.Model.Tls
import U3.Lemmas.Tls
/-!
# C07 — an HTTPS request is sent only over a connection verified as configured

`U3.Tls.connect` / `urlopenOnce` transcribe `HTTPSConnection.connect`,
`_ssl_wrap_socket_and_match_hostname`, `_validate_conn` and the error path of `urlopen`;
`U3.Tls.demands` / `proxyDemands` is the independent statement of what the documented settings ask
for.  Every theorem is for **all** configurations (all strings, all contexts, all four proxy modes,
both backends) and **all** oracle values (chain verdicts, both name matchers, the digest
comparison, `is_ipaddress`), by case analysis — nothing is sampled.

`Cfg.WF` only excludes a hand-made `PyOpenSSLContext` whose inert `check_hostname` attribute was
set to `True` without `inject_into_urllib3()` (see `U3.Tls.CtxWF`).
-/
namespace U3.Props
open U3 U3.Tls

/-- A request is only sent (`connect` returned) if the peer of the request's TLS session passed
every check the settings demand — chain validation against the named anchors when the cert_reqs in
force is not NONE, the hostname match against `assert_hostname or server_hostname or host` unless
disabled or replaced by a pin, the pinned digest — and, when tunnelling through an https proxy,
the proxy passed the checks demanded of it. -/
theorem C07_sent_only_if_checked (cfg : Cfg) (o : Oracle) (k : Connected) (hwf : cfg.WF)
    (h : connect cfg o = .connected k) :
    Satisfied o.isIp (demands cfg) (requestPeer cfg o) ∧
    (∀ d, proxyDemands cfg = some d → Satisfied o.isIp d o.proxy) := by
  obtain ⟨obs, v, hw, -⟩ := connect_connected h
  constructor
  · have := wrap_ok_satisfied hwf.1 hw
    rw [effective_eq_resolve, mainServerHostname_eq] at this
    exact this
  · intro d hd
    unfold proxyDemands at hd
    cases hmode : cfg.mode <;> simp only [hmode] at hd <;> try (cases hd)
    obtain ⟨obs', v', hw', -⟩ := connect_connected_proxy h hmode
    have := wrap_ok_satisfied hwf.2 hw'
    rw [effective_eq_resolve] at this
    exact this

/-- On the observable trace of one `urlopen`, a `request` event occurs exactly on a successful `connect`. -/
theorem C07_request_iff_connected (cfg : Cfg) (o : Oracle) :
    (urlopenOnce cfg o).requestSent = true ↔ ∃ k, connect cfg o = .connected k := by
  unfold urlopenOnce
  split
  · rename_i e hc ws sc hk
    simp only [Outcome.requestSent, List.any_append, List.any_map]
    constructor
    · intro hx
      simp at hx
    · rintro ⟨k, hx⟩
      rw [hk] at hx
      cases hx
  · rename_i k hk
    constructor
    · intro _
      exact ⟨k, hk⟩
    · intro _
      simp [Outcome.requestSent, List.any_append]

/-- `C07_sent_only_if_checked` on the observable trace of one `urlopen`: a `request` event implies the checks -/
theorem C07_request_event_only_if_checked (cfg : Cfg) (o : Oracle) (hwf : cfg.WF)
    (h : (urlopenOnce cfg o).requestSent = true) :
    Satisfied o.isIp (demands cfg) (requestPeer cfg o) ∧
    (∀ d, proxyDemands cfg = some d → Satisfied o.isIp d o.proxy) := by
  obtain ⟨k, hk⟩ := (C07_request_iff_connected cfg o).1 h
  exact C07_sent_only_if_checked cfg o k hwf hk

/-- With every setting left at its default (no cert_reqs, no context, no assert_hostname, no pin)
the settings demand both chain validation and a hostname match against the host (or the
`server_hostname` override), without common-name fallback; so by `C07_sent_only_if_checked` a
request is only sent to a peer whose chain validates and whose certificate matches the name. -/
theorem C07_default_demands_both (cfg : Cfg)
    (h1 : cfg.certReqs = .unset) (h2 : cfg.sslContext = none)
    (h3 : cfg.assertHostname = .unset) (h4 : cfg.assertFingerprint = none) :
    (demands cfg).chain = true ∧ (demands cfg).name = some (targetName cfg, false) ∧ (demands cfg).pin = none := by
  simp [demands, peerDemand, effectiveCertReqs, h1, h2, h3, h4, fpTruthy, AssertHostname.isF]

theorem C07_default_checks_both (cfg : Cfg) (o : Oracle) (k : Connected)
    (h1 : cfg.certReqs = .unset) (h2 : cfg.sslContext = none)
    (h3 : cfg.assertHostname = .unset) (h4 : cfg.assertFingerprint = none)
    (hp : cfg.proxy.sslContext = none)
    (h : connect cfg o = .connected k) :
    chainOk (requestPeer cfg o) (demands cfg).trust = true ∧
    ((requestPeer cfg o).osslMatch (normServerHostname o.isIp (targetName cfg)) false = true ∨
     (requestPeer cfg o).u3Match (matchName o.isIp (normServerHostname o.isIp (targetName cfg))) false = true ∨
     (requestPeer cfg o).u3Match (matchName o.isIp (targetName cfg)) false = true) := by
  have hwf : cfg.WF := by simp [Cfg.WF, CtxWF, h2, hp]
  obtain ⟨⟨hc, hn, _⟩, _⟩ := C07_sent_only_if_checked cfg o k hwf h
  obtain ⟨d1, d2, _⟩ := C07_default_demands_both cfg h1 h2 h3 h4
  exact ⟨hc d1, hn _ _ d2⟩

/-- A failure (any exception out of `connect`) leaves no request event and the socket closed. -/
theorem C07_failure_closes (cfg : Cfg) (o : Oracle) (e : Exc)
    (h : (urlopenOnce cfg o).result = .error e) :
    (urlopenOnce cfg o).requestSent = false ∧ (urlopenOnce cfg o).closedAtEnd = true ∧
    (urlopenOnce cfg o).warned = false := by
  unfold urlopenOnce at h ⊢
  split
  · simp [Outcome.requestSent, Outcome.closedAtEnd, Outcome.warned, List.any_append, List.any_map,
      List.getLast?_cons]
  · rename_i k hk
    rw [hk] at h
    simp at h

/-- `is_verified` is only reported for a connection whose cert_reqs in force is REQUIRED or whose
certificate is pinned. -/
theorem C07_verified_sound (cfg : Cfg) (o : Oracle) (k : Connected)
    (h : connect cfg o = .connected k) (hv : k.isVerified = true) :
    effectiveCertReqs cfg = .required ∨ fpTruthy cfg.assertFingerprint = true := by
  obtain ⟨obs, v, hw, hiv, _⟩ := connect_connected h
  have hv' := wrap_ok_verified hw
  rw [effective_eq_resolve] at hv'
  rw [hiv] at hv
  split at hv
  · cases hv
  · subst hv'
    simp at hv
    rcases hv with hv | hv
    · left
      exact hv
    · right
      exact hv

/-- the TLS layer is always entered with the verify_mode the settings put in force -/
theorem C07_verify_mode_in_force (cfg : Cfg) (o : Oracle) (k : Connected)
    (h : connect cfg o = .connected k) :
    ∀ w ∈ k.wraps, w.verifyMode = effectiveCertReqs cfg := by
  intro w hw
  exact (connect_wraps cfg o w (by rw [h]; exact hw)).2

theorem C07_unverified_never_reported_verified (cfg : Cfg) (o : Oracle) (k : Connected)
    (h : connect cfg o = .connected k)
    (hr : effectiveCertReqs cfg ≠ .required) (hf : fpTruthy cfg.assertFingerprint = false) :
    k.isVerified = false := by
  cases hv : k.isVerified
  · rfl
  · rcases C07_verified_sound cfg o k h hv with h1 | h1
    · exact absurd h1 hr
    · rw [hf] at h1
      cases h1

/-- The warning is exactly "the TLS session the request travels in was made without verification":
in a tunnel (and directly) that is the destination's session, `is_verified`; when the request is
forwarded through an https proxy the proxy is the TLS peer and its verification decides, as before
the repair (`is_verified` is then always False — "forwarding proxies can never have a verified
target"). -/
theorem C07_warns_iff_request_session_unverified (cfg : Cfg) (o : Oracle) (k : Connected)
    (h : connect cfg o = .connected k) :
    validateConn cfg k =
      !(effectiveCertReqs cfg == .required || fpTruthy cfg.assertFingerprint) := by
  obtain ⟨obs, v, hw, hiv, -, hd, -, hf⟩ := connect_connected h
  have hv := wrap_ok_verified hw
  rw [effective_eq_resolve] at hv
  unfold validateConn
  rw [hiv]
  cases hmode : cfg.mode
  · simp [hd hmode, ProxyMode.tunneling, ← hv]
  · simp [ProxyMode.tunneling, ← hv]
  · simp [ProxyMode.tunneling, ← hv]
  · simp [hf hmode, ProxyMode.tunneling, ← hv]

/-- A direct or tunnelled connection made without certificate validation (cert_reqs in force other
than REQUIRED and no pinned fingerprint for the destination) triggers InsecureRequestWarning and is
never reported as verified — whatever the proxy hop looks like: inside a CONNECT tunnel
`_validate_conn` does not let `proxy_is_verified` (a pinned or validated https proxy) stand in for
the destination.  (Until the repair of `unverified-no-warning:tunnel-https-proxy:proxy-fingerprint-pinned`
this was only provable outside the corner "https proxy with `proxy_assert_fingerprint`".) -/
theorem C07_unverified_warns (cfg : Cfg) (o : Oracle) (k : Connected)
    (hm : cfg.mode ≠ .forwardHttps)                       -- "a direct or tunnelled connection"
    (h : connect cfg o = .connected k)
    (hr : effectiveCertReqs cfg ≠ .required) (hf : fpTruthy cfg.assertFingerprint = false) :
    validateConn cfg k = true ∧ k.isVerified = false := by
  -- `hm` is not needed: the equation for the warning holds in the forwarding mode as well
  refine ⟨?_, C07_unverified_never_reported_verified cfg o k h hr hf⟩
  simp [C07_warns_iff_request_session_unverified cfg o k h, hr, hf]

/-- the same on the observable trace of one `urlopen`: a request written over a direct or tunnelled
connection made without certificate validation comes with an InsecureRequestWarning (which
`urlopenOnce` puts before the request) -/
theorem C07_unverified_request_warned (cfg : Cfg) (o : Oracle)
    (hm : cfg.mode ≠ .forwardHttps)
    (h : (urlopenOnce cfg o).requestSent = true)
    (hr : effectiveCertReqs cfg ≠ .required) (hf : fpTruthy cfg.assertFingerprint = false) :
    (urlopenOnce cfg o).warned = true := by
  obtain ⟨k, hk⟩ := (C07_request_iff_connected cfg o).1 h
  have := (C07_unverified_warns cfg o k hm hk hr hf).1
  simp [urlopenOnce, hk, Outcome.warned, List.any_append, this]

/-- The input of finding `unverified-no-warning:tunnel-https-proxy:proxy-fingerprint-pinned`
(repaired in urllib3): tunnel through an https proxy whose certificate is pinned, `cert_reqs="NONE"`,
origin not pinned, origin from an unknown CA whose certificate matches nothing.  The request is
still sent (nothing was demanded of the origin), `is_verified` is False, `proxy_is_verified` is
True — and the InsecureRequestWarning is issued. -/
theorem C07_unverified_warns_pinned_proxy_ok :
    Ex.pinnedProxyTunnel.WF ∧ Ex.pinnedProxyTunnel.mode = .tunnelHttps ∧
    effectiveCertReqs Ex.pinnedProxyTunnel ≠ .required ∧
    fpTruthy Ex.pinnedProxyTunnel.assertFingerprint = false ∧
    ∃ k, connect Ex.pinnedProxyTunnel Ex.badOrigin = .connected k ∧
      k.isVerified = false ∧ k.proxyIsVerified = some true ∧
      validateConn Ex.pinnedProxyTunnel k = true ∧
      (urlopenOnce Ex.pinnedProxyTunnel Ex.badOrigin).requestSent = true ∧
      (urlopenOnce Ex.pinnedProxyTunnel Ex.badOrigin).warned = true :=
  ⟨by simp [Cfg.WF, CtxWF, Ex.pinnedProxyTunnel, Ex.dflt], rfl, by decide, rfl,
   _, rfl, rfl, rfl, rfl, rfl, rfl⟩

/-- `context.load_default_certs()` is called for a TLS session **iff** no CA material (`ca_certs`,
`ca_cert_dir`, `ca_cert_data`) was configured and urllib3 built the context itself (no `ssl_context=`;
for the session with an https proxy we tunnel through: no `proxy_ssl_context=`) — a
`PyOpenSSLContext` has no such method.  For all configurations and oracles and for every TLS-layer
call on the trace of one `urlopen`, whether the request was sent or an exception came out. -/
theorem C07_default_store_iff_unconfigured (cfg : Cfg) (o : Oracle) (w : WrapObs)
    (hw : Event.wrap w ∈ (urlopenOnce cfg o).events) :
    w.loadDefault =
      (if cfg.mode = .tunnelHttps ∧ w.tlsInTls = false then
        !cfg.caGiven && cfg.proxy.sslContext.isNone && !cfg.env.isPyOpenSSL
       else !cfg.caGiven && cfg.sslContext.isNone && !cfg.env.isPyOpenSSL) := by
  have hmem : w ∈ (connect cfg o).wraps := by
    unfold urlopenOnce at hw
    split at hw
    · rename_i e hc ws sc hk
      rw [hk]
      simp only [ConnRes.wraps]
      simp only [List.mem_append, List.mem_map, List.mem_cons] at hw
      rcases hw with (hw | ⟨a, ha, hw⟩) | hw
      · rcases hw with hw | hw <;> cases hw
      · injection hw with hw
        subst hw
        exact ha
      · rcases hw with hw | hw <;> cases hw
    · rename_i k hk
      rw [hk]
      simp only [ConnRes.wraps]
      simp only [List.mem_append, List.mem_map, List.mem_cons] at hw
      rcases hw with ((hw | ⟨a, ha, hw⟩) | hw) | hw
      · rcases hw with hw | hw <;> cases hw
      · injection hw with hw
        subst hw
        exact ha
      · split at hw
        · simp at hw
        · cases hw
      · rcases hw with hw | hw <;> cases hw
  exact (connect_wraps cfg o w hmem).1

/-- … which is exactly when the settings name the system store as a trust anchor (`demands`,
`proxyDemands`): on a successful `connect()` the request's session (the last TLS-layer call) and the
https proxy's session (the first one, when tunnelling) were each set up with the OS store loaded iff
the specification lists it — so together with `C07_sent_only_if_checked` the store is consulted when
demanded and only then. -/
theorem C07_default_store_as_demanded (cfg : Cfg) (o : Oracle) (k : Connected)
    (h : connect cfg o = .connected k) :
    (∀ w, k.wraps.getLast? = some w → w.loadDefault = (demands cfg).trust.system) ∧
    (∀ d, proxyDemands cfg = some d → ∀ w, k.wraps.head? = some w → w.loadDefault = d.trust.system) := by
  obtain ⟨obs, v, hw, -, hlast, -⟩ := connect_connected h
  constructor
  · intro w hw'
    obtain rfl : obs = w := Option.some.inj (hlast.symm.trans hw')
    rw [(wrap_obs (obs := obs) (by rw [hw]; rfl)).1]
    simp [demands, peerDemand, wantsSystemStore]
  · intro d hd w hw'
    unfold proxyDemands at hd
    cases hmode : cfg.mode <;> simp only [hmode] at hd <;> try (cases hd)
    obtain ⟨obs', v', hwp, -, hhead⟩ := connect_connected_proxy h hmode
    obtain rfl : obs' = w := Option.some.inj (hhead.symm.trans hw')
    rw [(wrap_obs (obs := obs') (by rw [hwp]; rfl)).1]
    simp [peerDemand, wantsSystemStore]

theorem C07_system_store_demanded_iff (cfg : Cfg) :
    (demands cfg).trust.system = true ↔
      cfg.caGiven = false ∧ cfg.sslContext = none ∧ cfg.env.isPyOpenSSL = false := by
  simp [demands, peerDemand, and_assoc]

/-- … and the store that was loaded counts: with every setting at its default and nothing configured
(stdlib backend, direct connection) a server whose chain validates against the OS default store
only, and whose certificate matches the requested name, is connected to and reported verified. -/
theorem C07_default_store_honoured (cfg : Cfg) (o : Oracle)
    (h1 : cfg.certReqs = .unset) (h2 : cfg.sslContext = none) (h3 : cfg.assertHostname = .unset)
    (h4 : cfg.assertFingerprint = none) (hca : cfg.caGiven = false) (hpy : cfg.env.isPyOpenSSL = false)
    (hm : cfg.mode = .direct)
    (hv : o.origin.validSystem = true)
    (hn1 : o.origin.osslMatch (normServerHostname o.isIp (targetName cfg)) false = true)
    (hn2 : o.origin.u3Match (matchName o.isIp (normServerHostname o.isIp (targetName cfg))) false = true) :
    ∃ k, connect cfg o = .connected k ∧ k.isVerified = true ∧ validateConn cfg k = false := by
  rw [← mainServerHostname_eq] at hn1 hn2
  unfold mainServerHostname at hn1 hn2
  simp only [hm, ProxyMode.tunneling] at hn1 hn2
  rcases hcfg : cfg with ⟨⟨py, ncn⟩, host, cr, ah, fp, sh, ctx, ca, mode, th, prx⟩
  rw [hcfg] at h1 h2 h3 h4 hca hpy hm hn1 hn2
  simp only at h1 h2 h3 h4 hca hpy hm hn1 hn2
  subst h1 h2 h3 h4 hca hpy hm
  simp only [Bool.false_eq_true, if_false] at hn1 hn2
  cases ncn <;>
    simp [connect, connectTail, wrapAndMatch, initCertReqs, resolveCertReqs, createUrllib3Context,
      freshContext, Ctx.setVerifyMode, Ctx.setCheckHostname, fpTruthy, AssertHostname.truthy,
      AssertHostname.isF, handshakeOk, chainOk, requestPeer, hv, hn1, hn2, validateConn,
      ProxyMode.tunneling, Bool.false_eq_true]

/-! ## Non-vacuity: concrete instances of the hypotheses -/

-- defaults, good peer: connected, verified, no warning, request sent
example : Ex.dflt.WF := by simp [Cfg.WF, CtxWF, Ex.dflt]
example : ∃ k, connect Ex.dflt Ex.good = .connected k ∧ k.isVerified = true ∧ validateConn Ex.dflt k = false :=
  ⟨_, rfl, rfl, rfl⟩
example : (urlopenOnce Ex.dflt Ex.good).requestSent = true := rfl
-- defaults, peer from an unknown CA: SSLError, no request, socket closed (hypothesis of C07_failure_closes)
example : (urlopenOnce Ex.dflt Ex.badOrigin).result = .error .sslError := rfl
example : (urlopenOnce Ex.dflt Ex.badOrigin).requestSent = false := rfl
-- hypotheses of C07_default_demands_both / C07_default_checks_both
example : Ex.dflt.certReqs = .unset ∧ Ex.dflt.sslContext = none ∧ Ex.dflt.assertHostname = .unset ∧
    Ex.dflt.assertFingerprint = none := ⟨rfl, rfl, rfl, rfl⟩
-- cert_reqs="NONE", direct: connected even to the bad peer, not verified, warning (C07_unverified_warns)
example : ∃ k, connect Ex.insecure Ex.badOrigin = .connected k ∧ k.isVerified = false ∧
    validateConn Ex.insecure k = true :=
  ⟨_, rfl, rfl, rfl⟩
example : effectiveCertReqs Ex.insecure ≠ .required ∧ fpTruthy Ex.insecure.assertFingerprint = false ∧
    Ex.insecure.mode ≠ .forwardHttps :=
  ⟨by decide, rfl, by decide⟩
-- … and the hypotheses of C07_unverified_warns / C07_unverified_request_warned in the repaired corner
example : effectiveCertReqs Ex.pinnedProxyTunnel ≠ .required ∧
    fpTruthy Ex.pinnedProxyTunnel.assertFingerprint = false ∧ Ex.pinnedProxyTunnel.mode ≠ .forwardHttps ∧
    (urlopenOnce Ex.pinnedProxyTunnel Ex.badOrigin).requestSent = true :=
  ⟨by decide, rfl, by decide, rfl⟩
-- forwarding through a validated https proxy with cert_reqs REQUIRED: is_verified False, the proxy's
-- verification suppresses the warning (behaviour kept); with cert_reqs="NONE" it warns
example : ∃ k, connect Ex.forwarding Ex.good = .connected k ∧ k.isVerified = false ∧
    k.proxyIsVerified = some true ∧ validateConn Ex.forwarding k = false := ⟨_, rfl, rfl, rfl, rfl⟩
example : ∃ k, connect { Ex.forwarding with certReqs := .short .none } Ex.good = .connected k ∧
    k.proxyIsVerified = some false ∧ validateConn { Ex.forwarding with certReqs := .short .none } k = true :=
  ⟨_, rfl, rfl, rfl⟩
-- the tunnel through a pinned https proxy is a model of the hypotheses of C07_sent_only_if_checked
-- with a non-trivial proxy demand
example : ∃ d, proxyDemands Ex.pinnedProxyTunnel = some d ∧ d.pin = some Ex.pin := ⟨_, rfl, rfl⟩
example : ∃ k, connect Ex.pinnedProxyTunnel Ex.good = .connected k ∧ k.wraps.length = 2 := ⟨_, rfl, rfl⟩

-- nothing configured, OS default store: Ex.sysDefault satisfies the hypotheses of C07_default_store_honoured,
-- the TLS layer is entered with the store loaded; with CA material configured (Ex.dflt) it is not
example : Ex.sysDefault.certReqs = .unset ∧ Ex.sysDefault.sslContext = none ∧ Ex.sysDefault.caGiven = false ∧
    Ex.sysDefault.env.isPyOpenSSL = false ∧ Ex.sysDefault.mode = .direct ∧ Ex.sysOnly.origin.validSystem = true ∧
    Ex.sysOnly.origin.validConfigured = false := ⟨rfl, rfl, rfl, rfl, rfl, rfl, rfl⟩
example : ∃ k, connect Ex.sysDefault Ex.sysOnly = .connected k ∧ k.isVerified = true ∧
    k.wraps.map (·.loadDefault) = [true] := ⟨_, rfl, rfl, rfl⟩
example : (urlopenOnce Ex.dflt Ex.sysOnly).result = .error .sslError := rfl
example : ∃ k, connect Ex.dflt Ex.good = .connected k ∧ k.wraps.map (·.loadDefault) = [false] := ⟨_, rfl, rfl⟩
-- tunnel through an https proxy: two TLS-layer calls, told apart by tls_in_tls (C07_default_store_iff_unconfigured)
example : ∃ k, connect { Ex.pinnedProxyTunnel with caGiven := false } Ex.good = .connected k ∧
    k.wraps.map (fun w => (w.tlsInTls, w.loadDefault)) = [(false, true), (true, true)] := ⟨_, rfl, rfl⟩

end U3.Props
