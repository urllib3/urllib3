import U3.Lemmas.PoolConcInv
import U3.Lemmas.PoolConcClose
/-!
# C02 — concurrent requests never share a connection, exceed maxsize, or deadlock

Model: `U3.PoolConc` (small-step interleaving semantics of `_get_conn` / `_put_conn` / `close` /
`release_conn`, one step per access to shared state).  `run cfg progs σ` executes the schedule `σ`
(a list of thread indices, any length; a choice that is not enabled is skipped) on any number of
threads `progs`.  The theorems stated for `run cfg progs σ` hold for every `cfg`, every list of
thread programs and every schedule, by induction over `runFrom` on the invariants of
`U3.Lemmas.PoolConcInv` / `U3.Lemmas.PoolConcClose`; those on a concrete schedule are evaluated.
-/
namespace U3.Props
open U3 U3.PoolConc

/-- **Exclusive use.**  In every reachable configuration no connection id is held (in a request in
flight, in a `_put_conn` / drain step, or by a streaming response) by two threads, a thread never
holds the same connection twice, a queued connection is held by no thread, and the queue holds no
connection twice. -/
theorem C02_exclusive_use (cfg : Cfg) (progs : List (List Op)) (σ : List Nat) :
    let s := run cfg progs σ
    (∀ c, (holders s c).length ≤ 1) ∧
    (∀ c ∈ queueConns s.sh, holders s c = []) ∧
    (queueConns s.sh).Nodup ∧
    (∀ th ∈ s.threads, th.owned.Nodup) := by
  intro s
  have hi := inv_run cfg progs σ
  refine ⟨fun c => ?_, fun c hc => ?_, hi.qnodup, forall_mem_of_get hi.tnodup⟩
  · apply length_le_one_of_all_eq (holders_nodup s c)
    intro a ha b hb
    obtain ⟨tha, ga, hca⟩ := mem_holders.mp ha
    obtain ⟨thb, gb, hcb⟩ := mem_holders.mp hb
    exact Classical.byContradiction fun e => hi.disj a b tha thb ga gb e c hca hcb
  · apply List.eq_nil_iff_forall_not_mem.mpr
    intro t ht
    obtain ⟨th, g, hcth⟩ := mem_holders.mp ht
    exact (hi.tlt t th g c hcth).2 hc

/-- **Block bound.**  With `block=True` the number of simultaneously open connections never
exceeds `maxsize`: neither now (`openC`) nor at any earlier moment of the run (the ghost
high-water mark `maxOpen`), and the slots are never over-committed. -/
theorem C02_block_bound (cfg : Cfg) (progs : List (List Op)) (σ : List Nat)
    (hb : cfg.block = true) :
    let s := run cfg progs σ
    s.sh.maxOpen ≤ cfg.maxsize ∧ s.sh.openC.length ≤ cfg.maxsize ∧
    s.sh.queue.length + leases s ≤ cfg.maxsize := by
  have hi := invAll_run cfg progs σ
  have hb' : (run cfg progs σ).cfg.block = true := by rwa [run_cfg]
  simpa using And.intro (hi.mx hb') (And.intro (open_le hi.ids hi.cnt hb') (hi.cnt.slots hb'))

/-- non-vacuity: a `block=True` pool of size 1 used by two threads does open one socket -/
example : (run ⟨1, true, false⟩ [[.req 0 .ok false], [.req 0 .ok false]]
    [0, 0, 0, 0, 0, 0, 0, 0, 1, 1, 1, 1, 1, 1, 1, 1]).sh.maxOpen = 1 := by decide

/-- **Own response.**  In every reachable configuration a thread that waits for a response waits
on a connection whose pending response (`wire`) carries that thread's own tag — (its index, its
request counter) — and no finished op has the result `wrongResp`: every `Res.ok` of a request is
the response to its own tag. -/
theorem C02_own_response (cfg : Cfg) (progs : List (List Op)) (σ : List Nat) :
    let s := run cfg progs σ
    (∀ (t : Nat) (th : Thread), s.threads[t]? = some th → ∀ c tag f l st,
        th.pc = .recv c tag f l st →
        wireGet s.sh.wire c = some tag ∧ tag = (t, th.sent - 1) ∧ 0 < th.sent) ∧
    (∀ rs ∈ results s, ∀ p ∈ rs, p.2 ≠ .wrongResp) := by
  intro s
  have hi := invAll_run cfg progs σ
  constructor
  · intro t th g c tag f l st hpc
    obtain ⟨h2, h3⟩ := hi.ids.tag t th g c tag f l st hpc
    exact ⟨hi.ids.recv t th g c tag f l st hpc, Prod.ext h2 (Nat.eq_sub_of_add_eq h3), by omega⟩
  · exact forall_results fun t th g p hp e => by simpa [GoodRes, e] using hi.res.good t th g p hp

/-- **No lost slot.**  Without `close` ops a `block=True` pool conserves its slots under every
schedule: queue length + leases (checkouts in flight and unreleased streaming responses, summed
over all threads) = `maxsize`; and the pool is never closed behind the threads' back. -/
theorem C02_no_lost_slot (cfg : Cfg) (progs : List (List Op)) (σ : List Nat)
    (hc : NoClose progs) (hb : cfg.block = true) :
    let s := run cfg progs σ
    s.sh.queue.length + leases s = cfg.maxsize ∧ s.sh.poolRef ≠ none := by
  have hn := invNC_run cfg hc σ
  exact ⟨by simpa using hn.cons (by rw [run_cfg]; exact hb), hn.pool⟩

/-- non-vacuity: two threads on a `block=True` pool of size 1, one of them mid-request -/
example : NoClose [[.req 0 .ok true, .release], [.req 1 .ok false]] ∧
    (let s := run ⟨1, true, false⟩ [[.req 0 .ok true, .release], [.req 1 .ok false]] [0, 0, 0, 1, 1]
     s.sh.queue.length = 0 ∧ leases s = 1) := by
  refine ⟨?_, by decide⟩
  intro p hp
  simp at hp
  rcases hp with rfl | rfl <;> simp

/-- non-vacuity with a connection pooled closed: after a `Connection: close` reply the queue of a
`block=True` pool of size 2 holds the closed connection object and a placeholder, thread 1 is
mid-request on a second object: 2 queued + 1 leased would be 3 — the count is 1 + 1 -/
example : NoClose [[.req 0 .okClose false, .req 0 .ok false], [.req 0 .ok false]] ∧
    (let s := run ⟨2, true, false⟩ [[.req 0 .okClose false, .req 0 .ok false], [.req 0 .ok false]]
       [0, 0, 0, 0, 0, 1, 1, 1, 1, 0, 0, 0]
     s.sh.queue = [some 0] ∧ s.sh.openC = [1] ∧ leases s = 1) := by
  refine ⟨?_, by decide⟩
  intro p hp
  simp at hp
  rcases hp with rfl | rfl <;> simp

/-- **Progress (no deadlock, no lost wake-up).**  Threads that never call `close` and release
every streaming response before their next request and before they end (`LeaseDiscipline`), on a
pool with `maxsize ≥ 1` (any `block` / `pool_timeout`): under every schedule, a configuration in
which some thread is not finished has an enabled thread.  In particular a thread blocked in
`get()` is always accompanied by a thread that can run (the one holding the slot). -/
theorem C02_progress (cfg : Cfg) (progs : List (List Op)) (σ : List Nat)
    (hd : LeaseDiscipline progs) (hN : 0 < cfg.maxsize)
    (hnd : allDone (run cfg progs σ) = false) : ∃ t, enabled (run cfg progs σ) t = true :=
  progress (invP_run cfg hd σ) (by rw [run_cfg]; exact hN) hnd

/-- **All slots come back.**  Under the same discipline, when every thread is finished the queue
of a `block=True` pool is full again (`qsize() = maxsize`) and nothing is held. -/
theorem C02_quiescent_slots (cfg : Cfg) (progs : List (List Op)) (σ : List Nat)
    (hd : LeaseDiscipline progs) (hb : cfg.block = true)
    (hdone : allDone (run cfg progs σ) = true) :
    (run cfg progs σ).sh.queue.length = cfg.maxsize ∧ leases (run cfg progs σ) = 0 := by
  have hp := invP_run cfg hd σ
  have hz : leases (run cfg progs σ) = 0 :=
    sum_map_eq_zero _ fun th hmem => forall_mem_of_get (fun t th g => (hp.d t th g).slots_done) th hmem
      (List.all_eq_true.mp hdone th hmem)
  have := (C02_no_lost_slot cfg progs σ hd.noClose hb).1
  simp only [hz] at this
  exact ⟨by simpa using this, hz⟩

/-- non-vacuity: the discipline holds for a streamed-and-released request next to a retried one
(the harness's program shapes), the pool has `maxsize = 1`, and the run is not finished -/
example : LeaseDiscipline [[.req 0 .ok true, .release], [.req 1 .ok false]] ∧
    allDone (run ⟨1, true, false⟩ [[.req 0 .ok true, .release], [.req 1 .ok false]]
      [0, 0, 0, 1, 1, 1]) = false := by
  refine ⟨?_, by decide⟩
  intro p hp
  simp at hp
  rcases hp with rfl | rfl <;> decide

/-- **No livelock.**  Every step of every thread — in any configuration, with or without
`close` — strictly decreases the measure `work` (`2 * qsize` + the steps the threads still have to
do). -/
theorem C02_step_decreases_work (s s' : State) (t : Nat) (h : step s t = some s') :
    work s' < work s := work_step h

/-- non-vacuity: a step that exists -/
example : ∃ s', step (init ⟨1, true, false⟩ [[.req 0 .ok false]]) 0 = some s' := ⟨_, rfl⟩

/-- **Every request eventually completes.**  Under the lease discipline and `maxsize ≥ 1`, from
every reachable configuration the run can be completed (progress + the decreasing measure: keep
choosing any enabled thread), and in the final configuration every op of every thread has got
exactly one result, in program order. -/
theorem C02_every_request_completes (cfg : Cfg) (progs : List (List Op)) (σ : List Nat)
    (hd : LeaseDiscipline progs) (hN : 0 < cfg.maxsize) :
    ∃ σ', allDone (runFrom (run cfg progs σ) σ') = true ∧
      (results (runFrom (run cfg progs σ) σ')).map (fun rs => rs.map Prod.fst) = progs := by
  obtain ⟨σ', hσ'⟩ := exists_completion _ _ (invP_run cfg hd σ) (by rw [run_cfg]; exact hN)
    (Nat.lt_succ_self _)
  refine ⟨σ', hσ', ?_⟩
  rw [results_of_allDone hσ', runFrom_run, script_run]

/-- the discipline is needed: a streaming response that is never released starves the other
thread of a `block=True`, `maxsize=1` pool for ever -/
theorem C02_progress_needs_release_witness :
    let s := run ⟨1, true, false⟩ [[.req 0 .ok true], [.req 0 .ok false]] [0, 0, 0, 0, 0, 1, 1, 1]
    stuck s = true ∧ allDone s = false ∧ ∀ σ, runFrom s σ = s := by
  refine ⟨by decide, by decide, ?_⟩
  exact runFrom_of_stuck (by decide)

/-- **A dead pooled connection costs one item.**  In ANY configuration, a thread whose `get()` finds
a connection object `c` on top of the queue — open, closed by a `Connection: close` reply, or open
with the peer gone (`_get_conn`'s dropped-connection branch) — takes exactly that one item: the
rest of the queue is untouched whatever lies below, no socket is opened or closed and no
connection object is created by the checkout.  The thread's next steps stay on that SAME object and
take nothing more: if the peer had dropped the connection it is closed first (`conn.close()`), and
then — in either case — the request is written on it, after which it is open (reconnected if it
was closed). -/
theorem C02_closed_connection_checkout (s : State) (t : Nat) (th : Thread) (c : ConnId)
    (q : List (Option ConnId)) (f : Nat) (l : Outcome) (st : Bool)
    (hget : s.threads[t]? = some th) (hpc : th.pc = .getQ f l st) (hq : s.sh.queue = some c :: q) :
    ∃ s1, step s t = some s1 ∧ s1.sh.queue = q ∧ s1.sh.openC = s.sh.openC ∧
      s1.sh.nextId = s.sh.nextId ∧
      ∀ s2, step s1 t = some s2 → s2.sh.queue = q ∧ s2.sh.nextId = s.sh.nextId ∧
        if c ∈ s.sh.gone then
          c ∉ s2.sh.openC ∧ ∀ s3, step s2 t = some s3 →
            c ∈ s3.sh.openC ∧ s3.sh.queue = q ∧ s3.sh.nextId = s.sh.nextId
        else c ∈ s2.sh.openC := by
  -- the three steps are evaluated: the program counter decides the branch of `tstep`
  have hts := tstep_getQ_conn (cfg := s.cfg) (tid := t) hpc hq
  have hget1 := fun x => getElem?_set_self (x := x) hget
  by_cases hg : c ∈ s.sh.gone
  · rw [if_pos (List.contains_iff_mem.mpr hg)] at hts
    refine ⟨_, step_of_tstep hget hts, rfl, rfl, rfl, fun s2 h2 => ?_⟩
    cases h2.symm.trans (step_of_tstep (hget1 _) rfl)
    rw [if_pos hg]
    refine ⟨rfl, rfl, closeConn_closed _ (some c) c (by simp), fun s3 h3 => ?_⟩
    cases h3.symm.trans (step_of_tstep (getElem?_set_self (hget1 _)) rfl)
    exact ⟨by simp, by simp, by simp⟩
  · rw [if_neg (mt List.contains_iff_mem.mp hg)] at hts
    refine ⟨_, step_of_tstep hget hts, rfl, rfl, rfl, fun s2 h2 => ?_⟩
    cases h2.symm.trans (step_of_tstep (hget1 _) rfl)
    rw [if_neg hg]
    exact ⟨by simp, by simp, by simp⟩

/-- non-vacuity: after a request answered with `Connection: close` the pool (`maxsize = 2`) holds
the connection object 0 with its socket closed, on top of a placeholder; the thread's next request
is at `get()` -/
example :
    let s := run ⟨2, true, false⟩ [[.req 0 .okClose false, .req 0 .ok false]] (List.replicate 10 0)
    s.sh.queue = [some 0, none] ∧ s.sh.openC = [] ∧
      (s.threads.map (·.pc)) = [.getQ 0 .ok false] := by decide

/-- **A connection pooled closed is reused, not replaced.**  One thread, a request answered with
`Connection: close` followed by a keep-alive one (`block=True`, `maxsize = 2`): after the first
request the queue holds the connection object with no socket open; the second request checks out
that same object and reconnects it — one connection object in all (`nextId = 1`), never more than
one socket, and both slots are back in the queue at the end. -/
theorem C02_pooled_closed_connection_reused :
    let s1 := run ⟨2, true, false⟩ [[.req 0 .okClose false, .req 0 .ok false]] (List.replicate 8 0)
    let s2 := runFrom s1 (List.replicate 8 0)
    s1.sh.queue = [some 0, none] ∧ s1.sh.openC = [] ∧
    allDone s2 = true ∧ s2.sh.queue = [some 0, none] ∧ s2.sh.openC = [0] ∧ s2.sh.nextId = 1 ∧
      s2.sh.maxOpen = 1 ∧ results s2 = [[(.req 0 .okClose false, .ok), (.req 0 .ok false, .ok)]] := by
  decide

/-- **A connection dropped by its peer is closed, then reused.**  One thread, a keep-alive reply after
which the peer closes (`okDrop`), then a second request (`block=True`, `maxsize = 2`): the
connection is pooled with its socket open; the next checkout takes that one item, closes the
socket (`dropClose`), and the request reconnects the same object — one connection object in all,
never more than one socket, both slots back at the end. -/
theorem C02_dropped_connection_reused :
    let s1 := run ⟨2, true, false⟩ [[.req 0 .okDrop false, .req 0 .ok false]] (List.replicate 8 0)
    let s2 := runFrom s1 [0, 0, 0]
    let s3 := runFrom s2 [0]
    let s4 := runFrom s3 (List.replicate 5 0)
    s1.sh.queue = [some 0, none] ∧ s1.sh.openC = [0] ∧ s1.sh.gone = [0] ∧
    (s2.threads.map (·.pc)) = [.dropClose 0 0 .ok false] ∧ s2.sh.queue = [none] ∧ s2.sh.openC = [0] ∧
    (s3.threads.map (·.pc)) = [.send 0 0 .ok false] ∧ s3.sh.openC = [] ∧
    allDone s4 = true ∧ s4.sh.queue = [some 0, none] ∧ s4.sh.openC = [0] ∧ s4.sh.nextId = 1 ∧
      s4.sh.maxOpen = 1 ∧ s4.sh.gone = [] := by
  decide

/-- **`EmptyPoolError` only when the pool is exhausted.**  Threads that follow the lease discipline
(each holds at most one slot at a time, nobody calls `close`): under every schedule, a request can
end with `EmptyPoolError` only if there are more threads than slots — with at most `maxsize`
threads a `block=True` pool is never found empty, because no slot is ever lost. -/
theorem C02_empty_only_when_exhausted (cfg : Cfg) (progs : List (List Op)) (σ : List Nat)
    (hd : LeaseDiscipline progs) :
    ∀ rs ∈ results (run cfg progs σ), ∀ p ∈ rs, p.2 = .emptyPool → cfg.maxsize < progs.length := by
  have := forall_results (invE_run cfg hd σ)
  rwa [run_cfg, threads_length_run] at this

/-- non-vacuity: two disciplined threads (one served with `Connection: close`) on a pool of size 1
with a `pool_timeout`: the second does get `EmptyPoolError` while the first holds the only slot -/
example : LeaseDiscipline [[.req 0 .okClose true, .release], [.req 0 .ok false]] ∧
    results (run ⟨1, true, true⟩ [[.req 0 .okClose true, .release], [.req 0 .ok false]]
      [0, 0, 0, 1, 1, 1]) = [[], [(.req 0 .ok false, .emptyPool)]] := by
  refine ⟨?_, by decide⟩
  intro p hp
  simp at hp
  rcases hp with rfl | rfl <;> decide

/-- number of `close` ops in the thread programs -/
def closeCount (progs : List (List Op)) : Nat := (progs.map closesIn).sum

/-
The "never hangs" half of the property text is false of the code (`C02_close_strands_waiter_witness`,
`known_findings/C02.json`); the "no internal error" half is proved in full:
-/

/-- **Close race.**  Under every schedule, with any number of concurrent `close()` calls, on every
pool (`block` or not, any `maxsize`, any number of threads), every finished op has a result in
{`ok`, `closedPool`, `emptyPool`, `failed`}: never `FullPoolError`, never a foreign response, never
an internal error (`AttributeError`) — `_put_conn` reports the size of the queue object it found
full, not of `self.pool`, and a `close()` that finds the pool already swapped out returns. -/
theorem C02_close_race (cfg : Cfg) (progs : List (List Op)) (σ : List Nat) :
    ∀ rs ∈ results (run cfg progs σ), ∀ p ∈ rs,
      p.2 = .ok ∨ p.2 = .closedPool ∨ p.2 = .emptyPool ∨ p.2 = .failed := by
  exact forall_results (invAll_run cfg progs σ).res.good

/-- the race is real: a racing `close()` on a `block=True` pool does produce `ClosedPoolError` -/
example :
    results (run ⟨1, true, true⟩ [[.req 0 .ok false], [.close]] [1, 1, 1, 1, 1, 0]) =
      [[(.req 0 .ok false, .closedPool)], [(.close, .ok)]] := by decide

/-- **Close race, `block=True`.**  A `block=True` pool raced by any number of `close()` calls: under
every schedule no `_put_conn` ever finds the queue full — the `FullPoolError` "that should never
happen" never happens, no connection is closed for want of room, the "pool is full" warning is never
reached — and every finished op ended normally, with `ClosedPoolError`, `EmptyPoolError` or its scripted
failure. -/
theorem C02_close_race_block (cfg : Cfg) (progs : List (List Op)) (σ : List Nat)
    (hb : cfg.block = true) :
    (∀ th ∈ (run cfg progs σ).threads, ∀ i k, th.pc ≠ .fullClose i k ∧ th.pc ≠ .warn i k) ∧
    ∀ rs ∈ results (run cfg progs σ), ∀ p ∈ rs,
      p.2 = .ok ∨ p.2 = .closedPool ∨ p.2 = .emptyPool ∨ p.2 = .failed := by
  exact ⟨forall_mem_of_get ((invAll_run cfg progs σ).cnt.nofull (by rwa [run_cfg])),
    C02_close_race cfg progs σ⟩

/-- non-vacuity: two closers and a request on a `block=True` pool, the request loses the race -/
example :
    results (run ⟨1, true, true⟩ [[.req 0 .ok false], [.close], [.close]] [1, 2, 1, 1, 1, 0, 2]) =
      [[(.req 0 .ok false, .closedPool)], [(.close, .ok)], [(.close, .ok)]] := by decide

/-- **Close race, few threads.**  At most `maxsize` threads, each holding at most one lease at a
time (streaming responses released before the next request / the end; `close` ops allowed
anywhere), any `block`: under every schedule no `_put_conn` ever finds the queue full (no
connection is closed for want of room, no "pool is full" warning), and every op ends `ok`, `closedPool`,
`emptyPool` or `failed`. -/
theorem C02_close_race_few_threads (cfg : Cfg) (progs : List (List Op)) (σ : List Nat)
    (h : FewThreads cfg progs) :
    (∀ th ∈ (run cfg progs σ).threads, ∀ i k, th.pc ≠ .fullClose i k ∧ th.pc ≠ .warn i k) ∧
    ∀ rs ∈ results (run cfg progs σ), ∀ p ∈ rs,
      p.2 = .ok ∨ p.2 = .closedPool ∨ p.2 = .emptyPool ∨ p.2 = .failed := by
  exact ⟨forall_mem_of_get (invQ_run h σ).nofull, C02_close_race cfg progs σ⟩

/-- non-vacuity: two threads on a `block=False` pool of size 2, one of them closing the pool -/
example : FewThreads ⟨2, false, false⟩ [[.req 0 .ok true, .release, .close], [.req 1 .ok false]] := by
  refine ⟨by decide, ?_⟩
  intro p hp
  simp at hp
  rcases hp with rfl | rfl <;> decide

/-
Full statement (false: `C02_close_strands_waiter_witness`): with a concurrent `close()` no request
ever hangs.  Proved under the precise hypothesis that excludes the finding:
-/
/-- **Close race never hangs (partial).**  Unless the pool is `block=True` *without* `pool_timeout`,
no thread can ever be blocked — with any number of `close()` calls, under every schedule: a thread
that is not finished is enabled.  In general (any configuration) a thread that is not enabled is
finished or sits in a blocking `get()` without timeout on the empty queue. -/
theorem C02_close_never_hangs_partial (cfg : Cfg) (progs : List (List Op)) (σ : List Nat)
    (t : Nat) (th : Thread) (hget : (run cfg progs σ).threads[t]? = some th)
    (hen : enabled (run cfg progs σ) t = false) :
    th.done = true ∨
      ((∃ f l st, th.pc = .getQ f l st) ∧ (run cfg progs σ).sh.queue = [] ∧
        cfg.block = true ∧ cfg.timeout = false) := by
  simpa using not_enabled hget hen

/-- non-vacuity: a finished thread is a thread that is not enabled -/
example : enabled (run ⟨1, true, true⟩ [[.close]] [0, 0, 0, 0, 0]) 0 = false := by decide

/-- **Results are the scripted ones.**  Under every schedule: `ClosedPoolError` only for a
request and only if some thread calls `close()`; `EmptyPoolError` only for a request on a
`block=True` pool with a `pool_timeout`; `MaxRetryError` (`failed`) only for a request whose last
attempt is scripted to fail; and a request that ends `ok` is one whose last attempt is scripted to
succeed (`ok`: keep-alive reply; `okClose`: with `Connection: close`; `okDrop`: keep-alive, then
the peer closes) — anything but `fail`. -/
theorem C02_results_as_scripted (cfg : Cfg) (progs : List (List Op)) (σ : List Nat) :
    ∀ rs ∈ results (run cfg progs σ), ∀ p ∈ rs,
      (p.2 = .closedPool → 1 ≤ closeCount progs ∧ ∃ f l st, p.1 = .req f l st) ∧
      (p.2 = .emptyPool → cfg.block = true ∧ cfg.timeout = true ∧ ∃ f l st, p.1 = .req f l st) ∧
      (p.2 = .failed → ∃ f st, p.1 = .req f .fail st) ∧
      (p.2 = .ok → ∀ f l st, p.1 = .req f l st → l ≠ .fail) := by
  refine forall_results fun t th g p hp => ?_
  simpa only [ScriptedG, Op.kind_eq_zero, closeTotal_run, run_cfg, closeCount] using
    (invAll_run cfg progs σ).scr.scr t th g p hp

/-- **Without `close()` everything ends as scripted.**  No `close` op in the programs: under every
schedule a finished request ended `ok` (last attempt not scripted `fail`), with `MaxRetryError`
(last attempt scripted `fail`) or — `block=True` with `pool_timeout` only — with `EmptyPoolError`;
`release_conn` always ends normally. -/
theorem C02_no_close_results (cfg : Cfg) (progs : List (List Op)) (σ : List Nat)
    (h0 : closeCount progs = 0) :
    ∀ rs ∈ results (run cfg progs σ), ∀ p ∈ rs,
      (p.2 = .ok ∧ ∀ f l st, p.1 = .req f l st → l ≠ .fail) ∨
      (p.2 = .failed ∧ ∃ f st, p.1 = .req f .fail st) ∨
      (p.2 = .emptyPool ∧ cfg.block = true ∧ cfg.timeout = true ∧ ∃ f l st, p.1 = .req f l st) := by
  intro rs hrs p hp
  obtain ⟨h1, h2, h3, h4⟩ := C02_results_as_scripted cfg progs σ rs hrs p hp
  rcases C02_close_race cfg progs σ rs hrs p hp with h | h | h | h
  · exact Or.inl ⟨h, h4 h⟩
  · have := (h1 h).1
    omega
  · exact Or.inr (Or.inr ⟨h, h2 h⟩)
  · exact Or.inr (Or.inl ⟨h, h3 h⟩)

/-- non-vacuity: a retried request on a pool without closer ends `ok` -/
example : closeCount [[.req 1 .ok false]] = 0 ∧
    results (run ⟨1, true, false⟩ [[.req 1 .ok false]] (List.replicate 16 0)) =
      [[(.req 1 .ok false, .ok)]] := by decide

/-- **No step raises an internal error.**  From every reachable configuration, whatever `self.pool`
is by now, a step of thread `t` adds only results in {`ok`, `closedPool`, `emptyPool`, `failed`}:
in particular the step after `queue.Full` (`warn`: `pool.qsize()` on the queue object the thread
bound before `put`) and the swap of a second `close()` go through with `self.pool = None`. -/
theorem C02_close_race_step (cfg : Cfg) (progs : List (List Op)) (σ : List Nat) (t : Nat)
    (s' : State) (h : step (run cfg progs σ) t = some s') :
    ∃ th th', (run cfg progs σ).threads[t]? = some th ∧ s'.threads[t]? = some th' ∧
      ∀ p ∈ th'.results, p ∈ th.results ∨
        p.2 = .ok ∨ p.2 = .closedPool ∨ p.2 = .emptyPool ∨ p.2 = .failed := by
  have hi := invAll_run cfg progs σ
  obtain ⟨th, sh', th', hget, hs, rfl⟩ := step_some h
  exact ⟨th, th', hget, getElem?_set_self hget, hi.good_step hget hs⟩

/-- non-vacuity: the schedule of the repaired finding 2 reaches the `warn` step with
`self.pool = None`, and the step exists -/
example :
    let s := run ⟨1, false, false⟩ [[.req 0 .ok false], [.req 0 .ok false], [.close]]
      [0, 0, 0, 1, 1, 1, 1, 1, 1, 1, 1, 0, 0, 0, 0, 0, 0, 2, 2]
    s.sh.poolRef = none ∧ (s.threads.map (·.pc))[0]? = some (.warn (some 0) (.fin .ok)) ∧
      (step s 0).isSome = true := by decide

/-- **Finding 1 (hang).**  `block=True`, no `pool_timeout`, one request racing one `close()`:
the request passes both `self.pool` loads, `close()` swaps the attribute and drains the queue, and
the request's blocking `get()` on the old queue object can never return — the configuration is
stuck for ever (for every continuation of the schedule) with the request unfinished. -/
theorem C02_close_strands_waiter_witness :
    let s := run ⟨1, true, false⟩ [[.req 0 .ok false], [.close]] [0, 0, 1, 1, 1, 1, 1]
    stuck s = true ∧ allDone s = false ∧ s.sh.poolRef = none ∧
    (s.threads.map (·.pc)) = [.getQ 0 .ok false, .idle] ∧ ∀ σ, runFrom s σ = s := by
  refine ⟨by decide, by decide, by decide, by decide, ?_⟩
  exact runFrom_of_stuck (by decide)

/-- **Repaired finding 2 (was: internal error).**  `block=False`, `maxsize=1`, two requests and a
`close()`, on the schedule that used to raise: the second `_put_conn` finds the queue full,
`close()` sets `self.pool = None` (and takes the queued connection), the thread is at the "pool is
full" warning — whose argument is now `pool.qsize()` on the queue it found full — and the request
completes normally with its own response; before the repair (`self.pool.qsize()`) this schedule
ended with `AttributeError` out of `urlopen`. -/
theorem C02_close_race_full_warning_ok :
    let s := run ⟨1, false, false⟩ [[.req 0 .ok false], [.req 0 .ok false], [.close]]
      [0, 0, 0, 1, 1, 1, 1, 1, 1, 1, 1, 0, 0, 0, 0, 0, 0, 2, 2]
    s.sh.poolRef = none ∧ (s.threads.map (·.pc))[0]? = some (.warn (some 0) (.fin .ok)) ∧
    (results (runFrom s [0, 0]))[0]? = some [(.req 0 .ok false, .ok)] := by decide

/-- **Repaired double `close()` (was: internal error).**  Two concurrent `close()` calls on the
schedule that used to raise (`_close_pool_connections(None)`): the first swaps the queue out, the
second swaps `None` out, sees `old_pool is None` and returns; the first drains.  Both end
normally.  (Outside the property's quantifier — at most one closing thread — but it is what makes
`C02_close_race` hold for any number of closers.) -/
theorem C02_double_close_ok :
    results (run ⟨1, false, false⟩ [[.close], [.close]] [0, 1, 0, 1]) = [[], [(.close, .ok)]] ∧
    results (run ⟨1, false, false⟩ [[.close], [.close]] [0, 1, 0, 1, 0, 0]) =
      [[(.close, .ok)], [(.close, .ok)]] := by decide

/-- **Drop closes all.**  In every reachable configuration, a socket still open after the pool
object has been dropped (`weakref.finalize` drains whatever is queued — also what racing
`_put_conn`s put into the old queue after `close()` drained it) belongs to a connection some
thread still holds (a request in flight or an unreleased streaming response).  Hence once every
thread holds nothing — in particular after `close()`, all threads done and every streamed response
released — no socket is open. -/
theorem C02_drop_closes_all (cfg : Cfg) (progs : List (List Op)) (σ : List Nat) :
    let s := run cfg progs σ
    (∀ c ∈ openAfterDrop s, ∃ (t : Nat) (th : Thread), s.threads[t]? = some th ∧ c ∈ th.owned) ∧
    ((∀ th ∈ s.threads, th.owned = []) → openAfterDrop s = []) := by
  intro s
  refine (fun h1 => ⟨h1, fun hall => List.eq_nil_iff_forall_not_mem.mpr fun c hc => ?_⟩) fun c hc => ?_
  · simp only [openAfterDrop, List.mem_filter, Bool.not_eq_true', List.contains_eq_mem,
      decide_eq_false_iff_not] at hc
    exact ((inv_run cfg progs σ).osub c hc.1).resolve_left hc.2
  · obtain ⟨t, th, g, hcth⟩ := h1 c hc
    rw [hall th (List.mem_of_getElem? g)] at hcth
    simp at hcth

/-- non-vacuity: request racing `close()`; the late `_put_conn` leaves an open connection in the
old queue (`openC ≠ []`), all threads are done and hold nothing, and the drop closes it -/
example :
    let s := run ⟨1, false, false⟩ [[.req 0 .ok false], [.close]]
      [0, 0, 0, 0, 0, 0, 0, 1, 1, 1, 1, 1, 0]
    allDone s = true ∧ s.sh.poolRef = none ∧ s.sh.openC = [0] ∧
      (∀ th ∈ s.threads, th.owned = []) ∧ openAfterDrop s = [] := by decide

end U3.Props
