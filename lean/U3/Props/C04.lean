import U3.Model.Retry
import U3.Lemmas.Retry
/-!
# C04 — retries respect every budget, spare non-idempotent requests, and terminate

All statements are about `U3.Retry.runAttempts cfg r redirect q i script` — one `urlopen(method,
url, body, retries=r, redirect=redirect)` call with its recursive calls (retries after errors,
status retries, and the pool-level redirect branch), the network deciding the outcome of every
attempt — for **every** `Retry` value `r` (any counters, also negative / `False`), both values of
`redirect`, every request `q` (method string, body or not), every attempt offset `i`, every outcome
script of any length (errors, replies, replies carrying a `Location`), and both kinds of pool
(`cfg.proxied`); `urlopen` is the entry with `Retry.from_int` in front.  No statement is restricted
(`C04_proxied_classification` excludes the one outcome that is *meant* to differ behind a proxy, a
failed TLS handshake with the proxy, and `C04_proxy_handshake_failure_is_other` states that case):
the finding `proxy-read-reset-relabelled-proxyerror` is repaired in the code
(`HTTPConnection.getresponse` keeps `has_connected_to_proxy` across the `close()` that `http.client`
performs on `ConnectionError`), so `C04_nonidempotent_not_resent` holds for direct and proxied pools
alike; `C04_proxied_reset_not_resent` is the script of that finding.
-/
namespace U3.Props
open U3 U3.Retry

/-- attempts ≤ 1 + max(total, 0) whenever `total` is a number -/
theorem C04_attempts_le_total (cfg : Cfg) (r : Retry) (rd : Bool) (q : Rq) (i : Nat)
    (script : List Outcome) (n : Int) (ht : r.total = .num n) :
    (runAttempts cfg r rd q i script).attempts.length ≤ n.toNat + 1 := by
  have := retried_le_total cfg r rd q i script n.toNat (by rw [ht]; rfl)
  -- every attempt but the last was retried
  simp only [Run.retried] at this
  split at this
  · omega
  · rw [List.length_dropLast] at this
    omega

example : (runAttempts ⟨false⟩ (Retry.ofTotal (.num 2)) true ⟨GET, 0, false⟩ 0
    [.connectError .timeout, .connectError .refused, .connectError .timeout, .response 200 none]).attempts.length = 3 := by
  decide
/-- … redirect hops included: an error, a followed 302, a followed 303 use up `total = 2` -/
example : (runAttempts ⟨false⟩ (Retry.ofTotal (.num 2)) true ⟨GET, 0, false⟩ 0
    [.readError .reset, .located 302 none, .located 303 none, .response 200 none]).attempts.length = 3 := by
  decide

/-- per category: the attempts charged to `connect` / `read` / `status` / `other` / `redirect` after
which another attempt was made never outnumber that counter (`False` pays for none).  `chargedTo` is
the code's classification; `C04_direct_classification` says it is the natural one on direct pools.
(A response with status 0 does not exist in HTTP; `increment` would not charge it.)  For
`c = .redirect` this is C05's pool-level clause: redirect hops ≤ the redirect budget. -/
theorem C04_category_budgets (cfg : Cfg) (r : Retry) (rd : Bool) (q : Rq) (i : Nat) (script : List Outcome)
    (c : Cat) (b : Nat) (hb : (r.counter c).budget = some b) :
    ((runAttempts cfg r rd q i script).retried.filter
        (fun a => decide (chargedTo cfg a.outcome = some c))).length ≤ b := by
  -- `chargedTo cfg o` unfolds to `(eventOf cfg o).cat`, which is what `charges (some c)` tests
  exact List.countP_eq_length_filter ▸ run_ledger cfg r rd q i script (some c) b hb

example : (Retry.counter (Retry.ofTotal (.num 2)) .read).budget = none := by decide
example : (Retry.counter { Retry.default with read := .num 1 } .read).budget = some 1 := by decide
example : (Retry.counter { Retry.default with redirect := .num 1 } .redirect).budget = some 1 := by decide

/-- on a direct pool the code charges every outcome to the counter the property names; a reply whose
status is a redirect status and that carries a `Location` is charged to `redirect` — whether the
redirect is followed or the same URL is asked again because the status is forcelisted -/
theorem C04_direct_classification (o : Outcome) :
    chargedTo ⟨false⟩ o =
      match o with
      | .connectError _ => some .connect
      | .handshakeError _ => some .read      -- TLS handshake with the origin itself: ReadTimeoutError / ProtocolError
      | .sendError _ => some .read
      | .readError _ => some .read
      | .otherError => some .other
      | .response st _ => if st != 0 then some .status else none
      | .located st _ =>
        if st ∈ Gen.Redirect.redirectStatuses then some .redirect
        else if st != 0 then some .status else none := by
  cases o with
  | connectError k => cases k <;> rfl
  | handshakeError k => cases k <;> rfl
  | sendError k => cases k <;> rfl
  | readError k => cases k <;> rfl
  | otherError => rfl
  | response st ra => rfl
  | located st ra =>
    by_cases h : st ∈ Gen.Redirect.redirectStatuses
    · simp [chargedTo, eventOf, respOf, Outcome.redirectLocation, h, Event.cat]
    · simp [chargedTo, eventOf, respOf, Outcome.redirectLocation, h, Event.cat]

/-- behind a proxy every kind of send / read error is charged to `read`, exactly as on a direct pool,
and a failure to reach the proxy is still a connect error (the finding
`proxy-read-reset-relabelled-proxyerror`: before the repair reset / EOF were wrapped as `ProxyError`
and charged to `other`).  The one outcome that is classified differently is a failed TLS handshake with
the first hop: behind a proxy that hop is the proxy (`C04_proxy_handshake_failure_is_other`). -/
theorem C04_proxied_classification (o : Outcome) (hh : ∀ k, o ≠ .handshakeError k) :
    chargedTo ⟨true⟩ o = chargedTo ⟨false⟩ o := by
  cases o with
  | handshakeError k => exact absurd rfl (hh k)
  | connectError k => cases k <;> rfl
  | sendError k => cases k <;> rfl
  | readError k => cases k <;> rfl
  | otherError => rfl
  | response st ra => rfl
  | located st ra => rfl

example : ∀ k, Outcome.readError .reset ≠ .handshakeError k := by intro k; exact Outcome.noConfusion

/-- the TLS handshake with an HTTPS proxy fails (times out / is reset) after the proxy accepted the TCP
connection: `has_connected_to_proxy` is still `False`, so the error reaches `Retry.increment` as
`ProxyError(ReadTimeoutError)` resp. `ProxyError(ConnectionResetError)`; `_is_connection_error`
unwraps it and finds no `ConnectTimeoutError`, `_is_read_error` does not unwrap: it is charged to
`other` — never to `read` (the request has not been written), and `allowed_methods` is not consulted -/
theorem C04_proxy_handshake_failure_is_other (k : HandshakeKind) :
    chargedTo ⟨true⟩ (.handshakeError k) = some .other ∧
    (∃ c, translate ⟨true⟩ (.handshakeError k) = .proxy c) ∧
    (Outcome.handshakeError k).sent = false ∧
    ∀ rd, reachedServer rd (.handshakeError k) = false := by
  cases k <;> exact ⟨rfl, ⟨_, rfl⟩, rfl, fun _ => rfl⟩

/-- `C04_category_budgets` at `other` for the handshake with the proxy, spelled out (the scripts of
seeded C04-m7): `other=0` stops the first retry although `read=3` would pay for three; a POST is
retried on the `other` budget (it cannot have reached the server) -/
theorem C04_proxy_handshake_timeout_is_other :
    (runAttempts ⟨true⟩ { Retry.default with total := .num 5, read := .num 3, other := .num 0 } true ⟨GET, 0, false⟩ 0
      [.handshakeError .timeout, .response 200 none]).outcomes = [.handshakeError .timeout] ∧
    (runAttempts ⟨true⟩ { Retry.default with total := .num 5, read := .num 3, other := .num 0 } true ⟨GET, 0, false⟩ 0
      [.handshakeError .timeout, .response 200 none]).result = .maxRetry (.error (.proxy .readTimeout)) ∧
    (runAttempts ⟨true⟩ { Retry.default with read := .num 0 } true ⟨POST, 0, true⟩ 0
      [.handshakeError .timeout, .response 200 none]).result = .response 1 200 ∧
    ((runAttempts ⟨true⟩ { Retry.default with read := .num 0 } true ⟨POST, 0, true⟩ 0
      [.handshakeError .timeout, .response 200 none]).sent.map (·.outcome)) = [.response 200 none] := by
  decide

/-- the four read errors behind a proxy, spelled out -/
theorem C04_proxied_reset_charged_read :
    chargedTo ⟨true⟩ (.readError .reset) = some .read ∧ chargedTo ⟨true⟩ (.readError .eof) = some .read ∧
    chargedTo ⟨true⟩ (.readError .timeout) = some .read ∧ chargedTo ⟨true⟩ (.readError .garbage) = some .read := by
  decide

/-- C05 at pool level: the redirects `urlopen` follows never outnumber the `redirect` budget of the
policy in effect (and, being attempts, stay within `C04_attempts_le_total`) -/
theorem C04_followed_le_redirect_budget (cfg : Cfg) (r : Retry) (rd : Bool) (q : Rq) (i : Nat)
    (script : List Outcome) (b : Nat) (hb : r.redirect.budget = some b) :
    ((runAttempts cfg r rd q i script).retried.filter (fun a => follows rd a.outcome)).length ≤ b := by
  refine Nat.le_trans ?_ (C04_category_budgets cfg r rd q i script .redirect b hb)
  rw [← List.countP_eq_length_filter, ← List.countP_eq_length_filter]
  apply List.countP_mono_left
  intro a _ ha
  simp only [follows, Bool.and_eq_true] at ha
  simp [chargedTo_redirect cfg ha.2]

example : ({ Retry.default with redirect := .num 1 } : Retry).redirect.budget = some 1 := by decide
example : ((runAttempts ⟨false⟩ { Retry.default with redirect := .num 1 } true ⟨GET, 0, false⟩ 0
    [.located 302 none, .located 302 none, .response 200 none]).retried.filter
      (fun a => follows true a.outcome)).length = 1 := by decide

/-- direct and proxied pools, with and without `redirect`: when the method an attempt was sent with
is outside `allowed_methods` and the attempt ended in a read error or in a reply that `urlopen` does
not follow as a redirect, that attempt is the last one — the request is never sent again.  (A
followed redirect is a new request by design: 301/302/307/308 keep the method, 303 turns it into
`GET`; the method of every attempt is recorded in the attempt.) -/
theorem C04_nonidempotent_not_resent (cfg : Cfg) (r : Retry) (rd : Bool) (q : Rq) (i : Nat)
    (script : List Outcome) (j : Nat) (a : Attempt)
    (hj : (runAttempts cfg r rd q i script).attempts[j]? = some a)
    (hm : r.isMethodRetryable a.rq.method = false) (ho : reachedServer rd a.outcome = true) :
    (runAttempts cfg r rd q i script).attempts.length = j + 1 := by
  obtain ⟨r', hsame, -, -, hcase⟩ := attempt_cases cfg r rd q i script hj
  rw [← Retry.isMethodRetryable_congr hsame] at hm
  cases hcase with
  | last hs htl how =>
    have := List.drop_eq_nil_iff.1 htl
    have := (List.getElem?_eq_some_iff.1 hj).1
    omega
  | more r'' hw hi hs rest hrun =>
    exfalso
    cases hresp : respOf a.outcome with
    | some rs =>
      simp [wants, not_follows_of_reached ho, hresp, Retry.isRetry, hm] at hw
    | none =>
      have hre : r'.reraises (some a.rq.method) (translate cfg a.outcome) = true := by
        simp [Retry.reraises, errCat_translate_reached cfg ho hresp, hm]
      rw [show nextRq rd a.rq (i + j) a.outcome = a.rq by simp [nextRq, hresp],
        show eventOf cfg a.outcome = .error (translate cfg a.outcome) by simp [eventOf, hresp],
        Retry.increment_reraises hre] at hi
      cases hi

example : (Retry.ofTotal (.num 3)).isMethodRetryable POST = false := by decide

example : (runAttempts ⟨true⟩ (Retry.ofTotal (.num 3)) true ⟨POST, 0, true⟩ 0
    [.readError .reset, .response 200 none]).attempts[0]? = some ⟨⟨POST, 0, true⟩, .readError .reset, none⟩ := by decide

/-- the script of the finding `proxy-read-reset-relabelled-proxyerror` (`Retry(3)`, POST, first attempt
reset — or EOF — while reading) on the repaired code: behind a proxy, as on a direct pool, the request
goes on the wire once and `ProtocolError` is re-raised -/
theorem C04_proxied_reset_not_resent :
    (Retry.ofTotal (.num 3)).isMethodRetryable POST = false ∧
    (runAttempts ⟨true⟩ (Retry.ofTotal (.num 3)) true ⟨POST, 0, true⟩ 0 [.readError .reset, .response 200 none]).outcomes
      = [.readError .reset] ∧
    (runAttempts ⟨true⟩ (Retry.ofTotal (.num 3)) true ⟨POST, 0, true⟩ 0 [.readError .reset, .response 200 none]).result
      = .reraised (.plain .protocol) ∧
    (runAttempts ⟨true⟩ (Retry.ofTotal (.num 3)) true ⟨POST, 0, true⟩ 0 [.readError .eof, .response 200 none]).outcomes
      = [.readError .eof] ∧
    (runAttempts ⟨true⟩ (Retry.ofTotal (.num 3)) true ⟨POST, 0, true⟩ 0 [.readError .eof, .response 200 none]).result
      = .reraised (.plain .protocol) ∧
    (runAttempts ⟨false⟩ (Retry.ofTotal (.num 3)) true ⟨POST, 0, true⟩ 0 [.readError .reset, .response 200 none]).outcomes
      = [.readError .reset] ∧
    (runAttempts ⟨false⟩ (Retry.ofTotal (.num 3)) true ⟨POST, 0, true⟩ 0 [.readError .reset, .response 200 none]).result
      = .reraised (.plain .protocol) := by
  decide

/-- second symptom of that finding (`…/read-budget`): `Retry(read=0)` stops a GET from being
retried after a reset behind a proxy -/
theorem C04_proxied_reset_read_budget :
    (runAttempts ⟨true⟩ { Retry.default with read := .num 0 } true ⟨GET, 0, false⟩ 0
      [.readError .reset, .response 200 none]).outcomes = [.readError .reset] ∧
    (runAttempts ⟨true⟩ { Retry.default with read := .num 0 } true ⟨GET, 0, false⟩ 0
      [.readError .reset, .response 200 none]).result = .maxRetry (.error (.plain .protocol)) := by
  decide

/-- a failure while the request is being written — `socket.timeout`, a reset or a broken pipe raised by
the socket's `send` once bytes have gone out — is a read error on every kind of pool (the request may
have reached the server): it is charged to `read`, never to `connect` -/
theorem C04_send_failure_charged_read (cfg : Cfg) (k : SendKind) :
    chargedTo cfg (.sendError k) = some .read ∧ translate cfg (.sendError k) = .plain .protocol := by
  cases cfg with | mk p => cases p <;> cases k <;> exact ⟨rfl, rfl⟩

/-- for every Retry configuration (any counters, `total=False` as well), pool kind and `redirect`
flag: when the method is outside `allowed_methods`, an attempt whose send failed is the only one —
the request is not put on the wire again, no sleep, and `ProtocolError` is re-raised (not
`MaxRetryError`).  (`C04_nonidempotent_not_resent` says the same for a send failure at any later
position of the script.) -/
theorem C04_send_failure_not_resent (cfg : Cfg) (r : Retry) (rd : Bool) (q : Rq) (i : Nat) (k : SendKind)
    (rest : List Outcome) (hm : r.isMethodRetryable q.method = false) :
    runAttempts cfg r rd q i (.sendError k :: rest) =
      ⟨[⟨q, .sendError k, none⟩], .reraised (.plain .protocol)⟩ := by
  rw [← (C04_send_failure_charged_read cfg k).2]
  exact run_reraised cfg rd i rest rfl
    (by simp [Retry.reraises, errCat_translate_reached (rd := rd) (o := .sendError k) cfg rfl rfl, hm])

example : (Retry.ofTotal (.num 3)).isMethodRetryable POST = false := by decide
/-- … while an idempotent method is retried on the `read` budget: `read=1, connect=3` allows one retry -/
example : (runAttempts ⟨false⟩ { Retry.default with connect := .num 3, read := .num 1 } true ⟨GET, 0, false⟩ 0
    [.sendError .timeout, .sendError .timeout, .response 200 none]).result =
      .maxRetry (.error (.plain .protocol)) := by decide

/-- `total is False`: the first error is re-raised (the translated exception itself, not
`MaxRetryError`) after exactly one attempt, without sleeping -/
theorem C04_false_reraises (cfg : Cfg) (r : Retry) (rd : Bool) (q : Rq) (i : Nat) (o : Outcome)
    (rest : List Outcome) (ht : r.total = .disabled) (ho : o.isError = true) :
    runAttempts cfg r rd q i (o :: rest) = ⟨[⟨q, o, none⟩], .reraised (translate cfg o)⟩ := by
  exact run_reraised cfg rd i rest (by simpa [isError_eq] using ho)
    (by simp [Retry.reraises, ht])

example : (Retry.fromInt .false).total = .disabled := by decide

/-- every attempt consumes one scripted outcome, and with a numeric `total` the loop ends by itself
(a result other than "script exhausted") within `max(total, 0) + 1` attempts however long the
script of failures and redirects is -/
theorem C04_terminates (cfg : Cfg) (r : Retry) (rd : Bool) (q : Rq) (i : Nat) (script : List Outcome) :
    (runAttempts cfg r rd q i script).attempts.length ≤ script.length ∧
    (∀ n : Int, r.total = .num n → n.toNat + 1 ≤ script.length →
      (runAttempts cfg r rd q i script).result ≠ .outOfScript) := by
  have key : (runAttempts cfg r rd q i script).attempts.length ≤ script.length ∧
      ((runAttempts cfg r rd q i script).result = .outOfScript →
        script.length ≤ (runAttempts cfg r rd q i script).attempts.length) := by
    induction script generalizing r q i with
    | nil => simp [runAttempts]
    | cons o rest ih =>
      cases run_cases cfg r rd q i o rest with
      | stopped res hs h =>
        rw [h]
        exact ⟨by simp [Run.stop], fun hout => absurd hout hs.ne_out⟩
      | again r' hw hi h =>
        have := ih r' (nextRq rd q i o) (i + 1)
        simpa [h, Run.cons] using this
  refine ⟨key.1, fun n hn hlen hout => ?_⟩
  -- a script that is used up was retried from end to end, which `total` does not pay for
  have := retried_le_total cfg r rd q i script n.toNat (by rw [hn]; rfl)
  simp only [Run.retried, hout, if_true] at this
  have := key.2 hout
  omega

/-- the attempts are the script, in order: the `j`-th attempt got the `j`-th scripted outcome -/
theorem C04_attempts_follow_script (cfg : Cfg) (r : Retry) (rd : Bool) (q : Rq) (i : Nat)
    (script : List Outcome) :
    (runAttempts cfg r rd q i script).outcomes =
      script.take (runAttempts cfg r rd q i script).attempts.length := by
  induction script generalizing r q i with
  | nil => simp [runAttempts, Run.outcomes]
  | cons o rest ih =>
    cases run_cases cfg r rd q i o rest with
    | stopped res hs h => simp [h, Run.stop, Run.outcomes]
    | again r' hw hi h =>
      have := ih r' (nextRq rd q i o) (i + 1)
      simp only [Run.outcomes] at this
      simp only [h, Run.cons, Run.outcomes, List.map_cons, List.length_cons, List.take_succ_cons, this]

/-- every `time.sleep` argument is a positive backoff `≤ backoff_max`, or it is the `Retry-After`
of the reply just received — and then `respect_retry_after_header` is set or the reply is a redirect
that `urlopen` follows (`sleep_for_retry` in the redirect branch); after an error it is always the
former -/
theorem C04_sleep_bounds (cfg : Cfg) (r : Retry) (rd : Bool) (q : Rq) (i : Nat) (script : List Outcome)
    (a : Attempt) (t : Int)
    (ha : a ∈ (runAttempts cfg r rd q i script).attempts) (hs : a.sleep = some t) :
    (0 < t ∧ t ≤ r.backoffMax) ∨
    ((r.respectRetryAfter = true ∨ follows rd a.outcome = true) ∧
      ∃ st n, respOf a.outcome = some ⟨st, some n⟩ ∧ n ≠ 0 ∧ t = ticks * n) := by
  obtain ⟨j, hj⟩ := List.getElem?_of_mem ha
  obtain ⟨r', hsame, -, -, hcase⟩ := attempt_cases cfg r rd q i script hj
  cases hcase with
  | last hs' htl how =>
    rw [hs'] at hs
    cases hs
  | more r'' hw hi hs' rest hrun =>
    -- only an attempt that is followed by another one sleeps
    rw [hs'] at hs
    have hsame' := hsame.trans (Retry.increment_ok hi).sameConfig
    rw [← hsame'.backoffMax, ← hsame'.respectRetryAfter]
    rcases stepSleep_cases hs with hb | ⟨hor, rs, ho, hsl⟩
    · exact Or.inl (sleepBackoff_bound hb)
    · obtain ⟨n, hn, h0, ht⟩ := sleepForRetry_eq_some hsl
      exact Or.inr ⟨hor, rs.status, n, by rw [ho, ← hn], h0, ht⟩

example : ∃ a ∈ (runAttempts ⟨false⟩ { Retry.default with statusForcelist := [500], backoffFactor := 512 } true
    ⟨GET, 0, false⟩ 0 [.response 503 (some 7), .response 500 none, .response 200 none]).attempts,
    a.sleep = some (ticks * 7) := by
  decide

/-- a reply is followed by another attempt only as a redirect that `urlopen` follows (`redirect=True`,
a redirect status, a `Location`), or if the method is retryable and the status is in
`status_forcelist`, or it is one of the generated `RETRY_AFTER_STATUS_CODES` carrying a
`Retry-After` header while `respect_retry_after_header` is set -/
theorem C04_retry_after_gate (cfg : Cfg) (r : Retry) (rd : Bool) (q : Rq) (i : Nat) (script : List Outcome)
    (a : Attempt) (st : Nat) (ra : Option Nat)
    (ha : a ∈ (runAttempts cfg r rd q i script).retried) (ho : respOf a.outcome = some ⟨st, ra⟩) :
    follows rd a.outcome = true ∨
    (r.isMethodRetryable a.rq.method = true ∧
      (st ∈ r.statusForcelist ∨
        (st ∈ Gen.retryAfterStatusCodes ∧ ra.isSome = true ∧ r.respectRetryAfter = true))) := by
  induction script generalizing r q i with
  | nil => simp [runAttempts, Run.retried] at ha
  | cons o rest ih =>
    cases run_cases cfg r rd q i o rest with
    | stopped res hs h =>
      rw [h, retried_stop hs] at ha
      cases ha
    | again r' hw hi h =>
      have hsame := (Retry.increment_ok hi).sameConfig
      rw [h, retried_cons] at ha
      rcases List.mem_cons.1 ha with rfl | ha
      · simp only at ho ⊢
        by_cases hf : follows rd o = true
        · exact Or.inl hf
        · right
          simp only [wants, hf, ho, Bool.false_or] at hw
          obtain ⟨h1, h2⟩ := isRetry_true hw
          exact ⟨h1, h2.imp id fun ⟨a, b, c, _⟩ => ⟨a, b, c⟩⟩
      · have := ih r' (nextRq rd q i o) (i + 1) ha
        rw [Retry.isMethodRetryable_congr hsame, hsame.statusForcelist, hsame.respectRetryAfter] at this
        exact this

example : (⟨⟨GET, 0, false⟩, .response 500 none, none⟩ : Attempt) ∈
    (runAttempts ⟨false⟩ { Retry.default with statusForcelist := [500] } false ⟨GET, 0, false⟩ 0
      [.response 500 none, .response 200 none]).retried := by decide

/-- the generated table: only 413 / 429 / 503 can be retried on the strength of `Retry-After` -/
theorem C04_retry_after_codes : ∀ c ∈ Gen.retryAfterStatusCodes, c ∈ [413, 429, 503] := by decide

/-- the generated table: only 301 / 302 / 303 / 307 / 308 are redirects, and none of them is a
`Retry-After` status -/
theorem C04_redirect_statuses :
    (∀ c ∈ Gen.Redirect.redirectStatuses, c ∈ [301, 302, 303, 307, 308]) ∧
    (∀ c ∈ Gen.Redirect.redirectStatuses, c ∉ Gen.retryAfterStatusCodes) := by decide

/-- the generated table: every default allowed method is idempotent (RFC 9110 §9.2.2) -/
theorem C04_default_methods_idempotent :
    ∀ x ∈ Gen.defaultAllowedMethods,
      x ∈ [[72, 69, 65, 68], [71, 69, 84], [80, 85, 84], [68, 69, 76, 69, 84, 69],
           [79, 80, 84, 73, 79, 78, 83], [84, 82, 65, 67, 69]] := by
  decide

/-- `Retry()` and `Retry.DEFAULT` use that table and therefore spare POST -/
theorem C04_default_policy :
    Retry.default.allowedMethods = some Gen.defaultAllowedMethods ∧
    Retry.DEFAULT.allowedMethods = some Gen.defaultAllowedMethods ∧
    Retry.default.isMethodRetryable POST = false ∧ Retry.DEFAULT.isMethodRetryable POST = false ∧
    Retry.default.respectRetryAfter = true ∧ Retry.default.statusForcelist = [] := by
  decide

/-- `redirect=False`, any policy (a `Retry` object with a redirect budget as well), any script: every
attempt asks for the caller's own request — no `Location` is ever requested, the method and body are
never rewritten, whatever errors were retried before — and a 3xx reply carrying a `Location` whose
status is not forcelisted ends the call: it is the last attempt and it is the response returned. -/
theorem C04_redirect_false_never_follows (cfg : Cfg) (r : Retry) (q : Rq) (i : Nat) (script : List Outcome) :
    (∀ a ∈ (runAttempts cfg r false q i script).attempts, a.rq = q) ∧
    (∀ j a st ra, (runAttempts cfg r false q i script).attempts[j]? = some a →
      a.outcome = .located st ra → st ∈ Gen.Redirect.redirectStatuses → st ∉ r.statusForcelist →
      (runAttempts cfg r false q i script).attempts.length = j + 1 ∧
      (runAttempts cfg r false q i script).result = .response (i + j) st) := by
  have hnf : ∀ o, follows false o = false := fun o => by simp [follows]
  constructor
  · induction script generalizing r i with
    | nil => simp [runAttempts]
    | cons o rest ih =>
      cases run_cases cfg r false q i o rest with
      | stopped res hs h => simp [h, Run.stop]
      | again r' hw hi h =>
        rw [nextRq_of_not_follows (hnf o)] at h
        simpa [h, Run.cons] using ih r' (i + 1)
  · intro j a st ra hj hout hred hnforce
    obtain ⟨r', hsame, -, -, hcase⟩ := attempt_cases cfg r false q i script hj
    -- neither forcelisted nor a `Retry-After` status: `urlopen` does not ask for another attempt
    have hw' : wants r' false a.rq.method a.outcome = false := by
      cases hw : wants r' false a.rq.method a.outcome with
      | false => rfl
      | true =>
        simp only [wants, hnf, hout, respOf, Bool.false_or] at hw
        rcases (isRetry_true hw).2 with hfl | ⟨hra, -⟩
        · exact absurd (hsame.statusForcelist ▸ hfl) hnforce
        · exact absurd hra (C04_redirect_statuses.2 _ hred)
    cases hcase with
    | more r'' hw =>
      rw [hw'] at hw
      cases hw
    | last hs htl how =>
      cases how with
      | raised x hw =>
        rw [hw'] at hw
        cases hw
      | returned st' ra' ho hw hres =>
        rw [hout] at ho
        cases ho
        have := List.drop_eq_nil_iff.1 htl
        have := (List.getElem?_eq_some_iff.1 hj).1
        exact ⟨by omega, hres⟩

/-- the family of the seeded defect: a read error that is retried, then a 302 — with a `Retry` object
that *has* redirect budget and `redirect=False` the 302 is handed back after two requests -/
example : (runAttempts ⟨false⟩ { Retry.default with redirect := .num 5 } false ⟨GET, 0, false⟩ 0
    [.readError .reset, .located 302 none, .response 200 none]).attempts[1]? =
      some ⟨⟨GET, 0, false⟩, .located 302 none, none⟩ := by decide
example : (runAttempts ⟨false⟩ { Retry.default with redirect := .num 5 } false ⟨GET, 0, false⟩ 0
    [.readError .reset, .located 302 none, .response 200 none]).result = .response 1 302 := by decide
/-- … while `redirect=True` does follow it (so the theorem is about the flag, not the policy) -/
example : (runAttempts ⟨false⟩ { Retry.default with redirect := .num 5 } true ⟨GET, 0, false⟩ 0
    [.readError .reset, .located 302 none, .response 200 none]).result = .response 2 200 := by decide

/-- the same through the entry point, for every way of giving the policy (`None`, `False`, an int,
a `Retry`; any pool default): with `redirect=False` every attempt is the caller's request -/
theorem C04_urlopen_redirect_false (cfg : Cfg) (dflt arg : Arg) (m : Str) (body : Bool) (script : List Outcome) :
    ∀ a ∈ (urlopen cfg dflt arg false m body script).attempts, a.rq = ⟨m, 0, body⟩ := by
  unfold urlopen
  exact (C04_redirect_false_never_follows cfg _ _ 0 script).1

/-- what a followed redirect asks for: consecutive attempts are linked by `nextRq` — the same request
again after an error or a status retry; after a followed redirect the `Location` of that reply, with
the method and body kept (301/302/307/308) or turned into a body-less `GET` (303) -/
theorem C04_request_chain (cfg : Cfg) (r : Retry) (rd : Bool) (q : Rq) (i : Nat) (script : List Outcome)
    (j : Nat) (a b : Attempt)
    (ha : (runAttempts cfg r rd q i script).attempts[j]? = some a)
    (hb : (runAttempts cfg r rd q i script).attempts[j + 1]? = some b) :
    b.rq = nextRq rd a.rq (i + j) a.outcome := by
  obtain ⟨r', -, -, -, hcase⟩ := attempt_cases cfg r rd q i script ha
  rw [← Nat.add_zero (j + 1), ← List.getElem?_drop] at hb
  cases hcase with
  | last hs htl how =>
    rw [htl] at hb
    cases hb
  | more r'' hw hi hs rest hrun => exact run_head_rq cfg r'' rd _ _ rest b (by rw [hrun]; exact hb)

/-- a followed 303 turns the follow-up into a body-less `GET` for the new location; every other
followed redirect keeps method and body -/
theorem C04_redirect_rewrite (q : Rq) (i st : Nat) (ra : Option Nat)
    (h : st ∈ Gen.Redirect.redirectStatuses) :
    nextRq true q i (.located st ra) =
      if st = 303 then ⟨strGET, i + 1, false⟩ else ⟨q.method, i + 1, q.body⟩ := by
  have hf : follows true (.located st ra) = true := by
    simp [follows, Outcome.redirectLocation, h]
  simp only [nextRq, respOf, hf, if_true, redirected]
  by_cases h3 : st = 303 <;> simp [h3]

example : (303 : Nat) ∈ Gen.Redirect.redirectStatuses := by decide
example : (runAttempts ⟨false⟩ Retry.default true ⟨POST, 0, true⟩ 0
    [.located 303 none, .response 200 none]).attempts[1]? =
      some ⟨⟨strGET, 1, false⟩, .response 200 none, none⟩ := by decide
example : (runAttempts ⟨false⟩ Retry.default true ⟨POST, 0, true⟩ 0
    [.located 307 none, .response 200 none]).attempts[1]? =
      some ⟨⟨POST, 1, true⟩, .response 200 none, none⟩ := by decide

/-- the last attempt explains the result: `MaxRetryError` carries the (translated) error of the last
attempt, or the `ResponseError` for the last reply — and then `raise_on_redirect` is set (the reply
was a redirect `urlopen` wanted to follow) resp. `raise_on_status` is set (status retry); a returned
response is the last reply; a re-raised error is the last attempt's error -/
theorem C04_exhaustion_surface (cfg : Cfg) (r : Retry) (rd : Bool) (q : Rq) (i : Nat) (script : List Outcome) :
    (∀ c, (runAttempts cfg r rd q i script).result = .maxRetry c →
      ∃ a, (runAttempts cfg r rd q i script).attempts.getLast? = some a ∧
        c = Retry.Event.reason (eventOf cfg a.outcome) ∧
        (a.outcome.isError = false →
          if follows rd a.outcome then r.raiseOnRedirect = true else r.raiseOnStatus = true)) ∧
    (∀ k st, (runAttempts cfg r rd q i script).result = .response k st →
      ∃ a ra, (runAttempts cfg r rd q i script).attempts.getLast? = some a ∧
        respOf a.outcome = some ⟨st, ra⟩) ∧
    (∀ e, (runAttempts cfg r rd q i script).result = .reraised e →
      ∃ a, (runAttempts cfg r rd q i script).attempts.getLast? = some a ∧ a.outcome.isError = true ∧
        e = translate cfg a.outcome) := by
  by_cases hout : (runAttempts cfg r rd q i script).result = .outOfScript
  · simp [hout]
  obtain ⟨a, k, -, hlast, -, hcase⟩ := run_stop cfg r rd q i script rfl hout
  rw [hlast]
  rcases hcase with ⟨st, ra, ho, hres⟩ | ⟨he, hres⟩ | ⟨hres, hflag⟩ <;> rw [hres]
  · exact ⟨nofun, fun _ _ h => by cases h; exact ⟨a, ra, rfl, ho⟩, nofun⟩
  · exact ⟨nofun, nofun, fun _ h => by cases h; exact ⟨a, rfl, he, rfl⟩⟩
  · exact ⟨fun _ h => by cases h; exact ⟨a, rfl, rfl, hflag⟩, nofun, nofun⟩

example : (runAttempts ⟨false⟩ { Retry.default with total := .num 1, statusForcelist := [500], raiseOnStatus := false }
    true ⟨GET, 0, false⟩ 0 [.response 500 none, .response 500 none, .response 200 none]).result = .response 1 500 := by
  decide
example : (runAttempts ⟨false⟩ { Retry.default with total := .num 1, statusForcelist := [500] } true ⟨GET, 0, false⟩ 0
    [.response 500 none, .response 500 none, .response 200 none]).result = .maxRetry (.response (.specific 500)) := by
  decide
example : (runAttempts ⟨false⟩ { Retry.default with total := .num 0 } true ⟨GET, 0, false⟩ 0
    [.readError .timeout]).result = .maxRetry (.error (.plain .readTimeout)) := by decide
example : (runAttempts ⟨false⟩ { Retry.default with redirect := .num 1 } true ⟨GET, 0, false⟩ 0
    [.located 302 none, .located 302 none]).result = .maxRetry (.response .tooManyRedirects) := by decide
example : (runAttempts ⟨false⟩ { Retry.default with redirect := .num 1, raiseOnRedirect := false } true ⟨GET, 0, false⟩ 0
    [.located 302 none, .located 302 none]).result = .response 1 302 := by decide

/-- the response `urlopen` returns is the reply to the LAST attempt — the response object of attempt
`i + (number of attempts − 1)`, i.e. the script entry at index `number of attempts − 1`, untouched —
whether it is returned as a normal result or on exhaustion with `raise_on_status=False` /
`raise_on_redirect=False` -/
theorem C04_returned_is_last_reply (cfg : Cfg) (r : Retry) (rd : Bool) (q : Rq) (i : Nat)
    (script : List Outcome) (k st : Nat) (h : (runAttempts cfg r rd q i script).result = .response k st) :
    k + 1 = i + (runAttempts cfg r rd q i script).attempts.length ∧
    ∃ o ra, script[(runAttempts cfg r rd q i script).attempts.length - 1]? = some o ∧
      respOf o = some ⟨st, ra⟩ := by
  obtain ⟨a, n, hlen, -, hscript, hcase⟩ := run_stop cfg r rd q i script rfl (by rw [h]; nofun)
  rw [hlen, Nat.add_sub_cancel, hscript]
  rcases hcase with ⟨st', ra, ho, hres⟩ | ⟨-, hres⟩ | ⟨hres, -⟩ <;> rw [hres] at h <;> cases h
  exact ⟨by omega, a.outcome, ra, rfl, ho⟩

/-- at the entry point (`i = 0`): the index of the returned reply in the script is the number of
attempts − 1 -/
theorem C04_urlopen_returns_last_reply (cfg : Cfg) (dflt arg : Arg) (rd : Bool) (m : Str) (body : Bool)
    (script : List Outcome) (k st : Nat)
    (h : (urlopen cfg dflt arg rd m body script).result = .response k st) :
    k + 1 = (urlopen cfg dflt arg rd m body script).attempts.length ∧
    ∃ o ra, script[k]? = some o ∧ respOf o = some ⟨st, ra⟩ := by
  unfold urlopen at h ⊢
  obtain ⟨h1, o, ra, h2, h3⟩ := C04_returned_is_last_reply cfg _ rd _ 0 script k st h
  rw [Nat.zero_add] at h1
  rw [← h1, Nat.add_sub_cancel] at h2
  exact ⟨h1, o, ra, h2, h3⟩

example : (urlopen ⟨false⟩ .none (.retry { Retry.default with total := .num 2, statusForcelist := [503], raiseOnStatus := false })
    true GET false [.response 503 none, .response 503 none, .response 503 none, .response 200 none]).result =
      .response 2 503 := by decide

/-- `increment` never hands back the object it was called on: the result is a new value whose history
is one entry longer, and the configuration fields are carried over unchanged.  (The model is
functional, so the caller's value cannot change; that the Python object's attributes are untouched is
checked field by field in the correspondence run.) -/
theorem C04_caller_retry_unchanged (r r' : Retry) (m : Option Str) (ev : Event)
    (h : r.increment m ev = .ok r') :
    r' ≠ r ∧ r'.history.length = r.history.length + 1 ∧ Retry.SameConfig r r' := by
  obtain ⟨e, hh⟩ := (Retry.increment_ok h).history
  have hl : r'.history.length = r.history.length + 1 := by simp [hh]
  refine ⟨?_, hl, (Retry.increment_ok h).sameConfig⟩
  intro heq
  rw [heq] at hl
  omega

example : ((Retry.ofTotal (.num 3)).increment (some GET) (.error (.plain .readTimeout))).toOption.isSome = true := by
  decide

end U3.Props
