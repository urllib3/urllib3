import U3.Model.Route
import U3.Lemmas.Route
import U3.Lemmas.UrlRoute
/-!
# C15 — what goes on the wire is exactly what the URL says

Theorems about `U3.Route.route` (the model of `PoolManager.urlopen` / `ProxyManager.urlopen` for one
body-less GET, composed from `U3.Url`, `U3.PoolKey`, `U3.Wire`) — mostly through a **fresh** manager
built with arbitrary pool keywords `extra` (`routeWith idna proxy extra u`; `routeFresh` is the case
`extra = []`), for **every** `Url` record `u`, in particular every record `parse_url` can return.
`idna` is the `idna.encode` oracle.  The theorems have the form "whenever the request is sent
(`= .ok r`), what was observed (`r`) is …"; that requests are sent at all is shown by the non-vacuity
examples.  The known findings are recorded by `…_witness` theorems (evaluation of the model on the URL
text), and the headline statements they falsify are proved under the hypothesis that excludes them.
Repaired defects (the model mirrors the repaired code): the absolute-form target sent to a forwarding
proxy carries neither userinfo nor fragment (`C15_target_forward`; `C15_target_no_fragment_no_userinfo`
holds for every kind of route), and the `Host` header inside a CONNECT tunnel is computed from the tunnel
host without its brackets (`C15_host_header_tunnel`); the URL texts of the repaired findings are kept as
positive theorems (`…_ok`).

Vocabulary (`U3.Lemmas.Route`): `effPort u` the port after `if not port:` defaulting, `schemeDefault s`
80/443, `unbracket` (`U3.Model.Route`) the pool's `host[1:-1]`, `dialName` `create_connection`'s `strip("[]")`,
`hostText` the host part of `http.client`'s automatic `Host`, `isForwarding proxy scheme` "the
absolute URL is sent to the proxy, no tunnel".
-/
namespace U3.Props
open U3 U3.Route

/-- one GET of the URL text through a fresh manager (ASCII hosts: every IDNA query fails) -/
def send1 (proxy : Option ProxyCfg) (url : String) : Except Exc Route :=
  (routeUrl (fun _ => none) (Mgr.init proxy []) (lit url)).2

/-- two GETs through one manager; the second is the redirect follow-up of the first: it carries the
first hop's `kw["headers"]` -/
def hop2 (proxy : Option ProxyCfg) (url1 url2 : String) : Except Exc Route :=
  match routeUrl (fun _ => none) (Mgr.init proxy []) (lit url1) with
  | (m', .ok r1) => (routeUrl (fun _ => none) m' (lit url2) r1.kwHeaders).2
  | (_, .error e) => .error e

/-- `ProxyManager("http://proxy.example:3128")` -/
def pxHttp : ProxyCfg := ⟨http, some (lit "proxy.example"), 3128, false⟩
/-- `ProxyManager("https://proxy.example", use_forwarding_for_https=True)` -/
def pxHttpsFwd : ProxyCfg := ⟨https, some (lit "proxy.example"), 443, true⟩

/-- `ProxyManager("https://[::2]:8443")` -/
def pxV6 : ProxyCfg := ⟨https, some (lit "[::2]"), 8443, false⟩

example : mkProxy (fun _ => none) (lit "http://proxy.example:3128") false = .ok pxHttp := by decide +kernel
example : mkProxy (fun _ => none) (lit "https://proxy.example") true = .ok pxHttpsFwd := by decide +kernel

/-! The manager of `send1` / `hop2` has fine defaults, so its requests can be followed on `routeS`, which
does not run the key normaliser (most of the evaluation of one request otherwise). -/

theorem send1_eq (proxy : Option ProxyCfg) (url : String) :
    send1 proxy url = (routeUrlS (fun _ => none) (Mgr.init proxy []) (lit url)).2 := by
  rw [send1, (routeUrl_fine (fine_init proxy) _ _ _).1]

theorem routeWith_eq (idna : Str → Option Str) (proxy : Option ProxyCfg) (u : Url.Url) (c : List (Str × Str)) :
    routeWith idna proxy [] u c = (routeS idna (Mgr.init proxy []) u c).2 := by
  rw [routeWith, route_fine (fine_init proxy)]

theorem hop2_eq (proxy : Option ProxyCfg) (a b : String) :
    hop2 proxy a b =
      match routeUrlS (fun _ => none) (Mgr.init proxy []) (lit a) with
      | (m', .ok r1) => (routeUrlS (fun _ => none) m' (lit b) r1.kwHeaders).2
      | (_, .error e) => .error e := by
  obtain ⟨e, f⟩ := routeUrl_fine (fine_init proxy) (fun _ => none) (lit a) []
  unfold hop2
  rw [e]
  cases h : routeUrlS (fun _ => none) (Mgr.init proxy []) (lit a) with
  | mk m' r =>
    rw [h] at f
    cases r with
    | error _ => rfl
    | ok r1 => exact congrArg Prod.snd (routeUrl_fine f _ _ _).1

/-- `port_by_scheme` gives http → 80, https → 443 (semantic fact about the generated table) -/
theorem C15_port_table :
    List.lookup http Gen.portByScheme = some 80 ∧ List.lookup https Gen.portByScheme = some 443 := by
  decide

/-! The evaluations of the model on URL texts that the `example`s, `…_witness` and `…_ok` theorems below
quote are collected in a few tables: within one declaration the kernel evaluates the model's constant
tables (key names, header names) once, so that a further URL costs a fraction of a first one. -/

/-- the connect target of direct requests (the two known findings included) -/
theorem dial_vectors :
    ((send1 none "https://User@Example.COM:8443/a?b#c").toOption.map (fun r => (r.dialHost, r.dialPort)) =
      some (lit "example.com", 8443)) ∧
    ((send1 none "http://[FE80::1%25eth0]/").toOption.map (fun r => (r.dialHost, r.dialPort)) =
      some (lit "fe80::1%eth0", 80)) ∧
    ((Url.parseUrl (lit "https://User@Example.COM:8443/a?b#c")).toOption.map
      (fun u => (u.scheme, u.host, u.port)) = some (some https, some (lit "example.com"), some 8443)) ∧
    ((Url.parseUrl (lit "http://h:0/")).toOption.map (·.port) = some (some 0) ∧
      (send1 none "http://h:0/").toOption.map (fun r => (r.dialHost, r.dialPort, r.hostHeader)) =
        some (lit "h", 80, [lit "h"])) ∧
    ((Url.parseUrl (lit "http://[::1%2525a]/")).toOption.map (·.host) = some (some (lit "[::1%25a]")) ∧
      (send1 none "http://[::1%2525a]/").toOption.map (·.dialHost) = some (lit "::1%a")) ∧
    ((Url.parseUrl (lit "http://[2001:DB8::8:800:200C:417A]:8080/")).toOption.map (·.host) =
      some (some (lit "[2001:db8::8:800:200c:417a]"))) ∧
    ((send1 none "http://[2001:DB8::8:800:200C:417A]:8080/").toOption.map (fun r => (r.dialHost, r.dialPort)) =
      some (lit "2001:db8::8:800:200c:417a", 8080)) := by
  simp only [send1_eq, lit_ofList]
  decide +kernel

/-- the `Host` header and the TLS server name of direct requests (the known finding about the server
name included) -/
theorem host_sni_vectors :
    (Url.normalizeHost (fun _ => none) (some (lit "[fe80::1%eth0]")) (some http) =
      .ok (some (lit "[fe80::1%eth0]"))) ∧
    ((unbracket (lit "[fe80::1%eth0]")).head? ≠ some 91) ∧
    ((send1 none "https://Example.COM.:443/").toOption.map (fun r => (r.dialHost, r.hostHeader)) =
      some (lit "example.com.", [lit "example.com"])) ∧
    ((send1 none "http://[FE80::1%25eth0]:8080/").toOption.map (fun r => (r.dialHost, r.dialPort, r.hostHeader)) =
      some (lit "fe80::1%eth0", 8080, [lit "[fe80::1]:8080"])) ∧
    ((send1 none "http://[FE80::1%25eth0]:8080/").toOption.map (fun r => (r.dialHost, r.dialPort)) =
      some (lit "fe80::1%eth0", 8080)) ∧
    ((send1 none "https://[FE80::1%25eth0]/").toOption.map (·.tls) = some [lit "fe80::1"]) ∧
    ((send1 none "https://Example.COM./").toOption.map (·.tls) = some [lit "example.com"]) ∧
    ((send1 none "https://[fe80::1%25a%2fb]/").toOption.map (·.tls) = some [lit "fe80::1%a"] ∧
      (send1 (some pxHttp) "https://[fe80::1%25a%2fb]/").toOption.map (·.tls) = some [lit "fe80::1%a"]) := by
  simp only [send1_eq, lit_ofList]
  decide +kernel

/-- the request target and the request bytes (the inputs of the repaired findings about the
absolute-form target included) -/
theorem target_vectors :
    (((send1 (some pxHttp) "http://uSr:pw@example.com/p?q#frag").toOption.map (·.target)) =
      some (lit "http://example.com/p?q")) ∧
    ((send1 none "http://uSr:pw@example.com?q=1#frag").toOption.map (·.target) = some (lit "/?q=1")) ∧
    ((send1 (some pxHttp) "https://uSr@example.com/a/./b/../c?x y#frag").toOption.map (·.target) =
      some (lit "/a/c?x%20y")) ∧
    ((send1 none "http://u:p@h/a?b#c").toOption.map (·.request) =
      some (lit "GET /a?b HTTP/1.1\r\nHost: h\r\nAccept-Encoding: identity\r\nUser-Agent: " ++ Gen.defaultUserAgent ++
        lit "\r\n\r\n")) ∧
    ((send1 (some pxHttp) "http://Example.com:8080/a?b").toOption.map (·.target) =
      some (lit "http://example.com:8080/a?b")) ∧
    ((send1 (some pxHttp) "http://uSr:pw@example.com/p").toOption.map (·.target) =
        some (lit "http://example.com/p") ∧
      (send1 (some pxHttp) "http://example.com/p#frag").toOption.map (·.target) =
        some (lit "http://example.com/p") ∧
      (send1 (some pxHttpsFwd) "https://uSr@example.com/p#frag").toOption.map (·.target) =
        some (lit "https://example.com/p")) := by
  simp only [send1_eq, lit_ofList]
  decide +kernel

/-- equivalent spellings and the choice of the pool (the known finding about the explicit default port
through a forwarding proxy included) -/
theorem equiv_vectors :
    ((send1 none "https://example.com:443/p") = (send1 none "https://EXAMPLE.com/p")) ∧
    ((send1 (some pxHttp) "https://example.com:443/p").toOption.map (·.request) =
      (send1 (some pxHttp) "HTTPS://example.COM/p").toOption.map (·.request)) ∧
    (((send1 none "https://example.com:443/p").toOption.map (·.pool)).isSome = true) ∧
    ((hop2 none "https://example.com/p" "https://EXAMPLE.com:443/p").toOption.map (·.pool) = some 0 ∧
      (hop2 none "https://example.com/p" "http://example.com/p").toOption.map (·.pool) = some 1) ∧
    (mkProxy (fun _ => none) (lit "https://[::2]:8443") false = .ok pxV6 ∧
      (hop2 (some pxV6) "http://example.com/" "https://[::2]:8443/x").toOption.map
        (fun r => (r.pool, r.connect.isSome)) = some (0, true) ∧
      (hop2 (some pxV6) "https://[::2]:8443/x" "http://example.com/").toOption.map
        (fun r => (r.pool, r.connect.isSome)) = some (0, false)) ∧
    ((send1 (some pxHttp) "http://example.com:80/p").toOption.map (fun r => (r.target, r.hostHeader)) =
        some (lit "http://example.com:80/p", [lit "example.com:80"]) ∧
      (send1 (some pxHttp) "http://example.com/p").toOption.map (fun r => (r.target, r.hostHeader)) =
        some (lit "http://example.com/p", [lit "example.com"])) := by
  simp only [send1_eq, hop2_eq, lit_ofList]
  decide +kernel

/-- tunnelled requests (the inputs of the repaired findings about the `Host` header inside a tunnel
included) -/
theorem tunnel_vectors :
    ((send1 (some pxHttp) "https://Example.COM:8443/").toOption.map
        (fun r => (r.dialHost, r.dialPort, r.tls, r.connect)) =
      some (lit "proxy.example", 3128, [lit "example.com"],
        some (lit "CONNECT example.com:8443 HTTP/1.1\r\nHost: example.com:8443\r\n\r\n"))) ∧
    ((send1 (some pxHttp) "https://Example.COM./p").toOption.map (·.hostHeader) = some [lit "example.com."]) ∧
    ((send1 (some pxHttp) "https://[::1]:8443/").toOption.map (·.hostHeader) = some [lit "[::1]:8443"] ∧
      (send1 (some pxHttp) "https://[fe80::1%25eth0]/").toOption.map (·.hostHeader) = some [lit "[fe80::1]"] ∧
      (send1 (some pxHttp) "https://[::1]:8443/").toOption.map (·.connect) =
        some (some (lit "CONNECT [::1]:8443 HTTP/1.1\r\nHost: [::1]:8443\r\n\r\n"))) := by
  simp only [send1_eq, lit_ofList]
  decide +kernel

/-- forwarded requests (the known findings about redirect follow-ups included) -/
theorem forward_vectors :
    ((send1 (some pxHttp) "http://Example.com:8080/a").toOption.map (fun r => (r.dialHost, r.dialPort)) =
      some (lit "proxy.example", 3128)) ∧
    ((send1 (some pxHttpsFwd) "https://Example.com:8080/a").toOption.map
      (fun r => (r.dialHost, r.dialPort, r.tls)) = some (lit "proxy.example", 443, [lit "proxy.example"])) ∧
    ((send1 (some pxHttp) "http://Example.com:8080/a").toOption.map (·.hostHeader) =
      some [lit "example.com:8080"]) ∧
    ((routeWith (fun _ => none) (some pxHttp) []
        ⟨some http, none, some (lit "b.example"), none, some (lit "/next"), none, none⟩
        [acceptHdr, (lit "Host", lit "a.example")]).toOption.map (fun r => (r.target, r.hostHeader)) =
      some (lit "http://b.example/next", [lit "a.example"])) ∧
    ((hop2 (some pxHttp) "http://a.example/" "http://b.example/next").toOption.map
        (fun r => (r.target, r.hostHeader)) = some (lit "http://b.example/next", [lit "a.example"]) ∧
      (hop2 (some pxHttp) "http://example.com/" "https://x1.y2/next").toOption.map
        (fun r => (r.connect, r.target, r.hostHeader)) =
        some (some (lit "CONNECT x1.y2:443 HTTP/1.1\r\nHost: x1.y2:443\r\n\r\n"), lit "/next", [lit "example.com"])) := by
  simp only [send1_eq, hop2_eq, routeWith_eq, lit_ofList]
  decide +kernel

/-
Full statement (property text): the TCP connection is opened to the URL's host (without brackets) and
port (80/443 when absent).  FALSE for an explicit port 0 (known finding `port-zero-treated-as-absent`,
witness below); and the host clause holds for the host *as the pool re-normalises it* (`h'`), which is
the URL's host itself unless the zone id starts with `25` (known finding
`zone-25-prefix-stripped-twice`, `C15_zone25_witness`; see `C15_host_stable_partial` for `h' = hst`).

Proved: for every http/https `Url` with `port ≠ some 0` that is sent directly, the port dialled is the
URL's port or the scheme default, and the name dialled is `h'` with one pair of enclosing brackets
removed (`unbracket`; `dialName` is `create_connection`'s own `strip("[]")` of a name that still starts
with `[`, the identity otherwise).
-/
theorem C15_connect_target_partial (idna : Str → Option Str) (extra : PoolKey.Ctx) (u : Url.Url) (r : Route)
    (s hst : Str) (hs : u.scheme = some s) (hsch : s = http ∨ s = https) (hh : u.host = some hst)
    (hp0 : u.port ≠ some 0)
    (h : routeWith idna none extra u = .ok r) :
    r.dialPort = u.port.getD (schemeDefault s) ∧
    ∃ h', Url.normalizeHost idna (some hst) (some s) = .ok (some h') ∧
      r.dialHost = dialName (unbracket h') ∧
      (h'.head? ≠ some 91 → r.dialHost = h') ∧
      (∀ a, h' = 91 :: a ++ [93] → a.head? ≠ some 91 → r.dialHost = a) := by
  obtain ⟨h', tr, key, hn, -, rfl⟩ := route_origin hs hsch hh rfl h
  refine ⟨effPort_web hs hsch hp0, h', hn, rfl, fun hb => ?_, fun a ha hb => ?_⟩
  · exact (congrArg dialName (unbracket_of_head hb)).trans (dialName_of_head hb)
  · exact ha ▸ (congrArg dialName (unbracket_bracketed a)).trans (dialName_of_head hb)

example : (send1 none "https://User@Example.COM:8443/a?b#c").toOption.map (fun r => (r.dialHost, r.dialPort)) =
    some (lit "example.com", 8443) := dial_vectors.1
example : (send1 none "http://[FE80::1%25eth0]/").toOption.map (fun r => (r.dialHost, r.dialPort)) =
    some (lit "fe80::1%eth0", 80) := dial_vectors.2.1
example : (Url.parseUrl (lit "https://User@Example.COM:8443/a?b#c")).toOption.map
    (fun u => (u.scheme, u.host, u.port)) = some (some https, some (lit "example.com"), some 8443) :=
  dial_vectors.2.2.1

/-- known finding `port-zero-treated-as-absent`: "http://h:0/" parses with port 0, yet the connection
goes to port 80 and the `Host` header names no port -/
theorem C15_port_zero_witness :
    (Url.parseUrl (lit "http://h:0/")).toOption.map (·.port) = some (some 0) ∧
    (send1 none "http://h:0/").toOption.map (fun r => (r.dialHost, r.dialPort, r.hostHeader)) =
      some (lit "h", 80, [lit "h"]) :=
  dial_vectors.2.2.2.1

/-- known finding `zone-25-prefix-stripped-twice`: "http://[::1%2525a]/" has zone id "25a" (host
"[::1%25a]"); the pool normalises the host a second time and dials "::1%a" -/
theorem C15_zone25_witness :
    (Url.parseUrl (lit "http://[::1%2525a]/")).toOption.map (·.host) = some (some (lit "[::1%25a]")) ∧
    (send1 none "http://[::1%2525a]/").toOption.map (·.dialHost) = some (lit "::1%a") :=
  dial_vectors.2.2.2.2.1

/-
Full statement: the pool's second `_normalize_host` leaves the host `parse_url` returned alone (so that
`h' = hst` in the theorems above and below).  FALSE for an IPv6 zone id starting with `25`
(`C15_zone25_witness`).  Proved for: a lower-case ASCII name that is not a bracketed IPv6 literal
(reg-names, incl. A-labels), a dotted quad, a lower-case bracketed IPv6 literal without zone
(`StableHost`), and a bracketed IPv6 literal with lower-case address part and a normal-form zone id that
does NOT start with `25` + more (`StableZoned` — the exact complement of the finding among zoned
literals in parsed form).  That `parse_url` returns only hosts of these shapes or of the shape of the
finding is `C15_host_stable_of_parse` below.
-/
theorem C15_host_stable_partial (idna : Str → Option Str) (hst s : Str) (hsch : s = http ∨ s = https)
    (h : StableHost hst ∨ StableZoned hst) : Url.normalizeHost idna (some hst) (some s) = .ok (some hst) := by
  obtain ⟨hsh, h25⟩ := stable_iff.mp h
  exact Url.shape_fixed idna (normalizable_web hsch) hsh h25

/-- hence, for these hosts, the socket is opened to the URL's own host text without its brackets and
the URL's port (or the scheme default) -/
theorem C15_connect_target_stable (idna : Str → Option Str) (extra : PoolKey.Ctx) (u : Url.Url) (r : Route)
    (s hst : Str) (hs : u.scheme = some s) (hsch : s = http ∨ s = https) (hh : u.host = some hst)
    (hp0 : u.port ≠ some 0) (hstab : StableHost hst ∨ StableZoned hst)
    (h : routeWith idna none extra u = .ok r) :
    r.dialPort = u.port.getD (schemeDefault s) ∧ r.dialHost = dialName (unbracket hst) ∧
    (hst.head? ≠ some 91 → r.dialHost = hst) ∧
    (∀ a, hst = 91 :: a ++ [93] → a.head? ≠ some 91 → r.dialHost = a) := by
  obtain ⟨h1, h', hn, h2, h3, h4⟩ := C15_connect_target_partial idna extra u r s hst hs hsch hh hp0 h
  rw [C15_host_stable_partial idna hst s hsch hstab] at hn
  simp only [Except.ok.injEq, Option.some.injEq] at hn
  subst hn
  exact ⟨h1, h2, h3, h4⟩

example : StableHost (lit "xn--bcher-kva.example.com.") := Or.inl (by decide +kernel)
example : StableHost (lit "10.0.0.255") := Or.inr (Or.inl (by decide +kernel))
example : StableHost (lit "[2001:db8::8:800:200c:417a]") := Or.inr (Or.inr (by decide +kernel))
example : StableZoned (lit "[fe80::1%eth0]") :=
  ⟨by decide +kernel, by decide +kernel, lit "eth0", by decide +kernel, by decide +kernel,
    ⟨[.chr 101, .chr 116, .chr 104, .chr 48], by decide, by decide +kernel⟩⟩
-- the host of the finding is excluded: its zone id "25a" starts with "25"
example : isPrefix [50, 53] (lit "25a") = true ∧ lit "25a" ≠ [50, 53] := by decide
example : (Url.parseUrl (lit "http://[2001:DB8::8:800:200C:417A]:8080/")).toOption.map (·.host) =
    some (some (lit "[2001:db8::8:800:200c:417a]")) := dial_vectors.2.2.2.2.2.1

example : (send1 none "http://[2001:DB8::8:800:200C:417A]:8080/").toOption.map (fun r => (r.dialHost, r.dialPort)) =
    some (lit "2001:db8::8:800:200c:417a", 8080) := dial_vectors.2.2.2.2.2.2

/-- **Host header (direct).**  Exactly one `Host` line; it is computed from the same pool host `D`
(the re-normalised URL host without its brackets) and the same port as the connect target: the socket
goes to `dialName D`, `r.dialPort`; `Host` is `D` without trailing dots — for a name containing `:`
(IPv6) in one pair of brackets and cut at the zone delimiter `%` — followed by `:port` exactly when
the port differs from the scheme default. -/
theorem C15_host_header (idna : Str → Option Str) (extra : PoolKey.Ctx) (u : Url.Url) (r : Route)
    (s hst : Str) (hs : u.scheme = some s) (hsch : s = http ∨ s = https) (hh : u.host = some hst)
    (h : routeWith idna none extra u = .ok r) :
    ∃ h' D, Url.normalizeHost idna (some hst) (some s) = .ok (some h') ∧ D = unbracket h' ∧
      r.dialHost = dialName D ∧
      r.hostHeader = [hostText (rstripDot D) ++
        (if r.dialPort = schemeDefault s then [] else 58 :: Wire.toDec r.dialPort)] ∧
      (58 ∉ D → hostText (rstripDot D) = rstripDot D) ∧
      (58 ∈ D → hostText (rstripDot D) = 91 :: (rstripDot D).takeWhile (· != 37) ++ [93]) := by
  obtain ⟨h', tr, key, hn, -, rfl⟩ := route_origin hs hsch hh rfl h
  have hc := hostText_cases (rstripDot (unbracket h'))
  rw [mem58_rstripDot] at hc
  exact ⟨h', _, hn, rfl, rfl, congrArg ([·]) (autoHost_connCfg s _ _), hc⟩

/-- the same, read off the socket address: when the pool host does not start with `[` (the hosts
`parse_url` returns: a bracketed literal has lost its brackets, nothing else starts with one), the
`Host` header is literally the dialled name without trailing dots (in brackets and without zone id if
it contains `:`) and the dialled port (unless it is the scheme default) -/
theorem C15_host_header_names_dial_address (idna : Str → Option Str) (extra : PoolKey.Ctx) (u : Url.Url)
    (r : Route) (s hst : Str) (hs : u.scheme = some s) (hsch : s = http ∨ s = https) (hh : u.host = some hst)
    (hb : ∀ h', Url.normalizeHost idna (some hst) (some s) = .ok (some h') → (unbracket h').head? ≠ some 91)
    (h : routeWith idna none extra u = .ok r) :
    (58 ∉ r.dialHost → r.hostHeader = [rstripDot r.dialHost ++
        (if r.dialPort = schemeDefault s then [] else 58 :: Wire.toDec r.dialPort)]) ∧
    (58 ∈ r.dialHost → r.hostHeader = [91 :: (rstripDot r.dialHost).takeWhile (· != 37) ++ [93] ++
        (if r.dialPort = schemeDefault s then [] else 58 :: Wire.toDec r.dialPort)]) := by
  obtain ⟨h', D, hn, rfl, hdh, hhh, h1, h2⟩ := C15_host_header idna extra u r s hst hs hsch hh h
  have hD : r.dialHost = unbracket h' := by
    rw [hdh]
    unfold dialName
    rw [if_neg (hb h' hn)]
  rw [hD]
  refine ⟨fun h58 => ?_, fun h58 => ?_⟩
  · rw [hhh, h1 h58]
  · rw [hhh, h2 h58]

-- non-vacuity of `hb`: "[fe80::1%eth0]" re-normalises to itself, and "fe80::1%eth0" starts with no bracket
example : ∀ h', Url.normalizeHost (fun _ => none) (some (lit "[fe80::1%eth0]")) (some http) = .ok (some h') →
    (unbracket h').head? ≠ some 91 := by
  intro h' e
  rw [host_sni_vectors.1] at e
  simp only [Except.ok.injEq, Option.some.injEq] at e
  subst e
  exact host_sni_vectors.2.1

example : (send1 none "https://Example.COM.:443/").toOption.map (fun r => (r.dialHost, r.hostHeader)) =
    some (lit "example.com.", [lit "example.com"]) := host_sni_vectors.2.2.1
example : (send1 none "http://[FE80::1%25eth0]:8080/").toOption.map (fun r => (r.dialHost, r.dialPort, r.hostHeader)) =
    some (lit "fe80::1%eth0", 8080, [lit "[fe80::1]:8080"]) := host_sni_vectors.2.2.2.1

/-
Full statement (property text): the TLS server name is the host without brackets, zone id or trailing
dot.  FALSE when the zone id of an IPv6 literal contains a percent-escape (known findings
`sni:direct:…` / `sni:tunnel:zone-with-escape-cut-at-last-percent`, witness below): `rfind("%")` cuts
at the LAST `%`.

Proved: a plain-http request makes no handshake; when the pool host `D` has at most one `%`, an https
request makes exactly one, and its server name is: for an IP literal — `D` without trailing dots,
without brackets, cut at the `%` (so: no zone id) —, for any other name `D` without trailing dots.
-/
theorem C15_sni_partial (idna : Str → Option Str) (extra : PoolKey.Ctx) (u : Url.Url) (r : Route)
    (s hst : Str) (hs : u.scheme = some s) (hsch : s = http ∨ s = https) (hh : u.host = some hst)
    (h : routeWith idna none extra u = .ok r) :
    ∃ h' D, Url.normalizeHost idna (some hst) (some s) = .ok (some h') ∧ D = unbracket h' ∧
      (s = http → r.tls = []) ∧
      (s = https → D.count 37 ≤ 1 →
        ∃ name, r.tls = [name] ∧
          name = (if isIpAddress ((stripBr (rstripDot D)).takeWhile (· != 37))
                  then (stripBr (rstripDot D)).takeWhile (· != 37) else rstripDot D) ∧
          (isIpAddress ((stripBr (rstripDot D)).takeWhile (· != 37)) = true → 37 ∉ name)) := by
  obtain ⟨h', tr, key, hn, -, rfl⟩ := route_origin hs hsch hh rfl h
  refine ⟨h', _, hn, rfl, ?_, ?_⟩
  · rintro rfl; rfl
  · rintro rfl h1
    have hsn := sniNorm_single (Nat.le_trans ((rstripDot_sublist _).count_le 37) h1)
    refine ⟨_, rfl, hsn, fun hip hm => ?_⟩
    change 37 ∈ sniNorm (rstripDot (unbracket h')) at hm
    rw [hsn, if_pos hip] at hm
    simpa using mem_takeWhile_p hm

example : (send1 none "https://[FE80::1%25eth0]/").toOption.map (·.tls) = some [lit "fe80::1"] :=
  host_sni_vectors.2.2.2.2.2.1
example : (send1 none "https://Example.COM./").toOption.map (·.tls) = some [lit "example.com"] :=
  host_sni_vectors.2.2.2.2.2.2.1
example : (lit "fe80::1%eth0").count 37 ≤ 1 := by decide +kernel

/-- known findings `sni:direct:zone-with-escape-cut-at-last-percent` and `sni:tunnel:…`:
"https://[fe80::1%25a%2fb]/" — zone id "a%2Fb" — handshakes with server name "fe80::1%a" (directly and
inside a CONNECT tunnel) -/
theorem C15_sni_zone_escape_witness :
    (send1 none "https://[fe80::1%25a%2fb]/").toOption.map (·.tls) = some [lit "fe80::1%a"] ∧
    (send1 (some pxHttp) "https://[fe80::1%25a%2fb]/").toOption.map (·.tls) = some [lit "fe80::1%a"] :=
  host_sni_vectors.2.2.2.2.2.2.2

/-- **Neither userinfo nor fragment reaches the wire** (direct, tunnelled and forwarded routes, any
manager state, any carried headers): the whole observation — pool, address, TLS names, CONNECT, target,
`Host`, request bytes — and the manager's next state are unchanged when userinfo and fragment of the
URL are replaced by anything else.  (Before the repair of `target:forward:userinfo-kept` /
`…fragment-kept` this held only for routes that are not forwarded.) -/
theorem C15_target_no_fragment_no_userinfo (idna : Str → Option Str) (m : Mgr) (u : Url.Url)
    (carried : List (Str × Str)) (a f : Option Str) :
    route idna m { u with auth := a, fragment := f } carried = route idna m u carried :=
  rfl

theorem send1_congr (proxy : Option ProxyCfg) (a b : String)
    (h : (Url.parseUrl (lit a)).toOption.map ({ · with auth := none, fragment := none }) =
      (Url.parseUrl (lit b)).toOption.map ({ · with auth := none, fragment := none })) :
    send1 proxy a = send1 proxy b := by
  -- `send1` reads the parse only through the URL without userinfo and fragment
  have e (x : String) : send1 proxy x =
      match (Url.parseUrl (lit x)).toOption.map ({ · with auth := none, fragment := none }) with
      | none => .error .locationParseError
      | some u => (route (fun _ => none) (Mgr.init proxy []) u).2 := by
    unfold send1 routeUrl Url.parseUrl
    cases Url.parseUrlWith (fun _ => none) (lit x) <;> rfl
  rw [e, e, h]

example : send1 (some pxHttp) "http://uSr:pw@example.com/p?q#frag" = send1 (some pxHttp) "http://example.com/p?q" :=
  send1_congr _ _ _ (by simp only [lit_ofList]; decide +kernel)
example : send1 (some pxHttp) "https://uSr:pw@example.com/p?q#frag" = send1 (some pxHttp) "https://example.com/p?q" :=
  send1_congr _ _ _ (by simp only [lit_ofList]; decide +kernel)
example : ((send1 (some pxHttp) "http://uSr:pw@example.com/p?q#frag").toOption.map (·.target)) =
    some (lit "http://example.com/p?q") := target_vectors.1

/-- **The request target (direct and tunnelled)** is `_encode_target(request_uri)`: it starts with `/`;
and when path and query are in normal form (every parsed http/https URL: `C14_normal_form`) it *is*
`request_uri` = the path (`/` when empty or absent) followed by `?query` when there is a query. -/
theorem C15_target_origin_form (idna : Str → Option Str) (extra : PoolKey.Ctx) (proxy : Option ProxyCfg)
    (u : Url.Url) (r : Route) (hst : Str) (hh : u.host = some hst)
    (hmode : proxy = none ∨
      ∃ p, proxy = some p ∧ u.scheme = some https ∧ isForwarding (some p) (some https) = false)
    (h : routeWith idna proxy extra u = .ok r) :
    Url.encodeTarget u.requestUri = .ok r.target ∧ r.target.head? = some 47 ∧
    ((∀ x, u.path = some x → Url.NormalForm Gen.pathChars x) →
     (∀ x, u.query = some x → Url.NormalForm Gen.queryChars x) →
      r.target = u.requestUri ∧ u.requestUri = pathOrSlash u ++ qSuffix u.query) := by
  -- neither kind of request is forwarded
  have hnf : isForwarding proxy u.scheme = false := by
    rcases hmode with rfl | ⟨p, rfl, hs, hnf⟩
    · rfl
    · rw [hs, hnf]
  obtain ⟨_, _, target, key, -, -, -, het, hr⟩ := routeWith_spec h
  rw [hnf] at het hr
  obtain rfl := hr [] rfl
  obtain ⟨tr, htr⟩ := encodeTarget_head het
  obtain ⟨t', ht', -⟩ := encodeTarget_ok_eq het
  refine ⟨het, htr ▸ rfl, fun hp hq => ⟨?_, requestUri_eq u⟩⟩
  exact (Except.ok.inj ((encodeTarget_normal (ht' ▸ rfl) hp hq).symm.trans het)).symm

example : (send1 none "http://uSr:pw@example.com?q=1#frag").toOption.map (·.target) = some (lit "/?q=1") :=
  target_vectors.2.1
example : (send1 (some pxHttp) "https://uSr@example.com/a/./b/../c?x y#frag").toOption.map (·.target) =
    some (lit "/a/c?x%20y") := target_vectors.2.2.1

/-- **The request bytes (direct)**: request line with the origin-form target, the automatic `Host`,
`Accept-Encoding: identity`, the default `User-Agent`, blank line — nothing else (in particular no
byte of the userinfo or the fragment: the right-hand side does not mention them). -/
theorem C15_request_bytes_direct (idna : Str → Option Str) (extra : PoolKey.Ctx) (u : Url.Url) (r : Route)
    (s hst : Str) (hs : u.scheme = some s) (hsch : s = http ∨ s = https) (hh : u.host = some hst)
    (h : routeWith idna none extra u = .ok r) :
    ∃ hv, r.hostHeader = [hv] ∧
      r.request = Wire.headBytes [methodGet ++ [32] ++ r.target ++ [32] ++ Wire.httpVsn,
        Wire.hdrLine (lit "Host", hv), Wire.hdrLine aeHdr, Wire.hdrLine uaHdr] := by
  obtain ⟨h', tr, key, -, -, rfl⟩ := route_origin hs hsch hh rfl h
  exact ⟨_, rfl, rfl⟩

example : (send1 none "http://u:p@h/a?b#c").toOption.map (·.request) =
    some (lit "GET /a?b HTTP/1.1\r\nHost: h\r\nAccept-Encoding: identity\r\nUser-Agent: " ++ Gen.defaultUserAgent ++
      lit "\r\n\r\n") := target_vectors.2.2.2.1

/-- **The request target (forwarding)**: no CONNECT is sent, and the absolute-form target names scheme,
host, port (as written), path and query — `scheme://host[:port]path[?query]` — and nothing else: never
the userinfo, never the fragment (the right-hand side does not mention them).  This is the full statement
of the property text for forwarded requests; it was FALSE before the repair of
`target:forward:userinfo-kept` / `target:forward:fragment-kept` (`HTTPConnectionPool.urlopen` sent
`parse_url(url).url`; it now sends `parse_url(url)._replace(auth=None, fragment=None).url`). -/
theorem C15_target_forward (idna : Str → Option Str) (extra : PoolKey.Ctx) (p : ProxyCfg)
    (u : Url.Url) (r : Route) (s hst : Str) (hs : u.scheme = some s) (hsch : s = http ∨ s = https)
    (hh : u.host = some hst)
    (hf : isForwarding (some p) u.scheme = true)
    (h : routeWith idna (some p) extra u = .ok r) :
    r.connect = none ∧
    r.target = s ++ [58, 47, 47] ++ hst ++ (match u.port with | some n => 58 :: Url.natToDec n | none => []) ++
      (match u.path with | some x => x | none => []) ++ qSuffix u.query := by
  obtain ⟨_, _, n, key, -, -, -, -, rfl⟩ := route_forward hf h
  refine ⟨rfl, (absTarget_eq u).trans ?_⟩
  rw [hs, hh]
  rfl

example : isForwarding (some pxHttp) (some http) = true := by decide
example : (send1 (some pxHttp) "http://Example.com:8080/a?b").toOption.map (·.target) =
    some (lit "http://example.com:8080/a?b") := target_vectors.2.2.2.2.1

/-- the inputs of the repaired findings `target:forward:userinfo-kept`, `target:forward:fragment-kept`
(and both at once): the absolute-form target carries neither userinfo nor fragment — for an http URL
through an http proxy and for an https URL through a forwarding https proxy -/
theorem C15_target_forward_userinfo_fragment_ok :
    (send1 (some pxHttp) "http://uSr:pw@example.com/p").toOption.map (·.target) =
      some (lit "http://example.com/p") ∧
    (send1 (some pxHttp) "http://example.com/p#frag").toOption.map (·.target) =
      some (lit "http://example.com/p") ∧
    (send1 (some pxHttpsFwd) "https://uSr@example.com/p#frag").toOption.map (·.target) =
      some (lit "https://example.com/p") :=
  target_vectors.2.2.2.2.2

/-
Full statement (property text): URLs that differ only in scheme/host letter case or an explicit
default port reach the same pool and produce byte-identical requests.  FALSE through a forwarding
proxy for the explicit default port (known finding `equiv:forward:bytes:explicit-default-port`,
witness below).

Proved (direct and tunnelled routes, every manager state, every carried headers): writing the scheme
default explicitly changes nothing — same pool id and pool key, same next manager state, same
address, TLS names, CONNECT, target, `Host` and request bytes.  Scheme and host letter case never reach
`route`: `parse_url` has lower-cased both (`C14_scheme_lower`, `C14_host_lower`), and
`C15_scheme_case_parse` / `C15_host_case_parse` below show at the text level that the scheme's case —
and, for ASCII hosts (zone ids apart), the host's — does not influence the parse at all.
-/
theorem C15_case_default_port_same_pool_same_bytes (idna : Str → Option Str) (m : Mgr) (u : Url.Url)
    (carried : List (Str × Str)) (s : Str) (hs : u.scheme = some s) (hsch : s = http ∨ s = https)
    (hp : u.port = none)
    (hnf : isForwarding m.proxy u.scheme = false) :
    route idna m { u with port := some (schemeDefault s) } carried = route idna m u carried := by
  refine route_congr idna m { u with port := some (schemeDefault s) } u carried rfl rfl ?_ rfl hnf
  show PoolKey.portOr (portVal (some (schemeDefault s))) (schemeOrO u.scheme) =
    PoolKey.portOr (portVal u.port) (schemeOrO u.scheme)
  rw [hp, hs]
  rcases hsch with rfl | rfl <;> decide

example : (send1 none "https://example.com:443/p") = (send1 none "https://EXAMPLE.com/p") := equiv_vectors.1
example : (send1 (some pxHttp) "https://example.com:443/p").toOption.map (·.request) =
    (send1 (some pxHttp) "HTTPS://example.COM/p").toOption.map (·.request) := equiv_vectors.2.1
example : ((send1 none "https://example.com:443/p").toOption.map (·.pool)).isSome = true := equiv_vectors.2.2.1

theorem routeUrl_congr {idna : Str → Option Str} {a b : Str}
    (h : Url.parseUrlWith idna a = Url.parseUrlWith idna b) (m : Mgr) (carried : List (Str × Str)) :
    routeUrl idna m a carried = routeUrl idna m b carried := by
  unfold routeUrl
  rw [h]

/-- **The scheme's letter case does not influence the parse** (text level): two URL texts that differ
only in the case of a well-formed scheme (`SchemeText`: a letter, then letters, digits, `+`, `-`)
parse to the same `Url` (or fail alike), hence are routed alike. -/
theorem C15_scheme_case_parse (idna : Str → Option Str) (sc₁ sc₂ rest : Str) (h1 : SchemeText sc₁)
    (hl : lower sc₁ = lower sc₂) (m : Mgr) (carried : List (Str × Str)) :
    Url.parseUrlWith idna (sc₁ ++ 58 :: rest) = Url.parseUrlWith idna (sc₂ ++ 58 :: rest) ∧
    routeUrl idna m (sc₁ ++ 58 :: rest) carried = routeUrl idna m (sc₂ ++ 58 :: rest) carried := by
  have := parseUrlWith_scheme_case idna sc₁ sc₂ rest h1 hl
  exact ⟨this, routeUrl_congr this m carried⟩

example : SchemeText (lit "hTTpS") := ⟨104, lit "TTpS", by decide +kernel, by decide, by decide +kernel⟩
example : lower (lit "hTTpS") = lower (lit "https") := by decide +kernel

/-
Full statement: URL texts that differ only in the host's letter case parse (and are routed) alike.
Proved for http/https URL texts `scheme://[userinfo@]HOST rest` whose HOST consists of letters, digits,
`-`, `.`, `_`, `~` (`hostPlainC`) and is no dotted quad, `rest` being empty or starting with `:`, `/`,
`?`, `#` or a backslash and containing no `@` before the authority ends.  IPv6 literals, dotted quads and
hosts with percent-escapes are covered by `C15_host_case_parse` below; IDN hosts (`idna.encode` is an
oracle) are not.
-/
theorem C15_host_case_parse_partial (idna : Str → Option Str) (sc P au H₁ H₂ rest : Str) (hsc : SchemeText sc)
    (hs : lower sc = http ∨ lower sc = https) (hP : UiPrefix P au) (hPa : ∀ c ∈ P, Url.authChar c = true)
    (hH₁ : ∀ c ∈ H₁, hostPlainC c = true) (hH₂ : ∀ c ∈ H₂, hostPlainC c = true)
    (hl : lower H₁ = lower H₂) (h4₁ : Url.ipv4Match H₁ = false) (h4₂ : Url.ipv4Match H₂ = false)
    (hrest : rest = [] ∨ ∃ c t, rest = c :: t ∧ (c = 58 ∨ Url.authChar c = false))
    (h64 : 64 ∉ rest.takeWhile Url.authChar) (m : Mgr) (carried : List (Str × Str)) :
    Url.parseUrlWith idna (urlText sc P H₁ rest) = Url.parseUrlWith idna (urlText sc P H₂ rest) ∧
    routeUrl idna m (urlText sc P H₁ rest) carried = routeUrl idna m (urlText sc P H₂ rest) carried := by
  have := parseUrlWith_host_case_gen idna sc P au H₁ H₂ rest hsc hs hP hPa (.inl (regText_plain hH₁).1)
    (.inl (regText_plain hH₂).1) (regText_plain hH₁).2.1 (regText_plain hH₂).2.1 hl
    (fun h => by simp [(regText_plain hH₁).2.2] at h) hrest h64
  exact ⟨this, routeUrl_congr this m carried⟩

-- non-vacuity: "http://uSr@Example.COM:8080/a?b" vs "http://uSr@example.com:8080/a?b"
example : urlText (lit "http") (lit "uSr@") (lit "Example.COM") (lit ":8080/a?b") =
    lit "http://uSr@Example.COM:8080/a?b" := by decide +kernel
example : UiPrefix (lit "uSr@") (lit "uSr") := UiPrefix.some (lit "uSr")
example : (∀ c ∈ lit "uSr@", Url.authChar c = true) ∧ (∀ c ∈ lit "Example.COM", hostPlainC c = true) ∧
    (∀ c ∈ lit "example.com", hostPlainC c = true) ∧ lower (lit "Example.COM") = lower (lit "example.com") ∧
    Url.ipv4Match (lit "Example.COM") = false ∧ Url.ipv4Match (lit "example.com") = false ∧
    64 ∉ (lit ":8080/a?b").takeWhile Url.authChar := by decide +kernel
example : (Url.parseUrl (lit "http://uSr@Example.COM:8080/a?b")).toOption.map (·.host) =
    some (some (lit "example.com")) := by decide +kernel

/-- **Same pool, sequentially.**  For every manager state reachable from a fresh manager (`Mgr.Sync`,
preserved by `route`): repeating a served request — or sending the same URL with the scheme default
written out (direct and tunnelled routes) — is served by the *same pool* (same id, same key), with
the identical observation, and leaves the manager as it is. -/
theorem C15_same_pool_again (idna : Str → Option Str) (m m1 : Mgr) (u : Url.Url) (c : List (Str × Str))
    (r : Route) (s : Str) (hw : m.Sync) (h : route idna m u c = (m1, .ok r))
    (hs : u.scheme = some s) (hsch : s = http ∨ s = https) (hp : u.port = none)
    (hnf : isForwarding m.proxy u.scheme = false) :
    route idna m1 u c = (m1, .ok r) ∧
    route idna m1 { u with port := some (schemeDefault s) } c = (m1, .ok r) ∧ m1.Sync := by
  obtain ⟨h1, h2⟩ := route_repeat hw h
  refine ⟨h1, ?_, h2⟩
  have hpx : m1.proxy = m.proxy := by
    have := (route_fst idna m u c).2.1
    rw [h] at this
    exact this
  rw [C15_case_default_port_same_pool_same_bytes idna m1 u c s hs hsch hp (hpx ▸ hnf)]
  exact h1

/-- the invariant is that of every reachable state: it holds initially and `route` keeps it -/
theorem C15_sync_reachable (idna : Str → Option Str) (proxy : Option ProxyCfg) (extra : PoolKey.Ctx) :
    (Mgr.init proxy extra).Sync ∧
    ∀ m u c, m.Sync → (route idna m u c).1.Sync :=
  ⟨rfl, fun m u c => (route_fst idna m u c).1⟩

example : (hop2 none "https://example.com/p" "https://EXAMPLE.com:443/p").toOption.map (·.pool) = some 0 ∧
    (hop2 none "https://example.com/p" "http://example.com/p").toOption.map (·.pool) = some 1 :=
  equiv_vectors.2.2.2.1

/-- Not a finding of this property, recorded because it bounds the harness's domain (notes/C15.md): an
https origin at the address of an https proxy gets the pool key of the proxy's own pool — the
forwarded http request and the tunnelled https request are served by ONE pool (id 0), in either order.
The harness therefore never sends such a URL through such a proxy. -/
theorem C15_origin_is_proxy_same_pool_witness :
    mkProxy (fun _ => none) (lit "https://[::2]:8443") false = .ok pxV6 ∧
    (hop2 (some pxV6) "http://example.com/" "https://[::2]:8443/x").toOption.map
      (fun r => (r.pool, r.connect.isSome)) = some (0, true) ∧
    (hop2 (some pxV6) "https://[::2]:8443/x" "http://example.com/").toOption.map
      (fun r => (r.pool, r.connect.isSome)) = some (0, false) :=
  equiv_vectors.2.2.2.2.1

/-- known finding `equiv:forward:bytes:explicit-default-port`: through a forwarding proxy
"http://example.com:80/p" and "http://example.com/p" differ in the target and in the `Host` header -/
theorem C15_forward_explicit_default_port_witness :
    (send1 (some pxHttp) "http://example.com:80/p").toOption.map (fun r => (r.target, r.hostHeader)) =
      some (lit "http://example.com:80/p", [lit "example.com:80"]) ∧
    (send1 (some pxHttp) "http://example.com/p").toOption.map (fun r => (r.target, r.hostHeader)) =
      some (lit "http://example.com/p", [lit "example.com"]) :=
  equiv_vectors.2.2.2.2.2

/-- **Tunnel: address, CONNECT, SNI.**  The socket goes to the proxy; the CONNECT request names the
(re-normalised, lower-cased) URL host — an IPv6 literal in its brackets — and the defaulted port; the
last TLS handshake uses the tunnel host without trailing dots as server name (normalised as in
`C15_sni_partial`), preceded by one handshake with the proxy iff the proxy is https. -/
theorem C15_tunnel_connect (idna : Str → Option Str) (extra : PoolKey.Ctx) (p : ProxyCfg) (ph : Str)
    (u : Url.Url) (r : Route) (hst : Str) (hs : u.scheme = some https) (hh : u.host = some hst)
    (hph : p.host = some ph)
    (hnf : isForwarding (some p) (some https) = false)
    (h : routeWith idna (some p) extra u = .ok r) :
    ∃ h', Url.normalizeHost idna (some hst) (some https) = .ok (some h') ∧
      r.dialHost = dialName ph ∧ r.dialPort = p.port ∧
      r.connect = some (connectBytes (lower h') (effPort u)) ∧
      r.tls = (if p.scheme = https then [sniNorm (rstripDot ph)] else []) ++ [sniNorm (rstripDot (lower h'))] := by
  obtain ⟨h', tr, key, hn, -, rfl⟩ := route_origin hs (.inr rfl) hh hnf h
  have ha (a b c) : connAddr (some p) ⟨true, a, b, c⟩ = (ph, p.port) := by simp [connAddr, proxyAddr, hph]
  refine ⟨h', hn, ?_⟩
  simp [routeSpec, ha, proxyTls]

example : (send1 (some pxHttp) "https://Example.COM:8443/").toOption.map
    (fun r => (r.dialHost, r.dialPort, r.tls, r.connect)) =
    some (lit "proxy.example", 3128, [lit "example.com"],
      some (lit "CONNECT example.com:8443 HTTP/1.1\r\nHost: example.com:8443\r\n\r\n")) := tunnel_vectors.1

/-- **Host header (tunnel).**  Inside the tunnel there is exactly one `Host` line; it is computed from
`T = lower D`, the lower-cased pool host `D = unbracket h'` of the direct theorems (the tunnel host
`lower h'` the CONNECT request names, with its enclosing brackets removed), and the defaulted port the
CONNECT request names: `T` — for a name containing `:` (IPv6) in ONE pair of brackets and cut at the zone
delimiter `%` — followed by `:port` exactly when the port is not 443.  This is the full statement; it was
FALSE for IPv6 literals before the repair of `host-header:tunnel:ipv6-double-bracket` /
`host-header:tunnel:ipv6-zone-unbalanced-bracket` (`http.client` of CPython 3.12.1 computes `Host` from
`_tunnel_host` and brackets every host containing `:` — `HTTPConnection.putrequest` now hides the
brackets urllib3 itself put there for the CONNECT line). -/
theorem C15_host_header_tunnel (idna : Str → Option Str) (extra : PoolKey.Ctx) (p : ProxyCfg)
    (u : Url.Url) (r : Route) (hst : Str) (hs : u.scheme = some https) (hh : u.host = some hst)
    (hnf : isForwarding (some p) (some https) = false)
    (h : routeWith idna (some p) extra u = .ok r) :
    ∃ h' T, Url.normalizeHost idna (some hst) (some https) = .ok (some h') ∧ T = lower (unbracket h') ∧
      r.connect = some (connectBytes (lower h') (effPort u)) ∧
      r.hostHeader = [hostText T ++ (if effPort u = 443 then [] else 58 :: Wire.toDec (effPort u))] ∧
      (58 ∉ T → hostText T = T) ∧
      (58 ∈ T → hostText T = 91 :: T.takeWhile (· != 37) ++ [93]) := by
  obtain ⟨h', tr, key, hn, -, rfl⟩ := route_origin hs (.inr rfl) hh hnf h
  refine ⟨h', _, hn, rfl, rfl, ?_, hostText_cases _⟩
  rw [← unbracket_lower]
  rfl

example : (send1 (some pxHttp) "https://Example.COM./p").toOption.map (·.hostHeader) = some [lit "example.com."] :=
  tunnel_vectors.2.1

/-- the inputs of the repaired findings `host-header:tunnel:ipv6-double-bracket` and
`host-header:tunnel:ipv6-zone-unbalanced-bracket`: one pair of brackets, no zone id — while the CONNECT
request keeps naming the bracketed literal -/
theorem C15_tunnel_ipv6_host_ok :
    (send1 (some pxHttp) "https://[::1]:8443/").toOption.map (·.hostHeader) = some [lit "[::1]:8443"] ∧
    (send1 (some pxHttp) "https://[fe80::1%25eth0]/").toOption.map (·.hostHeader) = some [lit "[fe80::1]"] ∧
    (send1 (some pxHttp) "https://[::1]:8443/").toOption.map (·.connect) =
      some (some (lit "CONNECT [::1]:8443 HTTP/1.1\r\nHost: [::1]:8443\r\n\r\n")) :=
  tunnel_vectors.2.2

/-- **Forwarding: the address.**  The socket goes to the proxy: to the proxy host as `ProxyManager`
parsed it when the proxy or the URL is https (the carrying connection is built from `proxy.host`,
`proxy.port` directly); for an http URL through an http proxy the pool *is* the proxy's pool, so the
proxy host is re-normalised like any pool host (`ph'`, brackets removed). -/
theorem C15_forward_connect (idna : Str → Option Str) (extra : PoolKey.Ctx) (p : ProxyCfg) (ph : Str)
    (u : Url.Url) (r : Route) (hsc : u.scheme = some http ∨ u.scheme = some https)
    (hph : p.host = some ph) (hps : p.scheme = http ∨ p.scheme = https) (hpp : p.port ≠ 0)
    (hf : isForwarding (some p) u.scheme = true)
    (h : routeWith idna (some p) extra u = .ok r) :
    r.connect = none ∧ r.dialPort = p.port ∧
    ((p.scheme = https ∨ u.scheme = some https) → r.dialHost = dialName ph) ∧
    (p.scheme = http → u.scheme = some http →
      ∃ ph', Url.normalizeHost idna (some ph) (some http) = .ok (some ph') ∧
        r.dialHost = dialName (unbracket ph')) := by
  obtain ⟨hst, h', n, key, -, -, hh', hn, rfl⟩ := route_forward hf h
  have ha := connAddr_forward h' hsc hph hps hpp
  have hd := congrArg (fun a : Str × Nat => dialName a.1) ha
  refine ⟨rfl, congrArg (·.2) ha, fun hc => hd.trans (by rw [if_pos hc]), fun e1 e2 => ⟨h', ?_, hd.trans ?_⟩⟩
  · rw [poolScheme, poolTarget_http p e2, e1] at hn
    rw [poolTarget_http p e2, hph] at hh'
    cases hh'
    exact hn
  · rw [e1, e2]
    rfl

example : (send1 (some pxHttp) "http://Example.com:8080/a").toOption.map (fun r => (r.dialHost, r.dialPort)) =
    some (lit "proxy.example", 3128) := forward_vectors.1
example : (send1 (some pxHttpsFwd) "https://Example.com:8080/a").toOption.map
    (fun r => (r.dialHost, r.dialPort, r.tls)) = some (lit "proxy.example", 443, [lit "proxy.example"]) :=
  forward_vectors.2.1

/-- **Host header (forwarding, fresh request).**  `_set_proxy_headers` supplies `Host: <netloc>`, where
`netloc` is `host[:port]` of the URL with the port as written (an explicit default port stays, port 0
goes: `Url.netloc`); this one caller header replaces `http.client`'s automatic one, and it is what
`kw["headers"]` carries on to a redirect follow-up. -/
theorem C15_host_header_forward (idna : Str → Option Str) (extra : PoolKey.Ctx) (p : ProxyCfg)
    (u : Url.Url) (r : Route) (hsc : u.scheme = some http ∨ u.scheme = some https)
    (hf : isForwarding (some p) u.scheme = true)
    (h : routeWith idna (some p) extra u = .ok r) :
    ∃ n, u.netloc = some n ∧ n ≠ [] ∧
      (n ≠ Gen.skipHeader → r.hostHeader = [n]) ∧
      r.kwHeaders = [acceptHdr, (lit "Host", n)] := by
  obtain ⟨_, _, n, key, hn, hne, -, -, rfl⟩ := route_forward hf h
  exact ⟨n, hn, hne, fun hsk => if_pos (bne_iff_ne.mpr hsk), rfl⟩

example : (send1 (some pxHttp) "http://Example.com:8080/a").toOption.map (·.hostHeader) =
    some [lit "example.com:8080"] := forward_vectors.2.2.1

/-- The general form of `host-header:forward:redirect-stale-host` (a theorem about the defect, not a
claim of the property): whatever URL the follow-up of a redirect goes to, when it is forwarded with
the headers the first hop left in `kw["headers"]` (`Accept`, `Host: n₀`), its `Host` header is the
FIRST hop's `n₀` — while the target is the new URL. -/
theorem C15_redirect_stale_host_forward (idna : Str → Option Str) (extra : PoolKey.Ctx) (p : ProxyCfg)
    (u : Url.Url) (r : Route) (n₀ : Str) (hsc : u.scheme = some http ∨ u.scheme = some https)
    (hf : isForwarding (some p) u.scheme = true) (hsk : n₀ ≠ Gen.skipHeader)
    (h : routeWith idna (some p) extra u [acceptHdr, (lit "Host", n₀)] = .ok r) :
    r.target = absTarget u ∧ r.hostHeader = [n₀] := by
  obtain ⟨_, _, target, key, -, -, -, ht, hr⟩ := routeWith_spec h
  simp only [hf, if_true] at ht hr
  obtain ⟨⟨n, hn, hne⟩, rfl⟩ := ht
  obtain rfl := hr n₀ (proxyHeaders_carried hn hne)
  exact ⟨rfl, if_pos (bne_iff_ne.mpr hsk)⟩

example : (routeWith (fun _ => none) (some pxHttp) []
      ⟨some http, none, some (lit "b.example"), none, some (lit "/next"), none, none⟩
      [acceptHdr, (lit "Host", lit "a.example")]).toOption.map (fun r => (r.target, r.hostHeader)) =
    some (lit "http://b.example/next", [lit "a.example"]) := forward_vectors.2.2.2.1

/-- known findings `host-header:forward:redirect-stale-host` and
`host-header:tunnel:redirect-stale-host`: the follow-up request of a redirect carries the first hop's
computed `Host` (and `Accept`) as caller headers, which override the new URL's -/
theorem C15_redirect_stale_host_witness :
    (hop2 (some pxHttp) "http://a.example/" "http://b.example/next").toOption.map
      (fun r => (r.target, r.hostHeader)) = some (lit "http://b.example/next", [lit "a.example"]) ∧
    (hop2 (some pxHttp) "http://example.com/" "https://x1.y2/next").toOption.map
      (fun r => (r.connect, r.target, r.hostHeader)) =
      some (some (lit "CONNECT x1.y2:443 HTTP/1.1\r\nHost: x1.y2:443\r\n\r\n"), lit "/next", [lit "example.com"]) :=
  forward_vectors.2.2.2.2

/-- **The pool's second `_normalize_host` leaves the host of every parsed http / https URL alone**,
except for the `zone25` shape of the known finding `zone-25-prefix-stripped-twice` (a bracketed literal
whose zone id starts with `25` and goes on, `C15_zone25_witness`): `parse_url` only returns hosts of the
`StableHost` / `StableZoned` shapes (`C14_parsed_host_shape`; `U3.Lemmas.UrlHost`, `U3.Lemmas.UrlRoute`).
Contract `IdnaLdh` on the uninterpreted `idna.encode`: answers consist of lower-case letters, digits,
`-`, `.`. -/
theorem C15_host_stable_of_parse (idna : Str → Option Str) (hc : Url.IdnaLdh idna) (url : Str) (u : Url.Url)
    (s hst : Str) (hparse : Url.parseUrlWith idna url = .ok u) (hs : u.scheme = some s)
    (hsch : s = http ∨ s = https) (hh : u.host = some hst) (h25 : Url.zone25 hst = false) :
    (StableHost hst ∨ StableZoned hst) ∧ Url.normalizeHost idna (some hst) (some s) = .ok (some hst) :=
  ⟨stable_of_parse hc hparse hs hsch hh h25,
   C15_host_stable_partial idna hst s hsch (stable_of_parse hc hparse hs hsch hh h25)⟩

/-- **Connect target, for every URL text a `PoolManager` accepts** (direct route): when the text parses
to an http / https URL with a host, the port is not an explicit 0 (finding `port-zero-treated-as-absent`)
and the host has not the `zone25` shape (finding `zone-25-prefix-stripped-twice`), the socket is opened
to the parsed host text without its brackets and to the URL's port or the scheme default. -/
theorem C15_connect_target_of_parse (idna : Str → Option Str) (hc : Url.IdnaLdh idna) (extra : PoolKey.Ctx)
    (url : Str) (u : Url.Url) (r : Route) (s hst : Str)
    (hparse : Url.parseUrlWith idna url = .ok u) (hs : u.scheme = some s) (hsch : s = http ∨ s = https)
    (hh : u.host = some hst) (hp0 : u.port ≠ some 0) (h25 : Url.zone25 hst = false)
    (h : routeWith idna none extra u = .ok r) :
    r.dialPort = u.port.getD (schemeDefault s) ∧ r.dialHost = dialName (unbracket hst) ∧
    (hst.head? ≠ some 91 → r.dialHost = hst) ∧
    (∀ a, hst = 91 :: a ++ [93] → a.head? ≠ some 91 → r.dialHost = a) :=
  C15_connect_target_stable idna extra u r s hst hs hsch hh hp0 (stable_of_parse hc hparse hs hsch hh h25) h

example : Url.IdnaLdh (fun _ => none) := by intro l r h; simp at h
example : (Url.parseUrl (lit "http://[FE80::1%25eth0]:8080/")).toOption.map (fun u => (u.scheme, u.host, u.port)) =
    some (some http, some (lit "[fe80::1%eth0]"), some 8080) := by decide +kernel
example : Url.zone25 (lit "[fe80::1%eth0]") = false ∧ Url.zone25 (lit "[::1%25a]") = true ∧
    Url.zone25 (lit "example.com") = false := by decide +kernel
example : (send1 none "http://[FE80::1%25eth0]:8080/").toOption.map (fun r => (r.dialHost, r.dialPort)) =
    some (lit "fe80::1%eth0", 8080) := host_sni_vectors.2.2.2.2.1

/--
**The host's letter case does not influence the parse nor the routing — every kind of ASCII host text**
(extends `C15_host_case_parse_partial`, which covers plain reg-names only).  For http/https URL texts
`scheme://[userinfo@]HOST rest` whose HOST is a reg-name in the sense of `_HOST_PORT_RE` — any
characters but the delimiters, with or without `%HH` escapes (`Url.regText`; dotted quads included) — or
a bracketed IPv6 literal (`_IPV6_ADDRZ_RE`): two ASCII spellings of HOST that differ in letter case only
parse to the same `Url` (or fail alike) and are routed alike from every manager state.  A zone id is
case-sensitive on purpose, so for a literal with a zone id the part from `%` on must be spelled
identically (`hz`).  Rests on the case-blindness of the address matchers (`C14_matchers_case_blind`).
Not covered: IDN hosts (`idna.encode` is an oracle; non-ASCII case mapping is outside the model). -/
theorem C15_host_case_parse (idna : Str → Option Str) (sc P au H₁ H₂ rest : Str) (hsc : SchemeText sc)
    (hs : lower sc = http ∨ lower sc = https) (hP : UiPrefix P au) (hPa : ∀ c ∈ P, Url.authChar c = true)
    (hk₁ : Url.regText H₁ = true ∨ Url.ipv6AddrzMatch H₁ = true)
    (hk₂ : Url.regText H₂ = true ∨ Url.ipv6AddrzMatch H₂ = true)
    (ha₁ : H₁.all (· < 128) = true) (ha₂ : H₂.all (· < 128) = true) (hl : lower H₁ = lower H₂)
    (hz : Url.ipv6AddrzMatch H₁ = true → H₁.dropWhile (· != 37) = H₂.dropWhile (· != 37))
    (hrest : rest = [] ∨ ∃ c t, rest = c :: t ∧ (c = 58 ∨ Url.authChar c = false))
    (h64 : 64 ∉ rest.takeWhile Url.authChar) (m : Mgr) (carried : List (Str × Str)) :
    Url.parseUrlWith idna (urlText sc P H₁ rest) = Url.parseUrlWith idna (urlText sc P H₂ rest) ∧
    routeUrl idna m (urlText sc P H₁ rest) carried = routeUrl idna m (urlText sc P H₂ rest) carried := by
  have := parseUrlWith_host_case_gen idna sc P au H₁ H₂ rest hsc hs hP hPa hk₁ hk₂ ha₁ ha₂ hl hz hrest h64
  exact ⟨this, routeUrl_congr this m carried⟩

-- non-vacuity: "http://[FE80::A%25eth0]:8080/x" vs "http://[fe80::a%25eth0]:8080/x" (literal with the same
-- zone id), and "https://A%2Fb.COM/" vs "https://a%2fB.com/" (reg-name with an escape)
example : urlText (lit "http") [] (lit "[FE80::A%25eth0]") (lit ":8080/x") = lit "http://[FE80::A%25eth0]:8080/x" := by
  decide +kernel
example : Url.ipv6AddrzMatch (lit "[FE80::A%25eth0]") = true ∧ Url.ipv6AddrzMatch (lit "[fe80::a%25eth0]") = true ∧
    (lit "[FE80::A%25eth0]").all (· < 128) = true ∧ (lit "[fe80::a%25eth0]").all (· < 128) = true ∧
    lower (lit "[FE80::A%25eth0]") = lower (lit "[fe80::a%25eth0]") ∧
    (lit "[FE80::A%25eth0]").dropWhile (· != 37) = (lit "[fe80::a%25eth0]").dropWhile (· != 37) ∧
    64 ∉ (lit ":8080/x").takeWhile Url.authChar := by decide +kernel
example : (Url.parseUrl (lit "http://[FE80::A%25eth0]:8080/x")).toOption.map (·.host) =
    some (some (lit "[fe80::a%eth0]")) := by decide +kernel
example : Url.regText (lit "A%2Fb.COM") = true ∧ Url.regText (lit "a%2fB.com") = true ∧
    lower (lit "A%2Fb.COM") = lower (lit "a%2fB.com") ∧ Url.ipv6AddrzMatch (lit "A%2Fb.COM") = false := by
  decide +kernel
example : (Url.parseUrl (lit "https://A%2Fb.COM/")).toOption.map (·.host) = some (some (lit "a%2fb.com")) := by
  decide +kernel

end U3.Props
