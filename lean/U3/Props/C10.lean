import U3.Lemmas.Wire
/-!
# C10 — no input can inject into or split the HTTP request on the wire

`serialize` is the transcription of `HTTPConnection.request` (`U3.Model.Wire`), `strictParse` the
independent permissive request-head parser.  Statements that do not hold of the code as it stands
are kept as comments next to the `…_partial` theorem together with a proved negation witness.
-/
namespace U3.Props
open U3 U3.Wire

def c10cfg : Cfg := ⟨lit "h", 80, 80, 4, .ok [], .error .unicodeError⟩

/-- The test vectors of `serialize` quoted below, run in one evaluation: every evaluation of `request`
decodes the string constants of the model afresh, which is nearly all of its work. -/
theorem c10_serialize_vectors :
    serialize c10cfg (lit "GET") (lit "/a b") [] .none false = .error .invalidURL ∧
    serialize c10cfg (lit "GET") (lit "/") [(lit "X", [97, 13, 10, 98])] .none false = .error .valueError ∧
    (serialize c10cfg (lit "POST") (lit "/") [] (.iter [.str [97], .str [0xDC80]] false) false
        = .error .unicodeEncodeError ∧
      wireWritten c10cfg (lit "POST") (lit "/") [] (.iter [.str [97], .str [0xDC80]] false) false ≠ []) ∧
    serialize c10cfg (lit "P T") (lit "/") [] (.iter [.str [0xE9]] true) false = .error .valueError ∧
    (serialize c10cfg (lit "GET") (lit "/") [(lit "X", [97, 13, 10, 32, 98])] .none false).toOption.isSome = true ∧
    (serialize c10cfg [] (lit "/") [] .none false = .error .valueError ∧
      wireWritten c10cfg [] (lit "/") [] .none false = []) ∧
    (prepare c10cfg (lit "GET") (lit "/") [] .none false).toOption.isSome = true ∧
    (serialize c10cfg (lit "GET") (lit "/") [(lit "HOST", lit "x"), (lit "User-Agent", Gen.skipHeader)] .none false).toOption
      = some (lit "GET / HTTP/1.1\r\nAccept-Encoding: identity\r\nHOST: x\r\n\r\n") := by
  simp only [lit_ofList]
  decide +kernel

/-
Full statement (Appendix E):  `serialize … = .error e → wireWritten … = []`.
It does NOT hold: `str` pieces of a lazily consumed body (iterable, text file) are encoded while the
body is being sent, after the head went out (`C10_fail_after_write_witness`); `C10_fail_before_write`
below states exactly which failures those are.  First the unconditional half: every
failure of the head phase — method / target / host / header validation, `SKIP_HEADER` misuse,
encoding failures, `body_to_chunks` (str body) — leaves nothing written.
-/
theorem C10_fail_before_write_partial (cfg : Cfg) (meth url : Str) (hs : List (Str × Str)) (body : Body)
    (ch : Bool) (e : Exc) (h : prepare cfg meth url hs body ch = .error e) :
    serialize cfg meth url hs body ch = .error e ∧ wireWritten cfg meth url hs body ch = [] := by
  simp [serialize, wireWritten, request_error h]

example : serialize c10cfg (lit "GET") (lit "/a b") [] .none false = .error .invalidURL := c10_serialize_vectors.1
example : serialize c10cfg (lit "GET") (lit "/") [(lit "X", [97, 13, 10, 98])] .none false = .error .valueError :=
  c10_serialize_vectors.2.1

/-- negation witness for the full statement: the call fails after bytes were written -/
theorem C10_fail_after_write_witness :
    serialize c10cfg (lit "POST") (lit "/") [] (.iter [.str [97], .str [0xDC80]] false) false
      = .error .unicodeEncodeError ∧
    wireWritten c10cfg (lit "POST") (lit "/") [] (.iter [.str [97], .str [0xDC80]] false) false ≠ [] :=
  c10_serialize_vectors.2.2.1

/-- The precise form of "fails before a single byte is written": when the call fails, either the head
phase failed and nothing was written, or the complete head was written and the failure is the
`UnicodeEncodeError` of a `str` piece of a lazily consumed body — an iterable, or a text file — i.e. a
body whose bytes (`payload`) do not exist.  (`C10_fail_after_write_witness` shows the second case is
real.) -/
theorem C10_fail_before_write (cfg : Cfg) (meth url : Str) (hs : List (Str × Str)) (body : Body) (ch : Bool)
    (e : Exc) (hbs : 0 < cfg.blocksize) (h : serialize cfg meth url hs body ch = .error e) :
    (prepare cfg meth url hs body ch = .error e ∧ wireWritten cfg meth url hs body ch = []) ∨
    (∃ p, prepare cfg meth url hs body ch = .ok p ∧ (bodyPhase p).err = some e ∧
      wireWritten cfg meth url hs body ch = headBytes p.lines ++ (bodyPhase p).written ∧
      e = .unicodeEncodeError ∧ payload body = none ∧ LazyText body) := by
  unfold serialize wireWritten at *
  cases hp : prepare cfg meth url hs body ch with
  | error e' => simpa [request_error hp] using h
  | ok p =>
    rw [request_ok hp] at h ⊢
    cases herr : (bodyPhase p).err with
    | none => simp [herr] at h
    | some e' =>
      obtain rfl : e' = e := by simpa [herr] using h
      -- only the body loop can fail now, and only on a `str` chunk that has no bytes
      obtain ⟨cs, hcs, hse⟩ := bodyPhase_err herr
      obtain ⟨he, hnone⟩ := sendChunks_err hse
      obtain ⟨_, cc, _, hp'⟩ := prepare_inv hp
      have hb := bodyToChunks_spec hbs hp'.cc_ok
      have hpay := hb.pay
      simp only [← hp'.chunks, hcs, hnone] at hpay
      exact .inr ⟨_, rfl, herr, rfl, he, hpay.symm, hb.lazy hpay.symm⟩

/-- … hence for every body whose bytes exist (all `str` pieces encodable) a failing call writes nothing -/
theorem C10_fail_before_write_encodable (cfg : Cfg) (meth url : Str) (hs : List (Str × Str)) (body : Body)
    (ch : Bool) (e : Exc) (hbs : 0 < cfg.blocksize) (hb : (payload body).isSome = true)
    (h : serialize cfg meth url hs body ch = .error e) : wireWritten cfg meth url hs body ch = [] := by
  rcases C10_fail_before_write cfg meth url hs body ch e hbs h with ⟨_, hw⟩ | ⟨p, _, _, _, _, hpn, _⟩
  · exact hw
  · rw [hpn] at hb
    cases hb

example : (payload (.iter [.str [0xE9], .bytes [1, 2]] true)).isSome = true := by decide
example : serialize c10cfg (lit "P T") (lit "/") [] (.iter [.str [0xE9]] true) false = .error .valueError :=
  c10_serialize_vectors.2.2.2.1

/-- For every accepted input the permissive parser reads the bytes written back as exactly one request
head with the requested method, the requested target (`url or '/'`) and the buffered header list
(values up to optional white space at the edges, folds kept verbatim); what follows the blank line is
exactly what the body phase wrote.  (Full statement: `putrequest` rejects the empty method, so no
hypothesis on the method is needed — `C10_empty_method_rejected`.) -/
theorem C10_one_request (cfg : Cfg) (meth url : Str) (hs : List (Str × Str)) (body : Body) (ch : Bool)
    (w : Bytes) (h : serialize cfg meth url hs body ch = .ok w) :
    ∃ p, prepare cfg meth url hs body ch = .ok p ∧
      strictParse w = some ⟨meth, urlOrSlash url, p.hdrs.map (fun h => (h.1, trimOWS h.2)), (bodyPhase p).written⟩ := by
  obtain ⟨p, hp, _, rfl⟩ := serialize_ok h
  exact ⟨p, hp, strictParse_prepared (prepare_legal hp) _⟩

example : (serialize c10cfg (lit "GET") (lit "/") [(lit "X", [97, 13, 10, 32, 98])] .none false).toOption.isSome = true :=
  c10_serialize_vectors.2.2.2.2.1

/-- the empty method (which passes the token *search*) is refused before anything is written — the
input on which the unrepaired code wrote the unparseable request line `" / HTTP/1.1"` -/
theorem C10_empty_method_rejected :
    serialize c10cfg [] (lit "/") [] .none false = .error .valueError ∧
    wireWritten c10cfg [] (lit "/") [] .none false = [] :=
  c10_serialize_vectors.2.2.2.2.2.1

/-- … and in general: an accepted method is a non-empty string of token characters -/
theorem C10_method_token (cfg : Cfg) (meth url : Str) (hs : List (Str × Str)) (body : Body) (ch : Bool)
    (p : Prepared) (h : prepare cfg meth url hs body ch = .ok p) :
    meth ≠ [] ∧ ∀ c ∈ meth, isTokenC c = true := by
  have hrl := (prepare_legal h).reqLine
  exact ⟨hrl.ne, by simpa [List.all_eq_true] using hrl.tok⟩

example : (prepare c10cfg (lit "GET") (lit "/") [] .none false).toOption.isSome = true :=
  c10_serialize_vectors.2.2.2.2.2.2.1

/-- accepted header lines can never break out of their line: every CR / LF inside a buffered header
line is followed by SP / HTAB (a fold), and no line starts with white space -/
theorem C10_header_lines_safe (cfg : Cfg) (meth url : Str) (hs : List (Str × Str)) (body : Body) (ch : Bool)
    (p : Prepared) (h : prepare cfg meth url hs body ch = .ok p) :
    ∀ l ∈ p.hdrs.map hdrLine, GoodLine l := by
  intro l hl
  obtain ⟨hd, hh, rfl⟩ := List.mem_map.mp hl
  exact goodLine_hdr hd ((prepare_legal h).legal hd hh)

/-- Automatic headers: the buffered header list is
`Host? ++ Accept-Encoding? ++ framing? ++ User-Agent? ++ caller's lines` (the caller's lines are exactly
those not carrying `SKIP_HEADER`, names and values verbatim), where each automatic header is present
iff the caller's header names (lower-cased; a `SKIP_HEADER` entry counts) do not contain it, and the
framing part is empty, or `Transfer-Encoding: chunked` (only if the caller has no Transfer-Encoding),
or `Content-Length: n` (only if the caller has neither framing header and chunking was not requested) -/
theorem C10_auto_headers (cfg : Cfg) (meth url : Str) (headers : List (Str × Str)) (body : Body) (ch : Bool)
    (p : Prepared) (h : prepare cfg meth url headers body ch = .ok p) :
    ∃ hostL aeL frL uaL,
      p.hdrs = hostL ++ aeL ++ frL ++ uaL ++ callerHdrs headers ∧
      (if (headerKeys headers).contains (lit "host") then hostL = [] else ∃ v, hostL = [(lit "Host", v)]) ∧
      (if (headerKeys headers).contains (lit "accept-encoding") then aeL = []
       else aeL = [(lit "Accept-Encoding", lit "identity")]) ∧
      (if (headerKeys headers).contains (lit "user-agent") then uaL = []
       else uaL = [(lit "User-Agent", Gen.defaultUserAgent)]) ∧
      (frL = [] ∨
       (frL = [(lit "Transfer-Encoding", lit "chunked")] ∧ (headerKeys headers).contains (lit "transfer-encoding") = false) ∨
       (∃ n, frL = [(lit "Content-Length", toDec n)] ∧ (headerKeys headers).contains (lit "content-length") = false ∧
          (headerKeys headers).contains (lit "transfer-encoding") = false ∧ ch = false)) := by
  obtain ⟨v, _, fr, h⟩ := prepare_inv h
  refine ⟨_, _, fr.lines, _, h.hdrs, ?_, ?_, ?_, ?_⟩
  · split
    · rfl
    · exact ⟨v, rfl⟩
  · split <;> rfl
  · split <;> rfl
  · rcases framing_inv h.fr_ok with ⟨rfl, h2, _⟩ | ⟨hl, _⟩ | ⟨n, rfl, h1, h2, hch, _⟩
    · exact .inr (.inl ⟨rfl, h2⟩)
    · exact .inl hl
    · exact .inr (.inr ⟨n, rfl, h1, h2, hch⟩)

example : (serialize c10cfg (lit "GET") (lit "/") [(lit "HOST", lit "x"), (lit "User-Agent", Gen.skipHeader)] .none false).toOption
    = some (lit "GET / HTTP/1.1\r\nAccept-Encoding: identity\r\nHOST: x\r\n\r\n") :=
  c10_serialize_vectors.2.2.2.2.2.2.2

/-- After `urlopen`'s re-encoding (`_encode_target`) the target consists of visible ASCII other than
`#` only: no byte ≤ 0x20, no 0x7F, nothing ≥ 0x80, no `#` — for every string of code points. -/
theorem C10_target_clean (t s : Str) (hv : ∀ c ∈ t, c < 0x110000) (h : encodeTarget t = .ok s) :
    ∀ c ∈ s, 0x20 < c ∧ c < 0x7f ∧ c ≠ 35 :=
  encodeTarget_clean t s hv h

example : encodeTarget (lit "/a b\r\n?x y#frag") = .ok (lit "/a%20b%0D%0A?x%20y") := by
  simp only [lit_ofList]; decide +kernel

/-- … and so is the target of every request `HTTPConnectionPool.urlopen` writes for an origin-form URL -/
theorem C10_pool_target_clean (cfg : Cfg) (meth t : Str) (hs : List (Str × Str)) (body : Body) (ch : Bool) (w : Bytes)
    (hv : ∀ c ∈ t, c < 0x110000) (h : poolSerialize cfg meth t hs body ch = .ok w) :
    ∃ r, strictParse w = some r ∧ r.method = meth ∧ ∀ c ∈ r.target, 0x20 < c ∧ c < 0x7f ∧ c ≠ 35 := by
  obtain ⟨t', ht, h⟩ := bind_ok h
  obtain ⟨p, _, hp⟩ := C10_one_request cfg meth t' hs body ch w h
  refine ⟨_, hp, rfl, fun c hc => ?_⟩
  simp only [urlOrSlash] at hc
  split at hc
  · cases List.mem_singleton.mp hc; decide
  · exact encodeTarget_clean t t' hv ht c hc

/-- An accepted HTTP/2 field name consists of lower-case RFC 9113 token characters only (and is not
empty) and an accepted value has no NUL / CR / LF and no white space at its edges.  (Full statement:
the name pattern ends in `\Z`, so a trailing line feed is not accepted any more —
`C10_h2_trailing_lf_rejected`.) -/
theorem C10_h2_header_validity (name value : Str) (n v : Bytes) (h : h2Putheader name value = .ok (n, v)) :
    (∀ c ∈ n, isH2NameC c = true) ∧ n ≠ [] ∧
    (∀ c ∈ v, c ≠ 0 ∧ c ≠ 10 ∧ c ≠ 13) ∧ (∀ c, v.head? = some c → isWS c = false) ∧
    (∀ c, v.getLast? = some c → isWS c = false) := by
  unfold h2Putheader at h
  repeat' split at h
  all_goals try cases h
  rename_i hname _ _ hval
  simp only [h2LegalName, Bool.not_eq_false, Bool.and_eq_true, Bool.not_eq_true', List.all_eq_true,
    List.isEmpty_eq_false_iff] at hname
  simp only [h2IllegalValue, Bool.not_eq_true, Bool.or_eq_false_iff, List.any_eq_false] at hval
  obtain ⟨⟨hany, hhead⟩, hlast⟩ := hval
  have edge : ∀ c, h2EdgeC c = false → isWS c = false := by
    intro c hc
    simp [h2EdgeC] at hc
    simp [isWS]; omega
  refine ⟨hname.2, hname.1, fun c hc => ?_, fun c hc => edge c (by simpa [hc] using hhead),
    fun c hc => edge c (by simpa [hc] using hlast)⟩
  have := hany c hc
  simp at this
  omega

example : h2Putheader (lit "X-A") (lit "v") = .ok (lit "x-a", lit "v") := by decide +kernel

/-- the field name `"a\n"`, which the unrepaired pattern (`…+$`) accepted, is refused -/
theorem C10_h2_trailing_lf_rejected : h2Putheader [97, 10] [118] = .error .valueError := by decide

end U3.Props
