import U3.Lemmas.ManagerHdrs
/-!
# C05 — redirects are followed only as far as the effective retry policy allows

Model: `U3.Manager` (`run`: one user call through `PoolManager` / `ProxyManager` / a bare pool over an
arbitrary world of servers — any redirect graph, loops included — and arbitrary `parse_url` /
`urljoin` oracles).  `effective` is the policy the *code* consults, `supplied` the one the caller
gave (request keyword, else constructor).  Every theorem holds for every world `W`, every client,
every amount of fuel and every request; the proofs go by induction over the model's redirect loop
(`U3.Lemmas.Manager`).
-/
namespace U3.Props
open U3 U3.Headers U3.Retry U3.Manager

/-- every status `get_redirect_location` treats as a redirect is one of the five redirect codes -/
theorem C05_redirect_statuses : ∀ s ∈ Gen.Redirect.redirectStatuses, s ∈ [301, 302, 303, 307, 308] := by
  decide

/-- the status that triggers the method rewrite is 303 and only 303 -/
theorem C05_rewrite_statuses : ∀ s, s ∈ Gen.Redirect.methodRewriteStatuses ↔ s = 303 := by
  intro s
  simp [Gen.Redirect.methodRewriteStatuses]

/-- **Budget** — for every world (every redirect graph, loops included), every client, every fuel:
the number of redirects followed never exceeds the redirect budget nor the total budget of the
policy in effect. -/
theorem C05_followed_le_budget (W : World) (c : Client) (fuel : Nat) (req : Req) :
    (∀ b, (effective c req).redirectBudget = some b → (run W c fuel req).followed ≤ b) ∧
    (∀ b, (effective c req).totalBudget = some b → (run W c fuel req).followed ≤ b) :=
  (run_trace W c fuel req).followed_le

/-- **Budget, for the supplied policy** (the property text) — for every placement of the policy (per
request, on a bare pool, or on the `PoolManager` / `ProxyManager` constructor; as `False`, an integer
or a `Retry`): the number of redirects followed never exceeds the redirect budget nor the total
budget of the policy the caller *supplied*. -/
theorem C05_followed_le_supplied (W : World) (c : Client) (fuel : Nat) (req : Req) :
    (∀ b, (supplied c req).redirectBudget = some b → (run W c fuel req).followed ≤ b) ∧
    (∀ b, (supplied c req).totalBudget = some b → (run W c fuel req).followed ≤ b) := by
  rw [← effective_eq_supplied c req]
  exact C05_followed_le_budget W c fuel req

/-- every placement is honoured: the policy the code consults *is* the supplied one — the request
keyword if given, else the constructor's (pool or manager) -/
theorem C05_effective_is_supplied (c : Client) (req : Req) : effective c req = supplied c req :=
  effective_eq_supplied c req

def loopUrl : PUrl :=
  ⟨some sHttp, some [97], none, [47], [104, 116, 116, 112, 58, 47, 47, 97, 47], some [97], [47]⟩
/-- a world in which every reply is `302 Location: /n` -/
def loopWorld : World where
  serve := fun _ _ _ => ⟨302, some [47, 110]⟩
  parse := fun _ => some loopUrl
  join := fun _ _ => some [104, 116, 116, 112, 58, 47, 47, 97, 47]
def plainReq (retries : Arg) : Req := ⟨false, sGET, [104, 116, 116, 112, 58, 47, 47, 97, 47], none, none, retries, none, none⟩

/-- **The constructor's policy is honoured** (the input on which the unrepaired code followed three
redirects and raised `MaxRetryError`): `PoolManager(retries=False)` — supplied budget 0, redirects
disabled — in a redirect loop sends one request and returns the 302, exactly as the same policy given
per request does. -/
theorem C05_manager_policy_honoured :
    (supplied (.manager ⟨.false, .dict [], none⟩) (plainReq .none)).redirectBudget = some 0 ∧
    (run loopWorld (.manager ⟨.false, .dict [], none⟩) 10 (plainReq .none)).followed = 0 ∧
    (run loopWorld (.manager ⟨.false, .dict [], none⟩) 10 (plainReq .none)).outcome
      = .response ⟨302, some [47, 110]⟩ ∧
    (run loopWorld (.manager ⟨.none, .dict [], none⟩) 10 (plainReq .false)).followed = 0 ∧
    (run loopWorld (.manager ⟨.none, .dict [], none⟩) 10 (plainReq .false)).outcome
      = .response ⟨302, some [47, 110]⟩ := by
  decide +kernel

/-- on the input of `C05_manager_policy_honoured` (manager constructor `retries=False`, nothing per
request, the 302 loop) the bound by the *supplied* policy holds, and so
does a constructor-level `Retry(redirect=1)` / integer `1` (one redirect followed, then
`MaxRetryError`) -/
theorem C05_manager_policy_honoured_witness :
    (∀ b, (supplied (.manager ⟨.false, .dict [], none⟩) (plainReq .none)).redirectBudget = some b →
      (run loopWorld (.manager ⟨.false, .dict [], none⟩) 10 (plainReq .none)).followed ≤ b) ∧
    (run loopWorld (.manager ⟨.retry (Retry.ofTotal (.num 10) (.num 1)), .dict [], none⟩) 10 (plainReq .none)).followed = 1 ∧
    (run loopWorld (.manager ⟨.retry (Retry.ofTotal (.num 10) (.num 1)), .dict [], none⟩) 10 (plainReq .none)).outcome
      = .maxRetry ∧
    (run loopWorld (.manager ⟨.int 1, .dict [], none⟩) 10 (plainReq .none)).followed = 1 ∧
    (run loopWorld (.manager ⟨.int 1, .dict [], none⟩) 10 (plainReq .none)).outcome = .maxRetry :=
  ⟨(C05_followed_le_supplied loopWorld _ 10 _).1, by decide +kernel⟩

/-- non-vacuity of the budget hypotheses: `Retry(redirect=2)` per request and on the constructor of a
`PoolManager` in the redirect loop: budget 2, exactly 2 followed -/
example :
    (supplied (.manager ⟨.none, .dict [], none⟩)
      (plainReq (.retry (Retry.ofTotal (.num 10) (.num 2))))).redirectBudget = some 2 ∧
    (run loopWorld (.manager ⟨.none, .dict [], none⟩) 10
      (plainReq (.retry (Retry.ofTotal (.num 10) (.num 2))))).followed = 2 ∧
    (supplied (.manager ⟨.retry (Retry.ofTotal (.num 10) (.num 2)), .dict [], none⟩)
      (plainReq .none)).redirectBudget = some 2 ∧
    (run loopWorld (.manager ⟨.retry (Retry.ofTotal (.num 10) (.num 2)), .dict [], none⟩) 10
      (plainReq .none)).followed = 2 := by
  decide +kernel

/-- redirects are *disabled* for this call: `redirect=False`, or the policy in effect has no redirect
budget and `raise_on_redirect` off — which is what `Retry.__init__` makes of `redirect=False` /
`total=False` and `Retry.from_int` of `retries=False` (`C05_disabled_forms`) -/
def RedirectDisabled (c : Client) (req : Req) : Prop :=
  req.redirect = some false ∨
  (((effective c req).redirectBudget = some 0 ∨ (effective c req).totalBudget = some 0) ∧
    (effective c req).raiseOnRedirect = false)

/-- **Disabled ⇒ untouched** — with `redirect=False` / `retries=False` / `Retry(redirect=False)` /
`Retry(total=False)` in effect the wire log has at most one entry: either nothing was sent (an
exception before any I/O: the outcome is no response), or exactly the request for `req.url` was sent
and its reply — 3xx or not — is what the caller gets; the `Location` target is never contacted.
(`statusRetry`: the reply's status is in the policy's `status_forcelist` — C04's territory;
`oracleMissing`: the world's `urljoin` table has no entry — the model needs it before it consults
the budget, as the code calls `urljoin` first.) -/
theorem C05_disabled_untouched (W : World) (c : Client) (fuel : Nat) (req : Req)
    (h : RedirectDisabled c req) :
    ((run W c fuel req).log = [] ∧ ∀ r, (run W c fuel req).outcome ≠ .response r) ∨
    ∃ s, (run W c fuel req).log = [s] ∧ s.url = req.url ∧
      ((run W c fuel req).outcome = .response s.reply ∨ (run W c fuel req).outcome = .statusRetry ∨
       (run W c fuel req).outcome = .oracleMissing) := by
  -- the second clause of `RedirectDisabled` is `Disabled (effective c req)`
  rcases (run_trace W c fuel req).disabled (h.imp_left getD_true_eq_false.2) with ⟨hl, ho⟩ | ⟨s, hl, he⟩
  · exact .inl ⟨hl, ho.2⟩
  · exact .inr ⟨s, hl, run_head_url W c fuel req s (by rw [hl]; rfl), he⟩

/-- the spellings of "disabled" the property names all satisfy `RedirectDisabled`, at every placement:
per request, as a bare pool's default, and as the `PoolManager` / `ProxyManager` constructor's policy -/
theorem C05_disabled_forms (c : Client) (req : Req) :
    (req.redirect = some false → RedirectDisabled c req) ∧
    (req.retries = .false → RedirectDisabled c req) ∧
    (∀ p : Retry, (p.redirect = .disabled ∨ p.total = .disabled) → req.retries = .retry (Retry.init p) →
      RedirectDisabled c req) ∧
    (∀ pl : Pool, c = .pool pl → req.retries = .none → pl.retries = .false → RedirectDisabled c req) ∧
    (∀ (pl : Pool) (p : Retry), c = .pool pl → req.retries = .none →
      (p.redirect = .disabled ∨ p.total = .disabled) → pl.retries = .retry (Retry.init p) →
      RedirectDisabled c req) ∧
    (∀ m : Mgr, c = .manager m → req.retries = .none → m.retries = .false → RedirectDisabled c req) ∧
    (∀ (m : Mgr) (p : Retry), c = .manager m → req.retries = .none →
      (p.redirect = .disabled ∨ p.total = .disabled) → m.retries = .retry (Retry.init p) →
      RedirectDisabled c req) := by
  -- for either client `effective c req` unfolds to a `deriveRetry`, and the clause to prove to `Disabled` of it
  refine ⟨.inl, fun h => .inr ?_, fun p hp h => .inr ?_, ?_, ?_, ?_, ?_⟩
  · cases c <;> exact deriveRetry_disabled _ _ _ (.inl (.inl h))
  · cases c <;> exact deriveRetry_disabled _ _ _ (.inl (.inr ⟨p, hp, h⟩))
  · rintro pl rfl h hpl
    exact .inr (deriveRetry_disabled _ _ _ (.inr ⟨h, .inl hpl⟩))
  · rintro pl p rfl h hp hpl
    exact .inr (deriveRetry_disabled _ _ _ (.inr ⟨h, .inr ⟨p, hp, hpl⟩⟩))
  · rintro m rfl h hm
    exact .inr (deriveRetry_disabled _ _ _ (.inr ⟨h, .inl hm⟩))
  · rintro m p rfl h hp hm
    exact .inr (deriveRetry_disabled _ _ _ (.inr ⟨h, .inr ⟨p, hp, hm⟩⟩))

/-- non-vacuity: `retries=False` per request in the redirect loop — disabled, one request, the 302 back -/
example : RedirectDisabled (.manager ⟨.none, .dict [], none⟩) (plainReq .false) ∧
    (run loopWorld (.manager ⟨.none, .dict [], none⟩) 10 (plainReq .false)).log.length = 1 ∧
    (run loopWorld (.manager ⟨.none, .dict [], none⟩) 10 (plainReq .false)).outcome
      = .response ⟨302, some [47, 110]⟩ :=
  ⟨(C05_disabled_forms _ _).2.1 rfl, by decide +kernel⟩

/-- non-vacuity of the manager-level forms: `PoolManager(retries=False)` and
`PoolManager(retries=Retry(redirect=False))`, nothing per request, in the redirect loop — disabled, one
request, the 302 back -/
example : RedirectDisabled (.manager ⟨.false, .dict [], none⟩) (plainReq .none) ∧
    (run loopWorld (.manager ⟨.false, .dict [], none⟩) 10 (plainReq .none)).log.length = 1 ∧
    RedirectDisabled (.manager ⟨.retry (Retry.init { Retry.initDefaults with redirect := .disabled }), .dict [], none⟩)
      (plainReq .none) ∧
    (run loopWorld (.manager ⟨.retry (Retry.init { Retry.initDefaults with redirect := .disabled }), .dict [], none⟩) 10
      (plainReq .none)).log.length = 1 ∧
    (run loopWorld (.manager ⟨.retry (Retry.init { Retry.initDefaults with redirect := .disabled }), .dict [], none⟩) 10
      (plainReq .none)).outcome = .response ⟨302, some [47, 110]⟩ :=
  ⟨(C05_disabled_forms _ _).2.2.2.2.2.1 _ rfl rfl rfl, by decide +kernel,
   (C05_disabled_forms _ _).2.2.2.2.2.2 _ _ rfl rfl (Or.inl rfl) rfl, by decide +kernel⟩

/-- a world whose every reply is `<status> Location: /n` -/
def statusWorld (status : Nat) : World where
  serve := fun _ _ _ => ⟨status, some [47, 110]⟩
  parse := fun _ => some loopUrl
  join := fun _ _ => some [104, 116, 116, 112, 58, 47, 47, 97, 47]
/-- `POST` with body `xy` -/
def postReq : Req := ⟨false, [80, 79, 83, 84], [104, 116, 116, 112, 58, 47, 47, 97, 47], some [120, 121], none, .none, none, none⟩
def barePool : Pool := Pool.ofCtor sHttp [97] none .none none

/-- **303 ⇒ body-less GET** — manager and pool level: whatever request of the chain was answered by a
303, its follow-up is a `GET` without body -/
theorem C05_303_rewrite (W : World) (c : Client) (fuel : Nat) (req : Req) (i : Nat) (a b : Sent)
    (ha : (run W c fuel req).log[i]? = some a) (hb : (run W c fuel req).log[i + 1]? = some b)
    (h303 : a.reply.status = 303) : b.method = sGET ∧ b.body = none := by
  obtain ⟨_, hm, hbd, _⟩ := run_hops W c fuel req i a b ha hb
  rw [h303] at hm hbd
  exact ⟨hm, hbd⟩

example : (run (statusWorld 303) (.manager ⟨.none, .dict [], none⟩) 10 postReq).log.map
      (fun s => (s.reply.status, s.method, s.body))
    = [(303, [80, 79, 83, 84], some [120, 121]), (303, sGET, none), (303, sGET, none), (303, sGET, none)] := by
  decide +kernel
example : (run (statusWorld 303) (.pool barePool) 10 { postReq with url := [47] }).log.map
      (fun s => (s.reply.status, s.method, s.body))
    = [(303, [80, 79, 83, 84], some [120, 121]), (303, sGET, none), (303, sGET, none), (303, sGET, none)] := by
  decide +kernel

/-- **303 ⇒ no content headers** — manager and pool level, for every header carrier (plain dict with
any keys, or well-formed `HTTPHeaderDict`, per request or as the client's default): the follow-up of a
303 carries no line whose lower-cased name is one of `_prepare_for_method_change`'s content-specific
names (`Gen.contentSpecificHeaders`: Content-Encoding, Content-Language, Content-Location,
Content-Type, Content-Length, Digest, Last-Modified) — except a line the proxy machinery itself
injects (`Accept`, `Host`, the `proxy_headers` of a `ProxyManager` / proxied pool); for a
`PoolManager` and a bare pool `c.injected = []`, i.e. there is none at all
(`C05_303_no_content_headers_noproxy`). -/
theorem C05_303_rewrite_headers (W : World) (c : Client) (fuel : Nat) (req : Req) (hwf : CarriersWF c req)
    (i : Nat) (a b : Sent)
    (ha : (run W c fuel req).log[i]? = some a) (hb : (run W c fuel req).log[i + 1]? = some b)
    (h303 : a.reply.status = 303) :
    ∀ l ∈ b.headers, lower l.1 ∈ contentSpecific.map lower → l.1 ∈ c.injected := by
  have hst : Gen.Redirect.methodRewriteStatuses.contains a.reply.status = true := by
    rw [h303]
    decide
  cases c with
  | manager m =>
    obtain ⟨a', b', hi, -, ⟨N⟩, hpb, -⟩ := (run_manager W m fuel req).hop
      (fun a : MgrArgs => (a.kw.headers.getD m.headers).Only (injected m) fun _ => True)
      (fun hi ⟨N⟩ => (N.only hi).mono fun _ _ => trivial) (requestWrap_only _ req hwf) i a b ha hb
    rw [N.reply] at hst
    exact fun l hl hcs => (hpb.only (N.only hi) l hl).elim (fun hk => absurd hcs (hk.2.2 hst)) id
  | pool p =>
    obtain ⟨a', b', hi, -, hn, hpb, -⟩ := (run_pool W p fuel req).hop
      (fun a : PoolArgs => (a.headers.getD p.headers).Only (poolInjected p) fun _ => True)
      (fun hi hn => (hn.only hi).mono fun _ _ => trivial) (requestWrap_only _ req hwf) i a b ha hb
    exact fun l hl hcs => (hpb.only (hn.only hi) l hl).elim (fun hk => absurd hcs (hk.2.2 hst)) id

theorem C05_303_no_content_headers_noproxy (W : World) (c : Client) (fuel : Nat) (req : Req)
    (hwf : CarriersWF c req) (hp : c.noProxy) (i : Nat) (a b : Sent)
    (ha : (run W c fuel req).log[i]? = some a) (hb : (run W c fuel req).log[i + 1]? = some b)
    (h303 : a.reply.status = 303) :
    ∀ l ∈ b.headers, lower l.1 ∉ contentSpecific.map lower := by
  intro l hl hcs
  have := C05_303_rewrite_headers W c fuel req hwf i a b ha hb h303 l hl hcs
  cases c with
  | manager m =>
    simp only [Client.noProxy] at hp
    simp [Client.injected, injected, hp] at this
  | pool p =>
    simp only [Client.noProxy] at hp
    simp [Client.injected, poolInjected, hp] at this

/-- non-vacuity: `POST` with `Content-Type` (any casing) and `X-Keep` in a dict / in an
`HTTPHeaderDict`, answered by 303: the follow-up keeps `X-Keep` only -/
example :
    Client.noProxy (.manager ⟨.none, .dict [], none⟩) ∧ Client.noProxy (.pool barePool) ∧
    CarriersWF (.manager ⟨.none, .dict [], none⟩)
      { postReq with headers := some (.dict [(lit "content-TYPE", lit "t"), (lit "X-Keep", lit "k")]) } ∧
    ((run (statusWorld 303) (.manager ⟨.none, .dict [], none⟩) 2
      { postReq with headers := some (.dict [(lit "content-TYPE", lit "t"), (lit "X-Keep", lit "k")]) }).log.map
        (fun s => (s.method, s.headers)))
      = [(lit "POST", [(lit "content-TYPE", lit "t"), (lit "X-Keep", lit "k")]), (sGET, [(lit "X-Keep", lit "k")])] ∧
    ((run (statusWorld 303) (.pool barePool) 2
      { postReq with url := [47], headers := some (.hd (extend [] [(lit "Digest", lit "d"), (lit "X-Keep", lit "k")])) }).log.map
        (fun s => (s.method, s.headers)))
      = [(lit "POST", [(lit "Digest", lit "d"), (lit "X-Keep", lit "k")]), (sGET, [(lit "X-Keep", lit "k")])] := by
  refine ⟨rfl, rfl, ⟨trivial, fun _ hh => ?_⟩, by decide +kernel⟩
  cases hh
  trivial

/-- **301/302/307/308 keep method and body** (the code rewrites on 303 only — also for a `POST`
answered by 301/302, where browsers would switch to `GET`): a followed request was answered by one of
the five redirect codes with a non-empty `Location`, and unless that code was 303 the follow-up has
the same method and the same body -/
theorem C05_30x_preserve (W : World) (c : Client) (fuel : Nat) (req : Req) (i : Nat) (a b : Sent)
    (ha : (run W c fuel req).log[i]? = some a) (hb : (run W c fuel req).log[i + 1]? = some b) :
    a.reply.status ∈ [301, 302, 303, 307, 308] ∧ (∃ loc, a.reply.location = some loc ∧ loc ≠ []) ∧
    (a.reply.status ≠ 303 → b.method = a.method ∧ b.body = a.body) := by
  obtain ⟨hloc, hm, hbd, _⟩ := run_hops W c fuel req i a b ha hb
  have hst : a.reply.status ∈ Gen.Redirect.redirectStatuses ∧ ∃ loc, a.reply.location = some loc ∧ loc ≠ [] := by
    unfold Reply.redirectLocation at hloc
    split at hloc
    · next hc =>
      split at hloc
      · next l hl =>
        split at hloc
        · cases hloc
        · next hne => exact ⟨by simpa using hc, l, hl, by simpa using hne⟩
      · cases hloc
    · cases hloc
  refine ⟨C05_redirect_statuses _ hst.1, hst.2, ?_⟩
  intro hne
  have hnc : Gen.Redirect.methodRewriteStatuses.contains a.reply.status = false := by
    rw [Bool.eq_false_iff]
    intro hc
    exact hne ((C05_rewrite_statuses _).1 (by simpa using hc))
  simp only [rewrite303, hnc] at hm hbd
  exact ⟨hm, hbd⟩

example : (run (statusWorld 301) (.manager ⟨.none, .dict [], none⟩) 10 postReq).log.map
      (fun s => (s.reply.status, s.method, s.body))
    = [(301, [80, 79, 83, 84], some [120, 121]), (301, [80, 79, 83, 84], some [120, 121]),
       (301, [80, 79, 83, 84], some [120, 121]), (301, [80, 79, 83, 84], some [120, 121])] := by
  decide +kernel

/-- **Relative Locations are resolved against the current URL** — at manager level the URL of hop
`k+1` is `urljoin(URL of hop k, Location of hop k)` (not of hop 0), and — without a proxy — the request
goes to the origin `connection_from_host` derives from *that* URL with the request target of its
`request_uri`; a bare pool sends the `Location` itself as the next target -/
theorem C05_relative_resolved (W : World) (c : Client) (fuel : Nat) (req : Req) (i : Nat) (a b : Sent)
    (ha : (run W c fuel req).log[i]? = some a) (hb : (run W c fuel req).log[i + 1]? = some b) :
    match c with
    | .pool _ => some b.url = a.reply.redirectLocation
    | .manager m =>
      (∃ loc, a.reply.redirectLocation = some loc ∧ W.join a.url loc = some b.url) ∧
      (m.proxy = none → ∃ u conn pu, W.parse b.url = some u ∧
        connectionFromHost m u.host u.port u.scheme = .ok conn ∧ W.parse u.requestUri = some pu ∧
        b.dest = conn.id.origin ∧ b.dial = conn.id.origin ∧ b.target = pu.target) := by
  obtain ⟨_, _, _, hu⟩ := run_hops W c fuel req i a b ha hb
  cases c with
  | pool p => exact hu
  | manager m =>
    refine ⟨hu, fun hp => ?_⟩
    obtain ⟨_, hpass⟩ := (run_manager W m fuel req).pass_of_mem b (List.mem_of_getElem? hb)
    obtain ⟨u, conn, pu, h1, h2, h3, h4, h5, _, h7, _⟩ := hpass.noproxy hp
    exact ⟨u, conn, pu, h1, h2, h3, h4, h5, h7⟩

/-! a two-directory world: `http://a/d/x` answers `302 Location: y`, everything else `200`; the join
table resolves `y` against `/d/x` (→ `/d/y`), not against anything else -/
def relWorld : World where
  serve := fun _ _ t => if t = [47, 100, 47, 120] then ⟨302, some [121]⟩ else ⟨200, none⟩
  parse := fun s =>
    if s = [104, 116, 116, 112, 58, 47, 47, 97, 47, 100, 47, 120] then
      some ⟨some sHttp, some [97], none, [47, 100, 47, 120], s, some [97], s⟩
    else if s = [104, 116, 116, 112, 58, 47, 47, 97, 47, 100, 47, 121] then
      some ⟨some sHttp, some [97], none, [47, 100, 47, 121], s, some [97], s⟩
    else if s.head? = some 47 then some ⟨none, none, none, s, s, none, s⟩
    else none
  join := fun base loc =>
    if base = [104, 116, 116, 112, 58, 47, 47, 97, 47, 100, 47, 120] ∧ loc = [121] then
      some [104, 116, 116, 112, 58, 47, 47, 97, 47, 100, 47, 121]
    else none

example : (run relWorld (.manager ⟨.none, .dict [], none⟩) 10
      { plainReq .none with url := [104, 116, 116, 112, 58, 47, 47, 97, 47, 100, 47, 120] }).log.map
        (fun s => (s.url, s.target, s.reply.status))
    = [([104, 116, 116, 112, 58, 47, 47, 97, 47, 100, 47, 120], [47, 100, 47, 120], 302),
       ([104, 116, 116, 112, 58, 47, 47, 97, 47, 100, 47, 121], [47, 100, 47, 121], 200)] := by
  decide +kernel

/-- **Exhaustion surface** — for the run of one call, `eff` the policy in effect:
1. `MaxRetryError` (too many redirects) is raised only with `raise_on_redirect` on, and the last reply
   on the wire was a followable redirect;
2. a response that is returned is always the *last* reply on the wire, and a followable redirect is
   returned only with `redirect=False` or `raise_on_redirect` off;
3. neither happens prematurely: whenever the run ends on a followable redirect although redirects are
   enabled — `MaxRetryError`, or the 3xx itself — a counter that pays for redirects is used up
   exactly: the redirect budget or the total budget of `eff` equals the number of redirects followed
   (for policies none of whose other counters is negative).
Together with `C05_followed_le_budget`: the budget is spent exactly, then the surface is
`MaxRetryError`, or the last 3xx when `raise_on_redirect` is `False`. -/
theorem C05_exhaustion_surface (W : World) (c : Client) (fuel : Nat) (req : Req) :
    ((run W c fuel req).outcome = .maxRetry →
      (effective c req).raiseOnRedirect = true ∧
      ∃ s, (run W c fuel req).log.getLast? = some s ∧ s.reply.redirectLocation.isSome = true) ∧
    (∀ x, (run W c fuel req).outcome = .response x →
      ∃ s, (run W c fuel req).log.getLast? = some s ∧ x = s.reply ∧
        (s.reply.redirectLocation.isSome = true →
          req.redirect = some false ∨ (effective c req).raiseOnRedirect = false)) ∧
    (SaneCounters (effective c req) →
      ((run W c fuel req).outcome = .maxRetry ∨
        (req.redirect ≠ some false ∧ ∃ s, (run W c fuel req).log.getLast? = some s ∧
          (run W c fuel req).outcome = .response s.reply ∧ s.reply.redirectLocation.isSome = true)) →
      (effective c req).redirectBudget = some (run W c fuel req).followed ∨
      (effective c req).totalBudget = some (run W c fuel req).followed) := by
  by_cases ho : NoReply (run W c fuel req).outcome
  · exact ⟨fun h => absurd h ho.1, fun x h => absurd h (ho.2 x),
      fun _ h => h.elim (absurd · ho.1) fun ⟨_, s, _, h, _⟩ => absurd h (ho.2 _)⟩
  obtain ⟨s, rk, hs, he, hraise, hsane, hb1, hb2⟩ := (run_trace W c fuel req).ends ho
  rw [← hraise, hs]
  rcases he with he | he | ⟨he, hno⟩ | ⟨hred, hfol, ⟨_, _, hinc⟩, he⟩ <;> rw [he] at ho ⊢
  · exact absurd ⟨nofun, nofun⟩ ho
  · exact absurd ⟨nofun, nofun⟩ ho
  · have hnf : s.reply.redirectLocation.isSome = true → req.redirect = some false := fun hf =>
      hno.elim getD_true_eq_false.1 fun h => by rw [h] at hf; cases hf
    refine ⟨nofun, fun x hx => ⟨s, rfl, (Outcome.response.inj hx).symm, fun hf => .inl (hnf hf)⟩,
      fun _ h => h.elim nofun fun ⟨hne, s', hs', _, hf⟩ => ?_⟩
    cases hs'
    exact absurd (hnf hf) hne
  · have hbud : SaneCounters (effective c req) →
        (effective c req).redirectBudget = some (run W c fuel req).followed ∨
        (effective c req).totalBudget = some (run W c fuel req).followed := fun hsn =>
      (increment_redirect_fail (hsane hsn) hinc).imp
        (fun h0 => by rw [Retry.redirectBudget, hb1, h0]; simp)
        (fun h0 => by rw [Retry.totalBudget, hb2, h0]; simp)
    cases hr : rk.raiseOnRedirect with
    | true => exact ⟨fun _ => ⟨rfl, s, rfl, hfol⟩, nofun, fun hsn _ => hbud hsn⟩
    | false =>
      exact ⟨nofun, fun x hx => ⟨s, rfl, (Outcome.response.inj hx).symm, fun _ => .inr rfl⟩,
        fun hsn _ => hbud hsn⟩

/-- non-vacuity (both surfaces, budget spent exactly): `Retry(total=10, redirect=2)` in the redirect
loop ends in `MaxRetryError` after exactly 2 redirects; with `raise_on_redirect=False` the third 302
is returned instead -/
example : SaneCounters (effective (.manager ⟨.none, .dict [], none⟩)
      (plainReq (.retry (Retry.ofTotal (.num 10) (.num 2))))) ∧
    (run loopWorld (.manager ⟨.none, .dict [], none⟩) 10
      (plainReq (.retry (Retry.ofTotal (.num 10) (.num 2))))).outcome = .maxRetry ∧
    (run loopWorld (.manager ⟨.none, .dict [], none⟩) 10
      (plainReq (.retry (Retry.ofTotal (.num 10) (.num 2))))).followed = 2 ∧
    (run loopWorld (.manager ⟨.none, .dict [], none⟩) 10
      (plainReq (.retry { Retry.ofTotal (.num 10) (.num 2) with raiseOnRedirect := false }))).outcome
        = .response ⟨302, some [47, 110]⟩ ∧
    (run loopWorld (.manager ⟨.none, .dict [], none⟩) 10
      (plainReq (.retry { Retry.ofTotal (.num 10) (.num 2) with raiseOnRedirect := false }))).followed = 2 := by
  exact ⟨sane_ofTotal _ _, by decide +kernel⟩

end U3.Props
