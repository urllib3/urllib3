import U3.Lemmas.UrlReparse
/-!
# C14 — URL parsing is total, canonical, and agrees with RFC 3986 on what the host is

Theorems about `U3.Url.parseUrlWith` (the model of `parse_url`, `idna.encode` a parameter) and its
components.  `NormalForm A s` = "every character of `s` is in the allowed set `A` or part of an
upper-case valid escape" (`U3.Lemmas.Url`).  A statement that is false of the code as it stands is
proved under the hypothesis that excludes exactly the defect; the full statement is in the comment
above it.  The inputs on which the tree still violates the property (known findings, see `notes/C14.md`)
are recorded by `C14_reparse_zone25_witness` and `C14_dotted_scheme_witness`, proved by evaluating the
model; the repaired findings `rfc-mismatch:dollar-newline` (`_HOST_PORT_RE` / `_IPV6_ADDRZ_RE` end in `\Z`)
and `reparse-mismatch:empty-host` by the positive `C14_dollar_newline_rejected` and
`C14_reparse_empty_host_ok`.
-/
namespace U3.Props
open U3 U3.Url

def http : Str := [104, 116, 116, 112]
def https : Str := [104, 116, 116, 112, 115]

/-! ## totality: the exception funnel -/

/-- the only failure value of `parse_url` is `LocationParseError` (for every IDNA oracle) -/
theorem C14_error_funnel (idna : Str → Option Str) (s : Str) (e : Exc)
    (h : parseUrlWith idna s = .error e) : e = .locationParseError :=
  parseUrlWith_err h

-- non-vacuity: "http://[" fails, and with exactly this class
example : parseUrl [104, 116, 116, 112, 58, 47, 47, 91] = .error .locationParseError := by decide +kernel

/-! ## `_encode_invalid_chars` -/

/-- encoding twice = encoding once, for each of the five generated RFC 3986 character sets -/
theorem C14_encode_idempotent (A : List Nat)
    (hA : A ∈ [Gen.unreservedChars, Gen.userinfoChars, Gen.pathChars, Gen.queryChars, Gen.fragmentChars])
    (s : Str) : encodeInvalidChars A (encodeInvalidChars A s) = encodeInvalidChars A s :=
  encode_idempotent (encSet_of_mem hA) s

/-- the encoder's output is in normal form: allowed characters and upper-case escapes only -/
theorem C14_encode_normal_form (A : List Nat)
    (hA : A ∈ [Gen.unreservedChars, Gen.userinfoChars, Gen.pathChars, Gen.queryChars, Gen.fragmentChars])
    (s : Str) : NormalForm A (encodeInvalidChars A s) :=
  encode_normal (encSet_of_mem hA) s

/-- "no double-encoding of valid escapes": a component already in normal form is left alone -/
theorem C14_encode_keeps_normal (A : List Nat)
    (hA : A ∈ [Gen.unreservedChars, Gen.userinfoChars, Gen.pathChars, Gen.queryChars, Gen.fragmentChars])
    (s : Str) (hs : NormalForm A s) : encodeInvalidChars A s = s :=
  encode_keeps (encSet_of_mem hA) hs

-- non-vacuity: "a%2fb c" -> "a%2Fb%20c" (escape upper-cased, not re-encoded; space encoded),
-- and a mixed component "%zz%41" is re-encoded wholesale: "%25zz%2541"
example : encodeInvalidChars Gen.pathChars [97, 37, 50, 102, 98, 32, 99] =
    [97, 37, 50, 70, 98, 37, 50, 48, 99] := by decide +kernel
example : encodeInvalidChars Gen.pathChars [37, 122, 122, 37, 52, 49] =
    [37, 50, 53, 122, 122, 37, 50, 53, 52, 49] := by decide +kernel
example : NormalForm Gen.pathChars [97, 37, 50, 70, 98] :=
  ⟨[.chr 97, .esc 50 70, .chr 98], by decide +kernel, by decide +kernel⟩

/-! ## `_remove_path_dot_segments` -/

theorem C14_dotseg_idempotent (p : Str) :
    removeDotSegments (removeDotSegments p) = removeDotSegments p :=
  cleanJoin_fixed (removeDotSegments_cleanJoin p)

/-- no `.` / `..` segment remains -/
theorem C14_dotseg_no_dot_segment (p : Str) :
    ∀ seg ∈ splitOn1 47 (removeDotSegments p), seg ≠ dot ∧ seg ≠ dotdot :=
  cleanJoin_no_dots (removeDotSegments_cleanJoin p)

-- non-vacuity: "/a/./b/../../c/.." -> "/"
example : removeDotSegments [47, 97, 47, 46, 47, 98, 47, 46, 46, 47, 46, 46, 47, 99, 47, 46, 46] = [47] := by
  decide +kernel

/-! ## normal form of a successful parse -/

/-- port within 0–65535 -/
theorem C14_port_bound (idna : Str → Option Str) (s : Str) (u : Url)
    (h : parseUrlWith idna s = .ok u) : ∀ p, u.port = some p → p ≤ 65535 := by
  obtain ⟨h0, port, -, -, hport, -⟩ := parseUrlWith_parts h
  exact (portToInt_ok hport).2

/-- the scheme is lower-case (ASCII), whatever the scheme -/
theorem C14_scheme_lower (idna : Str → Option Str) (s : Str) (u : Url)
    (h : parseUrlWith idna s = .ok u) : ∀ sc, u.scheme = some sc → lower sc = sc := by
  obtain ⟨h0, port, hsc, -⟩ := parseUrlWith_parts h
  intro sc hs
  rw [hsc] at hs
  obtain ⟨x, -, rfl⟩ := Option.map_eq_some_iff.mp hs
  exact lower_idem x

/-
Full statement (DESIGN §6): on success with scheme ∈ {http, https, none}: scheme and host lower-case,
port ≤ 65535, no `.`/`..` segment in the path, every char of auth/path/query/fragment in the
component's allowed set or part of an upper-case valid escape.

Proved here: the character clause for all four components (for the path *including* the `/` that
`Url.__new__` may prepend) and the dot-segment clause for the final path (the encoder acts
segment-wise and never turns a segment into `.` or `..`), together with `C14_port_bound` and
`C14_scheme_lower` above (which hold for every scheme).  The only clause not in this theorem is
"host lower-case", which is `C14_host_lower` below (a separate theorem because an RFC 6874 zone id
keeps its case and the IDNA answers enter through a contract).
-/
theorem C14_normal_form (idna : Str → Option Str) (s : Str) (u : Url)
    (h : parseUrlWith idna s = .ok u) (hs : u.scheme ∈ [some http, some https, none]) :
    (∀ x, u.auth = some x → NormalForm Gen.userinfoChars x) ∧
    (∀ x, u.path = some x → NormalForm Gen.pathChars x) ∧
    (∀ x, u.path = some x → ∀ seg ∈ splitOn1 47 x, seg ≠ dot ∧ seg ≠ dotdot) ∧
    (∀ x, u.query = some x → NormalForm Gen.queryChars x) ∧
    (∀ x, u.fragment = some x → NormalForm Gen.fragmentChars x) := by
  obtain ⟨hau, hq, hf, hpa, -⟩ := parseUrlWith_normal h (normalizable_of_mem hs)
  have hp : ∀ x, u.path = some x → NormalForm Gen.pathChars x ∧ CleanJoin x := fun x hx =>
    (hpa x hx).elim (fun e => e.1 ▸ ⟨normalForm_nil _, cleanJoin_nil⟩) (·.2)
  exact ⟨fun x hx => (hau x hx).2, fun x hx => (hp x hx).1, fun x hx => cleanJoin_no_dots (hp x hx).2, hq, hf⟩

-- non-vacuity: "http://h/a/./%2e/x/../b" : the literal dot segments go, the *escaped* dot stays as
-- "%2E" (it is not a dot segment) and nothing the encoder emits is one
example : parseUrl [104, 116, 116, 112, 58, 47, 47, 104, 47, 97, 47, 46, 47, 37, 50, 101, 47, 120, 47, 46, 46, 47, 98] =
    .ok ⟨some http, none, some [104], none, some [47, 97, 47, 37, 50, 69, 47, 98], none, none⟩ := by decide +kernel
-- non-vacuity: "HTTP://u%3a@H/a b?%zz#é" parses, with scheme http
example : (parseUrl [72, 84, 84, 80, 58, 47, 47, 117, 37, 51, 97, 64, 72, 47, 97, 32, 98, 63, 37, 122, 122, 35, 233]).toOption.map (·.scheme)
    = some (some http) := by decide +kernel

/-! ## non-vacuity of the parser itself: nested `@`, backslash, zone id, upper-case escapes -/

/-- "http://a@b@c\d" : userinfo is everything before the *last* `@`, the backslash ends the
authority: auth "a%40b", host "c", path "/%5Cd" -/
theorem C14_example_nested_at_backslash :
    parseUrl [104, 116, 116, 112, 58, 47, 47, 97, 64, 98, 64, 99, 92, 100] =
      .ok ⟨some http, some [97, 37, 52, 48, 98], some [99], none, some [47, 37, 53, 67, 100], none, none⟩ := by
  decide +kernel

/-- "http://[FE80::1%25Eth0]:080/%7e" : address lower-cased, zone delimiter unquoted and zone case
kept, port 80, escape upper-cased -/
theorem C14_example_zone_port_escape :
    parseUrl [104, 116, 116, 112, 58, 47, 47, 91, 70, 69, 56, 48, 58, 58, 49, 37, 50, 53, 69, 116, 104, 48, 93,
        58, 48, 56, 48, 47, 37, 55, 101] =
      .ok ⟨some http, none, some [91, 102, 101, 56, 48, 58, 58, 49, 37, 69, 116, 104, 48, 93], some 80,
        some [47, 37, 55, 69], none, none⟩ := by
  decide +kernel

/-! ## the independent RFC 3986 reading -/

/-- **Agreement with the RFC 3986 reading.**  Whenever parsing succeeds and the reference reading
finds an authority, urllib3's host, port and userinfo are those of the reference reading
(normalised the same way): the host is `_normalize_host` of the reference host text (`None` and `""`
identified), the port is the numeric value of the reference port text — which consists of digits
only —, the userinfo is the text before the last `@`, percent-encoded.  So no input makes the model
address a host other than the one the reference parser sees.  Moreover the reference authority of an
accepted input is always well formed (an IP-literal is closed and followed by nothing or `:port`).

Hypothesis = exactly the complement of the one remaining `rfc-mismatch:*` finding: the RFC scheme (if
any) contains no `.` (`rfc-mismatch:dotted-scheme`); it is a decidable predicate of the *reference
reading* of the input. -/
theorem C14_agrees_with_rfc (idna : Str → Option Str) (s : Str) (u : Url) (r : RefAuth)
    (h : parseUrlWith idna s = .ok u) (hr : refAuthority s = some r)
    (hdot : ∀ sch, refScheme s = some sch → 46 ∉ sch) :
    normalizeHost idna (some r.host) u.scheme = .ok (some (u.host.getD [])) ∧
    (u.host = none → r.host = []) ∧
    u.port = refPortValue r.port ∧
    (∀ p, r.port = some p → p.all isDigitC = true) ∧
    u.auth = refAuthValue (Gen.normalizableSchemes.contains u.scheme) r.userinfo ∧
    r.wellFormed = true := by
  obtain ⟨a, hauth, rfl⟩ := uriGroups_ref hr hdot
  obtain ⟨h0, port, -, hpa, hport, hhost, -⟩ := parseUrlWith_parts h
  rw [hauth] at hpa
  obtain ⟨hho, hpo, hd, hau, hwf⟩ := parseAuthority_ref hpa
  obtain ⟨hn, hnone⟩ := normalizeHost_getD hhost
  rw [hho]
  exact ⟨hn, fun e => by rw [hnone e]; rfl, (portToInt_ok hport).1.trans hpo, hd, hau, hwf⟩

-- non-vacuity: "hTTp://a@b@C:080\d" satisfies every hypothesis; the reading is userinfo "a@b",
-- host "C", port text "080"; urllib3 has auth "a%40b", host "c", port 80
example : refAuthority [104, 84, 84, 112, 58, 47, 47, 97, 64, 98, 64, 67, 58, 48, 56, 48, 92, 100] =
    some ⟨some [97, 64, 98], [67], some [48, 56, 48], true⟩ := by decide +kernel
example : refScheme [104, 84, 84, 112, 58, 47, 47, 97, 64, 98, 64, 67, 58, 48, 56, 48, 92, 100] =
    some [104, 84, 84, 112] := by decide +kernel
example : parseUrl [104, 84, 84, 112, 58, 47, 47, 97, 64, 98, 64, 67, 58, 48, 56, 48, 92, 100] =
    .ok ⟨some http, some [97, 37, 52, 48, 98], some [99], some 80, some [47, 37, 53, 67, 100], none, none⟩ := by
  decide +kernel
-- the reference reading of "//a@b@c\d" has userinfo "a@b", host "c"
example : refAuthOfHier [47, 47, 97, 64, 98, 64, 99, 92, 100] = some ⟨some [97, 64, 98], [99], none, true⟩ := by
  decide +kernel

/-- repaired finding `rfc-mismatch:dollar-newline` (the regexes end in `\Z` now): "http://h:80\n",
whose RFC reading has the port text "80\n", is rejected with `LocationParseError` (it used to parse
with port 80); so are "http://[::1]\n" (junk after the IP-literal; it used to parse with host
"[::1]") and "http://h:\n/x".  A newline that is part of a reg-name is no concern of the anchor:
"http://h\n" still parses, and the host keeps the newline exactly as the RFC reading has it. -/
theorem C14_dollar_newline_rejected :
    parseUrl [104, 116, 116, 112, 58, 47, 47, 104, 58, 56, 48, 10] = .error .locationParseError ∧
    (refAuthority [104, 116, 116, 112, 58, 47, 47, 104, 58, 56, 48, 10]).map (·.port) = some (some [56, 48, 10]) ∧
    parseUrl [104, 116, 116, 112, 58, 47, 47, 91, 58, 58, 49, 93, 10] = .error .locationParseError ∧
    (refAuthority [104, 116, 116, 112, 58, 47, 47, 91, 58, 58, 49, 93, 10]).map (·.wellFormed) = some false ∧
    parseUrl [104, 116, 116, 112, 58, 47, 47, 104, 58, 10, 47, 120] = .error .locationParseError ∧
    (parseUrl [104, 116, 116, 112, 58, 47, 47, 104, 10]).toOption.map (·.host) = some (some [104, 10]) ∧
    (refAuthority [104, 116, 116, 112, 58, 47, 47, 104, 10]).map (·.host) = some [104, 10] := by
  decide +kernel

/-- known finding `rfc-mismatch:dotted-scheme`: "a.b://h/" — RFC 3986 reads scheme "a.b", host "h";
`parse_url` reads host "a.b" (`_SCHEME_RE` lacks `.`) -/
theorem C14_dotted_scheme_witness :
    (parseUrl [97, 46, 98, 58, 47, 47, 104, 47]).toOption.map (·.host) = some (some [97, 46, 98]) ∧
    (refAuthority [97, 46, 98, 58, 47, 47, 104, 47]).map (·.host) = some [104] := by
  decide +kernel

/-! ## re-parsing the string form -/

/-
Full statement (DESIGN App. E): `parseUrl s = .ok u → u.scheme ∈ [some http, some https] →
parseUrl (render u) = .ok u`.  It is FALSE on the tree (known finding
`reparse-mismatch:zone-25-prefix`, witness `C14_reparse_zone25_witness` below; the second
counterexample class, `reparse-mismatch:empty-host`, is repaired — `C14_reparse_empty_host_ok`).

Proved (`C14_reparse_partial`): the round trip for **every** input string, every IDNA oracle keeping
its contracts, under exactly the complement of the finding — the parsed host has not the `zone25`
shape (a bracketed literal whose zone id starts with `25` and goes on; `C14_host_idempotent_zone25_exact`
shows that a host of that shape is never re-normalised to itself, so the hypothesis cannot be
weakened).  The proof (`U3.Lemmas.UrlReparse`) derives the properties of a parsed http/https `Url`
(`Parsed`) and then runs `parse_url` on the rendered text: `_URI_RE` cuts it at the same places,
`rpartition("@")` / `_HOST_PORT_RE` / `int(str(port))` give the authority components back, the host is a
fixed point of `_normalize_host` (`C14_parsed_host_fixed`), the other components of the encoder and the
dot-segment remover (`C14_encode_keeps_normal`, `cleanJoin_fixed`).
Contracts on `idna.encode`: `IdnaLdh` (answers made of `a-z 0-9 - .`) and "no empty answer".
-/
theorem C14_reparse_partial (idna : Str → Option Str) (hc : IdnaLdh idna)
    (hne : ∀ l r, idna l = some r → r ≠ []) (s : Str) (u : Url)
    (h : parseUrlWith idna s = .ok u) (hs : u.scheme ∈ [some http, some https])
    (h25 : ∀ x, u.host = some x → zone25 x = false) :
    parseUrlWith idna u.render = .ok u := by
  have hnorm : Normalizable u.scheme := normalizable_of_mem (List.mem_append_left [none] hs)
  simp only [List.mem_cons, List.not_mem_nil, or_false] at hs
  rcases hs with hs | hs
  · exact reparse hc hne h hs hnorm h25
  · exact reparse hc hne h hs hnorm h25

-- non-vacuity: the IDNA-free oracle keeps both contracts; "HTTP://U@[FE80::1%25Eth0]:080/a/../%7e?q #f"
-- parses with scheme http and a host without the shape of the finding (and the round trip is also
-- evaluated directly in `C14_reparse_example`)
example : IdnaLdh (fun _ => none) ∧ ∀ l r, (fun _ => none : Str → Option Str) l = some r → r ≠ [] :=
  ⟨by intro l r h; simp at h, by simp⟩
example : (parseUrl [72, 84, 84, 80, 58, 47, 47, 85, 64, 91, 70, 69, 56, 48, 58, 58, 49, 37, 50, 53, 69, 116, 104, 48, 93,
      58, 48, 56, 48, 47, 97, 47, 46, 46, 47, 37, 55, 101, 63, 113, 32, 35, 102]).toOption.map
    (fun u => (u.scheme, u.host, u.host.map zone25)) =
    some (some http, some [91, 102, 101, 56, 48, 58, 58, 49, 37, 69, 116, 104, 48, 93], some false) := by decide +kernel

theorem C14_reparse_example :
    ∀ u, parseUrl [72, 84, 84, 80, 58, 47, 47, 85, 64, 91, 58, 58, 49, 93, 58, 48, 56, 48, 47, 97, 47, 46, 46, 47,
        37, 55, 101, 63, 113, 32, 35, 102] = .ok u →
      u.scheme = some http ∧ parseUrl u.render = .ok u := by
  intro u hu
  obtain rfl : u = ⟨some http, some [85], some [91, 58, 58, 49, 93], some 80, some [47, 37, 55, 69],
      some [113, 37, 50, 48], some [102]⟩ := Except.ok.inj (hu.symm.trans (by decide +kernel))
  exact ⟨rfl, by decide +kernel⟩

/-- repaired finding `reparse-mismatch:empty-host`: "http://:" (likewise "http://@", "http://@:" and
"http://:/x") used to have host "" and render as "http://", which re-parses to host `None`.  An
authority made of delimiters only is now reported like the empty authority (host `None`), so the
round trip closes; an empty host *with* a port or userinfo keeps host "" and round-trips as before
("http://:80", "http://u@"). -/
theorem C14_reparse_empty_host_ok :
    parseUrl [104, 116, 116, 112, 58, 47, 47, 58] = .ok ⟨some http, none, none, none, none, none, none⟩ ∧
    Url.render ⟨some http, none, none, none, none, none, none⟩ = [104, 116, 116, 112, 58, 47, 47] ∧
    parseUrl [104, 116, 116, 112, 58, 47, 47] = .ok ⟨some http, none, none, none, none, none, none⟩ ∧
    parseUrl [104, 116, 116, 112, 58, 47, 47, 64] = .ok ⟨some http, none, none, none, none, none, none⟩ ∧
    parseUrl [104, 116, 116, 112, 58, 47, 47, 64, 58] = .ok ⟨some http, none, none, none, none, none, none⟩ ∧
    (∀ u, parseUrl [104, 116, 116, 112, 58, 47, 47, 58, 47, 120] = .ok u → parseUrl u.render = .ok u) ∧
    parseUrl [104, 116, 116, 112, 58, 47, 47, 58, 56, 48] = .ok ⟨some http, none, some [], some 80, none, none, none⟩ ∧
    parseUrl (Url.render ⟨some http, none, some [], some 80, none, none, none⟩) =
      .ok ⟨some http, none, some [], some 80, none, none, none⟩ ∧
    parseUrl [104, 116, 116, 112, 58, 47, 47, 117, 64] = .ok ⟨some http, some [117], some [], none, none, none, none⟩ ∧
    parseUrl (Url.render ⟨some http, some [117], some [], none, none, none, none⟩) =
      .ok ⟨some http, some [117], some [], none, none, none, none⟩ := by
  refine ⟨by decide +kernel, by decide +kernel, by decide +kernel, by decide +kernel, by decide +kernel, ?_, by decide +kernel, by decide +kernel, by decide +kernel, by decide +kernel⟩
  intro u hu
  obtain rfl : u = ⟨some http, none, none, none, some [47, 120], none, none⟩ :=
    Except.ok.inj (hu.symm.trans (by decide +kernel))
  decide +kernel

/-- The repair of `reparse-mismatch:empty-host` in general form: for **every** input, when
`parse_url` reports the host `""` it also reports a port or a userinfo — so the string form
(`…//userinfo@`, `…//:port`) shows the empty host and the re-parse finds it again; an empty host with
nothing around it is reported as `None`, like the empty authority.  `hc` is the contract of the
uninterpreted `idna.encode`: it never answers with an empty label (needed because `_normalize_host`
joins the encoded labels: a non-empty host must not normalise to `""`). -/
theorem C14_empty_host_has_port_or_userinfo (idna : Str → Option Str)
    (hc : ∀ l r, idna l = some r → r ≠ []) (s : Str) (u : Url)
    (h : parseUrlWith idna s = .ok u) (hh : u.host = some []) :
    u.auth.isSome = true ∨ u.port.isSome = true :=
  empty_host_has_port_or_userinfo hc h hh

-- non-vacuity: the contract holds for the IDNA-free parser, and "http://:80" / "//u@" do have host ""
example : ∀ l r, (fun _ => none : Str → Option Str) l = some r → r ≠ [] := by simp
example : (parseUrl [104, 116, 116, 112, 58, 47, 47, 58, 56, 48]).toOption.map (fun u => (u.host, u.port)) =
    some (some [], some 80) := by decide +kernel
example : (parseUrl [47, 47, 117, 64]).toOption.map (fun u => (u.host, u.auth)) = some (some [], some [117]) := by
  decide +kernel

/-- known finding `reparse-mismatch:zone-25-prefix`: "http://[::1%2525a]" has host "[::1%25a]"; its
string form "http://[::1%25a]" re-parses to host "[::1%a]" -/
theorem C14_reparse_zone25_witness :
    (parseUrl [104, 116, 116, 112, 58, 47, 47, 91, 58, 58, 49, 37, 50, 53, 50, 53, 97, 93]).toOption.map (·.host) =
      some (some [91, 58, 58, 49, 37, 50, 53, 97, 93]) ∧
    (parseUrl [104, 116, 116, 112, 58, 47, 47, 91, 58, 58, 49, 37, 50, 53, 97, 93]).toOption.map (·.host) =
      some (some [91, 58, 58, 49, 37, 97, 93]) := by
  decide +kernel

/-! ## the address matchers are blind to ASCII letter case -/

/-- `_IPV6_PAT`, `_IPV4_PAT`, `_ZONE_ID_PAT`, `_IPV6_ADDRZ_RE`, `_IPV4_RE` (as hand matchers) give the same
answer on a text and on its ASCII lower-case form — for every string; and the `%HH` scanner commutes
with lower-casing -/
theorem C14_matchers_case_blind (s : Str) :
    isIPv6 (lower s) = isIPv6 s ∧ isIPv4 (lower s) = isIPv4 s ∧ isZone (lower s) = isZone s ∧
    bracketOk (lower s) = bracketOk s ∧ ipv6AddrzMatch (lower s) = ipv6AddrzMatch s ∧
    ipv4Match (lower s) = ipv4Match s ∧ tokenize (lower s) = (tokenize s).map Tok.lower :=
  ⟨isIPv6_lower s, isIPv4_lower s, isZone_lower s, bracketOk_lower s, ipv6AddrzMatch_lower s,
    ipv4Match_lower s, tokenize_lower s⟩

/-- hence two spellings of one text (equal up to ASCII letter case) are matched alike -/
theorem C14_matchers_same_for_case_variants (s t : Str) (h : lower s = lower t) :
    isIPv6 s = isIPv6 t ∧ isIPv4 s = isIPv4 t ∧ isZone s = isZone t ∧
    ipv6AddrzMatch s = ipv6AddrzMatch t ∧ ipv4Match s = ipv4Match t :=
  ⟨case_of_lower isIPv6_lower h, case_of_lower isIPv4_lower h, case_of_lower isZone_lower h,
    case_of_lower ipv6AddrzMatch_lower h, case_of_lower ipv4Match_lower h⟩

-- non-vacuity: "FE80::A:1.2.3.4" and "fe80::a:1.2.3.4" are case variants, and both are addresses;
-- "[FE80::1%Eth0]" is matched like "[fe80::1%eth0]"
example : lower [70, 69, 56, 48, 58, 58, 65, 58, 49, 46, 50, 46, 51, 46, 52] =
    lower [102, 101, 56, 48, 58, 58, 97, 58, 49, 46, 50, 46, 51, 46, 52] := by decide +kernel
example : isIPv6 [70, 69, 56, 48, 58, 58, 65, 58, 49, 46, 50, 46, 51, 46, 52] = true := by decide +kernel
example : ipv6AddrzMatch [91, 70, 69, 56, 48, 58, 58, 49, 37, 69, 116, 104, 48, 93] = true ∧
    ipv6AddrzMatch (lower [91, 70, 69, 56, 48, 58, 58, 49, 37, 69, 116, 104, 48, 93]) = true := by decide +kernel

/-! ## `_normalize_host` on a bracketed literal: exactly the address part is lower-cased -/

/-- For every bracketed literal `_IPV6_ADDRZ_RE` matches (http / https / no scheme): without a zone id
the result is the text in lower case; with one — `[` a `%` z `]`, `a` free of `%` — it is `[`, the
address part `a` in lower case, `%`, and the zone id percent-encoded over the unreserved set **with its
letter case kept** (`zoneIdOf z` is `z` without the RFC 6874 delimiter `25`), `]`. -/
theorem C14_normalize_host_literal (idna : Str → Option Str) (sc : Option Str)
    (hs : sc ∈ [some http, some https, none]) :
    (∀ h, ipv6AddrzMatch h = true → 37 ∉ h → normalizeHost idna (some h) sc = .ok (some (lower h))) ∧
    (∀ a z, 37 ∉ a → ipv6AddrzMatch (91 :: (a ++ 37 :: (z ++ [93]))) = true →
      normalizeHost idna (some (91 :: (a ++ 37 :: (z ++ [93])))) sc =
        .ok (some (91 :: (lower a ++ 37 :: (encodeInvalidChars Gen.unreservedChars (zoneIdOf z) ++ [93]))))) :=
  ⟨fun _ hm h37 => normalizeHost_literal_nozone idna (normalizable_of_mem hs) hm h37,
   fun a z ha hm => normalizeHost_literal_zone idna (normalizable_of_mem hs) a z ha hm⟩

-- non-vacuity: "[FE80::1%25Eth0]" = "[" "FE80::1" "%" "25Eth0" "]" is matched, its address part has no "%",
-- and the kept zone id is "Eth0"
example : ipv6AddrzMatch (91 :: ([70, 69, 56, 48, 58, 58, 49] ++ 37 :: ([50, 53, 69, 116, 104, 48] ++ [93]))) = true ∧
    37 ∉ [70, 69, 56, 48, 58, 58, 49] ∧ zoneIdOf [50, 53, 69, 116, 104, 48] = [69, 116, 104, 48] := by decide +kernel

/-! ## idempotence of `_normalize_host` -/

/-
Full statement: `normalizeHost idna h sc = .ok h' → normalizeHost idna h' sc = .ok h'`.  FALSE in exactly
two situations:

* the result is a bracketed literal whose zone id starts with `25` and goes on (`zone25 h'`; known
  finding `reparse-mismatch:zone-25-prefix` / `host:not-idempotent:zone-25-prefix`, witness
  `C14_reparse_zone25_witness` above: "[::1%2525a]" → "[::1%25a]" → "[::1%a]").  The exclusion is exact:
  `C14_host_idempotent_zone25_exact` shows that every such result of a literal is *not* a fixed point;
* the host has a `[`, is not a bracketed literal, and a non-ASCII label sits inside the brackets, so
  that the IDNA answer completes a literal ("[::1%a%aa.é.b]" → "[::1%a%aa.xn--9ca.b]" →
  "[::1%a%AA.xn--9ca.b]", witness `C14_host_idn_in_brackets_witness`).  `parse_url` never hands such a
  text to `_normalize_host` (`_HOST_PORT_RE` captures a reg-name without `[` or a matched literal —
  `parse_host_origin`, `hostPortRe_host`), so this is outside the property; the hypothesis `hsrc` excludes it.

Proved: idempotence for every other host, every scheme, every IDNA oracle that keeps the contract
`IdnaLdh` (answers consist of lower-case letters, digits, `-`, `.`).
-/
theorem C14_host_idempotent (idna : Str → Option Str) (hc : IdnaLdh idna) (h : Option Str) (sc : Option Str)
    (h' : Option Str) (hh : normalizeHost idna h sc = .ok h')
    (hsrc : ∀ x, h = some x → x.all (· < 128) = true ∨ 91 ∉ x ∨ ipv6AddrzMatch x = true)
    (h25 : ∀ y, h' = some y → zone25 y = false) :
    normalizeHost idna h' sc = .ok h' :=
  normalizeHost_idempotent hc h sc h' hh hsrc h25

-- non-vacuity: the contract holds for the IDNA-free oracle; "[FE80::1%25Eth0]" is a bracketed literal
-- whose result "[fe80::1%Eth0]" has not the shape of the finding
example : IdnaLdh (fun _ => none) := by intro l r h; simp at h
example : ipv6AddrzMatch [91, 70, 69, 56, 48, 58, 58, 49, 37, 50, 53, 69, 116, 104, 48, 93] = true ∧
    normalizeHost (fun _ => none) (some [91, 70, 69, 56, 48, 58, 58, 49, 37, 50, 53, 69, 116, 104, 48, 93]) (some http) =
      .ok (some [91, 102, 101, 56, 48, 58, 58, 49, 37, 69, 116, 104, 48, 93]) ∧
    zone25 [91, 102, 101, 56, 48, 58, 58, 49, 37, 69, 116, 104, 48, 93] = false := by decide +kernel

/-- the `zone25` exclusion is exact: whenever `_normalize_host` (http / https / no scheme) maps a
bracketed literal to a text of the `zone25` shape, that text is **not** a fixed point -/
theorem C14_host_idempotent_zone25_exact (idna : Str → Option Str) (sc : Option Str)
    (hs : sc ∈ [some http, some https, none]) (h h' : Str) (hm : ipv6AddrzMatch h = true)
    (hh : normalizeHost idna (some h) sc = .ok (some h')) (h25 : zone25 h' = true) :
    normalizeHost idna (some h') sc ≠ .ok (some h') := by
  have hs' := normalizable_of_mem hs
  rcases normalizeHost_literal_shape hs' hm hh with ⟨-, -, hl⟩ | ⟨-, hz⟩
  · -- a literal without `%` has an empty zone id
    have : zoneOf h' = [] := by simp [zoneOf, takeWhile_ne_of_not_mem hl.2.1]
    simp [zone25, this, isPrefix] at h25
  · exact zoned25_not_fixed idna hs' hz h25

-- non-vacuity: "[::1%2525a]" → "[::1%25a]", which has the shape
example : normalizeHost (fun _ => none) (some [91, 58, 58, 49, 37, 50, 53, 50, 53, 97, 93]) (some http) =
    .ok (some [91, 58, 58, 49, 37, 50, 53, 97, 93]) ∧ zone25 [91, 58, 58, 49, 37, 50, 53, 97, 93] = true := by
  decide +kernel

/-- the other way to lose idempotence, outside what `parse_url` can reach: "[::1%a%aa.é.b]" is no
bracketed literal (the zone id may not contain "é"), so its labels are encoded one by one; with
`idna.encode("é") = "xn--9ca"` the result "[::1%a%aa.xn--9ca.b]" *is* a literal, and normalising it
again upper-cases the escape: "[::1%a%AA.xn--9ca.b]" -/
theorem C14_host_idn_in_brackets_witness :
    let idna : Str → Option Str := fun l => if l = [233] then some [120, 110, 45, 45, 57, 99, 97] else none
    IdnaLdh idna ∧
    ipv6AddrzMatch [91, 58, 58, 49, 37, 97, 37, 97, 97, 46, 233, 46, 98, 93] = false ∧
    normalizeHost idna (some [91, 58, 58, 49, 37, 97, 37, 97, 97, 46, 233, 46, 98, 93]) (some http) =
      .ok (some [91, 58, 58, 49, 37, 97, 37, 97, 97, 46, 120, 110, 45, 45, 57, 99, 97, 46, 98, 93]) ∧
    normalizeHost idna (some [91, 58, 58, 49, 37, 97, 37, 97, 97, 46, 120, 110, 45, 45, 57, 99, 97, 46, 98, 93])
      (some http) =
      .ok (some [91, 58, 58, 49, 37, 97, 37, 65, 65, 46, 120, 110, 45, 45, 57, 99, 97, 46, 98, 93]) := by
  refine ⟨?_, by decide +kernel, by decide +kernel, by decide +kernel⟩
  intro l r h
  simp only at h
  split at h
  · obtain rfl := Option.some.inj h
    decide +kernel
  · simp at h

/-! ## the host of a successful parse: lower case, shape, stability -/

/--
**Host lower-case clause of the normal form** (full).  On success with scheme http / https / none the
host is lower-case ASCII-wise up to its first `%`, and lower-case throughout unless it is a bracketed
IPv6 literal with a zone id: an RFC 6874 zone id keeps its letter case on purpose (and its escapes are
upper-cased), everything else — reg-name incl. its percent-escapes, dotted quad, address part of a
literal — is lower-cased.  Contract on the uninterpreted `idna.encode`: answers are lower-case. -/
theorem C14_host_lower (idna : Str → Option Str) (hc : ∀ l r, idna l = some r → lower r = r)
    (s : Str) (u : Url) (h : parseUrlWith idna s = .ok u) (hs : u.scheme ∈ [some http, some https, none])
    (h' : Str) (hh : u.host = some h') :
    lower (h'.takeWhile (· != 37)) = h'.takeWhile (· != 37) ∧
    (¬ (ipv6AddrzMatch h' = true ∧ 37 ∈ h') → lower h' = h') :=
  parsed_host_lower hc h (normalizable_of_mem hs) hh

/-- the same for `_normalize_host` itself, every host text: lower-case up to the first `%`; lower-case
throughout unless the *input* is a bracketed literal with a zone id, in which case the result is a
zoned literal in parsed form (`ZonedHost`: lower-case address part, normal-form zone id) -/
theorem C14_normalize_host_lower (idna : Str → Option Str) (hc : ∀ l r, idna l = some r → lower r = r)
    (h : Str) (sc : Option Str) (hs : sc ∈ [some http, some https, none])
    (h' : Str) (hh : normalizeHost idna (some h) sc = .ok (some h')) :
    lower (h'.takeWhile (· != 37)) = h'.takeWhile (· != 37) ∧
    (¬ (ipv6AddrzMatch h = true ∧ 37 ∈ h) → lower h' = h') ∧
    (ipv6AddrzMatch h = true → 37 ∈ h → ZonedHost h') :=
  normalizeHost_lower_full hc (normalizable_of_mem hs) hh

-- non-vacuity: "HTTP://ExAmple.COM%2F/" has host "example.com%2f" (escape lower-cased with the rest);
-- "http://[FE80::1%25Eth0]" has host "[fe80::1%Eth0]": a literal with zone id, lower-case up to "%";
-- "http://1.2.3.4" keeps its dotted quad
example : (parseUrl [72, 84, 84, 80, 58, 47, 47, 69, 120, 65, 109, 112, 108, 101, 46, 67, 79, 77, 37, 50, 70, 47]).toOption.map
    (fun u => (u.scheme, u.host)) =
    some (some http, some [101, 120, 97, 109, 112, 108, 101, 46, 99, 111, 109, 37, 50, 102]) := by decide +kernel
example : (parseUrl [104, 116, 116, 112, 58, 47, 47, 91, 70, 69, 56, 48, 58, 58, 49, 37, 50, 53, 69, 116, 104, 48, 93]).toOption.map
    (·.host) = some (some [91, 102, 101, 56, 48, 58, 58, 49, 37, 69, 116, 104, 48, 93]) := by decide +kernel
example : ipv6AddrzMatch [91, 102, 101, 56, 48, 58, 58, 49, 37, 69, 116, 104, 48, 93] = true ∧
    37 ∈ [91, 102, 101, 56, 48, 58, 58, 49, 37, 69, 116, 104, 48, 93] := by decide +kernel
example : (parseUrl [104, 116, 116, 112, 58, 47, 47, 49, 46, 50, 46, 51, 46, 52]).toOption.map (·.host) =
    some (some [49, 46, 50, 46, 51, 46, 52]) := by decide +kernel
example : ∀ l r, (fun _ => none : Str → Option Str) l = some r → lower r = r := by simp

/--
**The host of every successful http / https / scheme-less parse has one of three stable shapes**
(`U3.Lemmas.UrlHost`): `NameHost` — ASCII, lower-case, not a bracketed literal (reg-names incl.
A-labels and percent-escapes, dotted quads, the empty host); `LiteralHost` — a lower-case bracketed
IPv6 literal without `%`; `ZonedHost` — a bracketed IPv6 literal with lower-case address part, `%`, and
a zone id in normal form over the unreserved set.  These are the shapes `C15_host_stable_partial`
assumes.  Contract `IdnaLdh`: `idna.encode` answers with lower-case letters, digits, `-`, `.` only. -/
theorem C14_parsed_host_shape (idna : Str → Option Str) (hc : IdnaLdh idna) (s : Str) (u : Url)
    (h : parseUrlWith idna s = .ok u) (hs : u.scheme ∈ [some http, some https, none])
    (h' : Str) (hh : u.host = some h') : NameHost h' ∨ LiteralHost h' ∨ ZonedHost h' :=
  parsed_host_shape hc h (normalizable_of_mem hs) hh

/-- in particular the host of such a parse is pure ASCII (address parts consist of hex digits, `:`, `.`;
zone ids of unreserved characters and escapes; names of lower-cased ASCII labels and IDNA answers) -/
theorem C14_parsed_host_ascii (idna : Str → Option Str) (hc : IdnaLdh idna) (s : Str) (u : Url)
    (h : parseUrlWith idna s = .ok u) (hs : u.scheme ∈ [some http, some https, none])
    (h' : Str) (hh : u.host = some h') : h'.all (· < 128) = true :=
  shape_ascii (parsed_host_shape hc h (normalizable_of_mem hs) hh)

/-- hence normalising the parsed host once more (what a connection pool does) gives it back — unless
it has the `zone25` shape of the known finding (`C14_reparse_zone25_witness`,
`C14_host_idempotent_zone25_exact`) -/
theorem C14_parsed_host_fixed (idna : Str → Option Str) (hc : IdnaLdh idna) (s : Str) (u : Url)
    (h : parseUrlWith idna s = .ok u) (hs : u.scheme ∈ [some http, some https, none])
    (h' : Str) (hh : u.host = some h') (h25 : zone25 h' = false) :
    normalizeHost idna (some h') u.scheme = .ok (some h') :=
  parsed_host_fixed hc h (normalizable_of_mem hs) hh h25

-- non-vacuity: the three shapes occur ("http://Bücher.example" needs an IDNA answer, so the A-label is
-- written out here), and only the zoned literal of the finding has the `zone25` shape
example : NameHost [120, 110, 45, 45, 98, 99, 104, 101, 114, 45, 107, 118, 97, 46, 101, 120, 97, 109, 112, 108, 101] :=
  ⟨by decide +kernel, by decide +kernel, by decide +kernel⟩
example : NameHost [49, 46, 50, 46, 51, 46, 52] := ⟨by decide +kernel, by decide +kernel, by decide +kernel⟩
example : LiteralHost [91, 102, 101, 56, 48, 58, 58, 49, 93] := ⟨by decide +kernel, by decide +kernel, by decide +kernel⟩
example : ZonedHost [91, 102, 101, 56, 48, 58, 58, 49, 37, 69, 116, 104, 48, 93] :=
  ⟨by decide +kernel, by decide +kernel, [69, 116, 104, 48], by decide +kernel,
    ⟨[.chr 69, .chr 116, .chr 104, .chr 48], by decide +kernel, by decide +kernel⟩⟩
-- a parse that satisfies the hypotheses: "HTTP://ExAmple.COM:80/" has scheme http and host "example.com"
example : (parseUrl [72, 84, 84, 80, 58, 47, 47, 69, 120, 65, 109, 112, 108, 101, 46, 67, 79, 77, 58, 56, 48, 47]).toOption.map
    (fun u => (u.scheme, u.host)) = some (some http, some [101, 120, 97, 109, 112, 108, 101, 46, 99, 111, 109]) := by
  decide +kernel
example : zone25 [91, 102, 101, 56, 48, 58, 58, 49, 37, 69, 116, 104, 48, 93] = false ∧
    zone25 [91, 58, 58, 49, 37, 50, 53, 97, 93] = true ∧ zone25 [49, 46, 50, 46, 51, 46, 52] = false := by decide +kernel

/-! ## semantic facts about the generated tables the model uses -/

/-- the sets nest as in RFC 3986 and none of them contains `%`, space, control characters or
non-ASCII (that each contains the upper-case hex digits, which idempotence needs, is `encSet_of_mem`) -/
theorem C14_charsets_sane :
    Gen.unreservedChars ⊆ Gen.userinfoChars ∧ Gen.userinfoChars ⊆ Gen.pathChars ∧
    Gen.pathChars ⊆ Gen.queryChars ∧ Gen.queryChars ⊆ Gen.fragmentChars ∧
    (∀ c ∈ Gen.fragmentChars, 32 < c ∧ c < 127 ∧ c ≠ 37 ∧ c ≠ 35 ∧ c ≠ 92) ∧
    (∀ c ∈ Gen.userinfoChars, c ≠ 64 ∧ c ≠ 47 ∧ c ≠ 63) ∧ (∀ c ∈ Gen.pathChars, c ≠ 63) := by
  decide +kernel

/-- only http, https and "no scheme" are normalised -/
theorem C14_normalizable_schemes : Gen.normalizableSchemes ⊆ [some http, some https, none] := by
  decide +kernel

end U3.Props
