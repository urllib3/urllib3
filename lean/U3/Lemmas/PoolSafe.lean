import U3.Model.Pool
import U3.Lemmas.Pool
/-!
# Byte provenance in the pool lifecycle model (C03)

`Prov A s`: every response of state `s` was built from — and has delivered only — the bytes the scripted server sent
in reaction to *its own* request (an attempt `a` with `A rid a`), in order, never more than the declared length; nothing
is assumed about the caller.  `Safe s s'` is a transitive relation that contains every transformation which moves no
bytes (closing readers / connections, queue traffic, logging, new connections and sockets, forgetting a closed
`__response`, appending to a socket nobody reads from …) and keeps `Prov` (`Safe.prov`).  A read in progress hands its
bytes to the caller only at its end: in between, the reader `r` is judged in the state in which what it has collected
so far, `X`, is delivered already (`ProvAt A s r X`: `Prov A (deliver s r X)`, with `X = []` if there is no such
reader; `Safe.provAt`).
-/
namespace U3.Pool

def cellTag : Cell → Tag
  | .hd t _ => t
  | .body t _ => t
  | .fr t _ => t

def payloadCells (rid : Nat) (a : Attempt) : List Cell := a.body.map (Cell.body (.req rid))

def strayCells (a : Attempt) : List Cell := a.stray.map (Cell.body .stray)

/-- payload and unsolicited bytes: what a reader of a reply that is not chunked may be handed -/
def bodyCells (rid : Nat) (a : Attempt) : List Cell := payloadCells rid a ++ strayCells a

/-- `HEAD`, 1xx, 204, 304: no body whatever the headers say -/
def noBody (status : Nat) (isHead : Bool) : Bool :=
  status == 204 || status == 304 || (100 ≤ status && status < 200) || isHead

/-- `http.client`'s `length` right after `begin()` -/
def initLength (h : Head) (isHead : Bool) : Option Nat :=
  if noBody h.status isHead then some 0 else if h.chunked then none else h.cl

/-- the bound `length` puts on what is delivered: none for a chunked reply (`http.client` looks at
`chunked` before it looks at `length`), except that a reply to `HEAD` is never read at all -/
def lenBound (h : Head) (isHead : Bool) : Option Nat :=
  if h.chunked && !isHead then none else initLength h isHead

/-- what a reader of the reply may hand to the caller: the payload of a chunked reply; for a reply
that is not chunked whatever follows the head -/
def deliverable (rid : Nat) (a : Attempt) (h : Head) : List Cell :=
  if h.chunked then payloadCells rid a else bodyCells rid a

/-- where a reader stands in the chunked coding: before a chunk-size line, inside a chunk with `n` bytes to go, before
the CRLF that ends a chunk, after the last-chunk line -/
inductive Pos | size | data (n : Nat) | crlf | tail | bad
deriving DecidableEq

/-- the position encoded in the two `chunk_left` counters (`bad`: both parsers have been at work) -/
def respPos (rs : Resp) : Pos :=
  match rs.chunkLeft, rs.hcLeft with
  | some 0, none => .tail
  | some (n + 1), none => .data (n + 1)
  | some _, some _ => .bad
  | none, some 0 => .crlf
  | none, some (n + 1) => .data (n + 1)
  | none, none => .size

/-- `E` is a sequence of chunks with payload `B` -/
inductive Enc (t : Tag) : List Nat → List Cell → Prop
  | nil : Enc t [] []
  | cons (n : Nat) (B : List Nat) (E : List Cell) : 0 < n → n ≤ B.length → Enc t (B.drop n) E →
      Enc t B (oneChunk t (B.take n) ++ E)

def crlfCells (t : Tag) : List Cell := [Cell.fr t .cr, Cell.fr t .lf]

/-- what follows the chunks: last-chunk, trailer section, unsolicited bytes -/
def endCells (rid : Nat) (a : Attempt) : List Cell :=
  lastChunk (.req rid) ++ (trailerCells (.req rid) a.trailers ++ strayCells a)

/-- reader state `(pos, X)` — `X` handed (or about to be handed) to the caller — and the rest `Rem`
of the byte stream of the reply fit together -/
def Expect (rid : Nat) (a : Attempt) (h : Head) (pos : Pos) (X Rem : List Cell) : Prop :=
  if h.chunked then
    ∃ Brem : List Nat, X ++ Brem.map (Cell.body (.req rid)) = payloadCells rid a ∧
      match pos with
      | .size => ∃ E, Enc (.req rid) Brem E ∧ Rem = E ++ endCells rid a
      | .data n => 0 < n ∧ n ≤ Brem.length ∧ ∃ E, Enc (.req rid) (Brem.drop n) E ∧
          Rem = (Brem.take n).map (Cell.body (.req rid)) ++ (crlfCells (.req rid) ++ (E ++ endCells rid a))
      | .crlf => ∃ E, Enc (.req rid) Brem E ∧ Rem = crlfCells (.req rid) ++ (E ++ endCells rid a)
      | .tail => Brem = [] ∧ ∃ pre, pre ++ Rem = trailerCells (.req rid) a.trailers ++ strayCells a
      | .bad => False
  else X ++ Rem = bodyCells rid a

/-- response `rs`, reading from one of `socks`, is an honest reader of the reply to attempt `a` (head `h`) of its own request -/
structure Framed (A : Nat → Attempt → Prop) (socks : List Sock) (rs : Resp) (a : Attempt) (h : Head) : Prop where
  att : A rs.rid a
  head : a.head = some h
  st : rs.status = h.status
  ch : rs.chunked = h.chunked
  dpre : rs.delivered <+: deliverable rs.rid a h
  dlen : ∀ n, lenBound h rs.isHead = some n → rs.delivered.length ≤ n
  opn : ∀ k, rs.fp = some k → ∃ (sk : Sock) (Rem : List Cell), socks[k]? = some sk ∧
          Expect rs.rid a h (respPos rs) rs.delivered Rem ∧ rs.buf ++ sk.inbound <+: Rem ∧
          (∀ n, lenBound h rs.isHead = some n → ∃ l, rs.length = some l ∧ rs.delivered.length + l ≤ n)

def RespOk (A : Nat → Attempt → Prop) (socks : List Sock) (rs : Resp) : Prop :=
  (rs.fp = none ∧ rs.delivered = []) ∨ ∃ a h, Framed A socks rs a h

def NoHd (l : List Cell) : Prop := ∀ c ∈ l, ∀ t fin, c ≠ Cell.hd t fin

def NoConn (s : State) (k : Nat) : Prop := ∀ (c : Nat) (cn : Conn), s.conns[c]? = some cn → cn.sock ≠ some k

/-- the peer's FIN is pending (or has been seen) on socket `k` -/
def FinAt (s : State) (k : Nat) : Prop := ∃ sk : Sock, s.socks[k]? = some sk ∧ sk.after = .fin

structure Prov (A : Nat → Attempt → Prop) (s : State) : Prop where
  sockB : ∀ (c : Nat) (cn : Conn) (k : Nat), s.conns[c]? = some cn → cn.sock = some k → k < s.socks.length
  fpB : ∀ (i : Nat) (rs : Resp) (k : Nat), s.resps[i]? = some rs → rs.fp = some k → k < s.socks.length
  sockInj : ∀ (c c' : Nat) (cn cn' : Conn) (k : Nat), s.conns[c]? = some cn → s.conns[c']? = some cn' → cn.sock = some k → cn'.sock = some k → c = c'
  pend : ∀ (i : Nat) (rs : Resp) (c : Nat) (cn : Conn) (k : Nat), s.resps[i]? = some rs → rs.fp = some k → s.conns[c]? = some cn → cn.sock = some k →
    cn.pending = some i
  fpInj : ∀ (i j : Nat) (rs rs' : Resp) (k : Nat), s.resps[i]? = some rs → s.resps[j]? = some rs' → rs.fp = some k → rs'.fp = some k → i = j
  resp : ∀ (i : Nat) (rs : Resp), s.resps[i]? = some rs → RespOk A s.socks rs
  heldB : ∀ (k : Nat) (sk : Sock), s.socks[k]? = some sk → NoHd sk.held
  /-- a trailer loop that stopped at EOF of socket `k`: the FIN stays pending as long as a connection uses `k` -/
  eofB : ∀ (i : Nat) (rs : Resp) (k : Nat), s.resps[i]? = some rs → rs.eofAt = some k →
    k < s.socks.length ∧ (FinAt s k ∨ NoConn s k)

/-- the invariant with reader `r` judged as if `X`, what the read in progress has collected, were delivered already -/
structure ProvAt (A : Nat → Attempt → Prop) (s : State) (r : Nat) (X : List Cell) : Prop where
  prov : Prov A (deliver s r X)
  absent : s.resps[r]? = none → X = []

variable {A : Nat → Attempt → Prop}

def NoReader (s : State) (k : Nat) : Prop := ∀ (i : Nat) (rs : Resp), s.resps[i]? = some rs → rs.fp ≠ some k

structure Safe (s s' : State) : Prop where
  slen : s.socks.length ≤ s'.socks.length
  rlen : s.resps.length ≤ s'.resps.length
  st : ∀ (i : Nat) (rs rs' : Resp), s.resps[i]? = some rs → s'.resps[i]? = some rs' →
    rs'.status = rs.status ∧ rs'.length = rs.length ∧ rs'.chunked = rs.chunked
  sk : ∀ (i : Nat) (rs' : Resp) (k : Nat) (sk : Sock), s'.resps[i]? = some rs' → rs'.fp = some k → s.socks[k]? = some sk →
    ∃ sk', s'.socks[k]? = some sk' ∧ sk'.inbound = sk.inbound
  /-- responses: the old ones may have been closed, new ones are closed and empty -/
  rs : ∀ (i : Nat) (rs' : Resp), s'.resps[i]? = some rs' →
    (∃ rs : Resp, s.resps[i]? = some rs ∧ rs'.rid = rs.rid ∧ rs'.delivered = rs.delivered ∧ rs'.isHead = rs.isHead ∧
      (rs'.fp = none ∨ (rs'.fp = rs.fp ∧ rs'.buf = rs.buf ∧ rs'.length = rs.length ∧ respPos rs' = respPos rs))) ∨
    (s.resps[i]? = none ∧ rs'.fp = none ∧ rs'.delivered = [])
  /-- connections: a live socket of `s'` was the same connection's socket in `s` (`__response` kept,
  or nobody reads from that socket), or it is a brand-new socket -/
  cn : ∀ (c : Nat) (cn' : Conn) (k : Nat), s'.conns[c]? = some cn' → cn'.sock = some k →
    (∃ cn : Conn, s.conns[c]? = some cn ∧ cn.sock = some k ∧ (cn'.pending = cn.pending ∨ NoReader s' k)) ∨
    (s.socks.length ≤ k ∧ k < s'.socks.length ∧ NoReader s' k ∧
      ∀ (c2 : Nat) (cn2 : Conn), s'.conns[c2]? = some cn2 → cn2.sock = some k → c2 = c)
  /-- what a peer holds back is what it held back in `s`, or free of head bytes -/
  hd : ∀ (k : Nat) (sk' : Sock), s'.socks[k]? = some sk' →
    (∃ sk : Sock, s.socks[k]? = some sk ∧ sk'.held = sk.held) ∨ NoHd sk'.held
  fin : ∀ k : Nat, FinAt s k → FinAt s' k
  eo : ∀ (i : Nat) (rs' : Resp) (k : Nat), s'.resps[i]? = some rs' → rs'.eofAt = some k →
    (∃ rs : Resp, s.resps[i]? = some rs ∧ rs.eofAt = some k) ∨ FinAt s' k

theorem postCells_plain {rid : Nat} {a : Attempt} {h : Head} (hc : h.chunked = false) :
    postCells rid a h = bodyCells rid a := by
  simp [postCells, framedCells, hc, bodyCells, payloadCells, strayCells]

theorem serverCells_none {rid : Nat} {a : Attempt} (hh : a.head = none) : serverCells rid a = [] := by
  simp [serverCells, hh]

theorem serverNow_none {rid : Nat} {a : Attempt} (hh : a.head = none) : serverNow rid a = [] := by
  simp [serverNow, hh]

theorem serverNow_some {rid : Nat} {a : Attempt} {h : Head} (hh : a.head = some h) :
    serverNow rid a = headCells rid a.headLen h ++ (postCells rid a h).take ((postCells rid a h).length - a.hold) := by
  simp [serverNow, hh]

theorem deliverable_chunked {rid : Nat} {a : Attempt} {h : Head} (hc : h.chunked = true) :
    deliverable rid a h = payloadCells rid a := by
  simp [deliverable, hc]

theorem deliverable_plain {rid : Nat} {a : Attempt} {h : Head} (hc : h.chunked = false) :
    deliverable rid a h = bodyCells rid a := by
  simp [deliverable, hc]

theorem lenBound_chunked {h : Head} (hc : h.chunked = true) : lenBound h false = none := by
  unfold lenBound
  simp [hc]

theorem lenBound_plain {h : Head} {b : Bool} (hc : h.chunked = false) : lenBound h b = initLength h b := by
  unfold lenBound
  simp [hc]

theorem lenBound_some {h : Head} {b : Bool} {n : Nat} (hn : lenBound h b = some n) : initLength h b = some n := by
  unfold lenBound at hn
  split at hn
  · cases hn
  · exact hn

theorem respFpClosed_iff (s : State) (r : Nat) :
    respFpClosed s r = true ↔ ∀ rs, s.resps[r]? = some rs → rs.fp = none := by
  unfold respFpClosed
  cases h : s.resps[r]? with
  | none => simp
  | some rs => cases h' : rs.fp <;> simp [h']

/-- response `r`, which is `rs`, is open on socket `k` -/
structure OpenAt (s : State) (r k : Nat) (rs : Resp) : Prop where
  resp : s.resps[r]? = some rs
  fp : rs.fp = some k

theorem respFpClosed_false {s : State} {r : Nat} (h : respFpClosed s r = false) : ∃ (rs : Resp) (k : Nat), OpenAt s r k rs := by
  unfold respFpClosed at h
  split at h
  · cases h
  · rename_i rs hrs
    cases hfp : rs.fp with
    | none =>
      rw [hfp] at h
      cases h
    | some k => exact ⟨rs, k, hrs, hfp⟩

theorem FinAt.readable {s : State} {k : Nat} (h : FinAt s k) : sockReadable s k = true := by
  obtain ⟨sk, h1, h2⟩ := h
  simp [sockReadable, h1, h2]

theorem Safe.refl (s : State) : Safe s s :=
  ⟨Nat.le_refl _, Nat.le_refl _, fun _ _ _ h1 h2 => by rw [h1] at h2; cases h2; exact ⟨rfl, rfl, rfl⟩,
    fun _ _ _ sk _ _ h => ⟨sk, h, rfl⟩, fun _ rs' h => Or.inl ⟨rs', h, rfl, rfl, rfl, Or.inr ⟨rfl, rfl, rfl, rfl⟩⟩,
    fun _ cn' _ h1 h2 => Or.inl ⟨cn', h1, h2, Or.inl rfl⟩, fun _ sk' h => Or.inl ⟨sk', h, rfl⟩, fun _ h => h,
    fun _ rs' _ h1 h2 => Or.inl ⟨rs', h1, h2⟩⟩

theorem Safe.congr {s t u : State} (hc : u.conns = t.conns) (hr : u.resps = t.resps) (hs : u.socks = t.socks)
    (h : Safe s t) : Safe s u := by
  cases t
  cases u
  dsimp only at hc hr hs
  subst hc hr hs
  exact ⟨h.slen, h.rlen, h.st, h.sk, h.rs, h.cn, h.hd, h.fin, h.eo⟩

theorem safe_core {s s' : State} (h1 : s'.conns = s.conns) (h2 : s'.resps = s.resps) (h3 : s'.socks = s.socks) :
    Safe s s' := (Safe.refl s).congr h1 h2 h3

theorem safe_conns {s s' : State} (hr : s'.resps = s.resps) (hs : s'.socks = s.socks)
    (h : ∀ (c : Nat) (cn' : Conn) (k : Nat), s'.conns[c]? = some cn' → cn'.sock = some k →
      ∃ cn : Conn, s.conns[c]? = some cn ∧ cn.sock = some k ∧ (cn'.pending = cn.pending ∨ NoReader s k)) : Safe s s' :=
  let e := Safe.refl s
  Safe.congr (t := { s with conns := s'.conns }) rfl hr hs
    ⟨e.slen, e.rlen, e.st, e.sk, e.rs, fun c cn' k h1 h2 => Or.inl (h c cn' k h1 h2), e.hd, e.fin, e.eo⟩

theorem Safe.open_old {s s' : State} (h : Safe s s') {i : Nat} {rs' : Resp} {k : Nat}
    (h1 : s'.resps[i]? = some rs') (h2 : rs'.fp = some k) : ∃ rs, s.resps[i]? = some rs ∧ rs.fp = some k := by
  rcases h.rs i rs' h1 with ⟨rs, a, _, _, _, e⟩ | ⟨_, b, _⟩
  · rcases e with e | ⟨e1, _⟩
    · rw [e] at h2
      cases h2
    · exact ⟨rs, a, by rw [← e1]; exact h2⟩
  · rw [b] at h2
    cases h2

theorem Safe.noReader {s s' : State} (h : Safe s s') {k : Nat} (n : NoReader s k) : NoReader s' k := by
  intro i rs' h1 h2
  obtain ⟨rs, a, b⟩ := h.open_old h1 h2
  exact n i rs a b

theorem Safe.closed {s s' : State} (h : Safe s s') {r : Nat} (hc : respFpClosed s r = true) : respFpClosed s' r = true := by
  rw [respFpClosed_iff] at hc ⊢
  intro rs' h1
  rcases h.rs r rs' h1 with ⟨rs, h0, _, _, _, e⟩ | ⟨_, e, _⟩
  · rcases e with e | ⟨e, _, _⟩
    · exact e
    · rw [e]
      exact hc rs h0
  · exact e

theorem Safe.trans {s t u : State} (a : Safe s t) (b : Safe t u) : Safe s u := by
  refine ⟨Nat.le_trans a.slen b.slen, Nat.le_trans a.rlen b.rlen, ?_, ?_, ?_, ?_, ?_, fun k h => b.fin k (a.fin k h), ?_⟩
  · intro i rs rs' h1 h2
    have ht := List.getElem?_eq_getElem (Nat.lt_of_lt_of_le (getElem?_lt h1) a.rlen)
    obtain ⟨b1, b2, b3⟩ := b.st i _ rs' ht h2
    obtain ⟨a1, a2, a3⟩ := a.st i rs _ h1 ht
    exact ⟨b1.trans a1, b2.trans a2, b3.trans a3⟩
  · intro i rs' k sk h1 h2 h3
    obtain ⟨rt, ht, hfp⟩ := b.open_old h1 h2
    obtain ⟨sk1, hs1, e1⟩ := a.sk i rt k sk ht hfp h3
    obtain ⟨sk2, hs2, e2⟩ := b.sk i rs' k sk1 h1 h2 hs1
    exact ⟨sk2, hs2, e2.trans e1⟩
  · intro i rs' h
    rcases b.rs i rs' h with ⟨rt, ht, b1, b2, b3, b4⟩ | ⟨ht, b1, b2⟩
    · rcases a.rs i rt ht with ⟨r0, h0, a1, a2, a3, a4⟩ | ⟨h0, a1, a2⟩
      · refine Or.inl ⟨r0, h0, b1.trans a1, b2.trans a2, b3.trans a3, ?_⟩
        rcases b4 with b4 | ⟨b4, b5, b6, b7⟩
        · exact Or.inl b4
        · rcases a4 with a4 | ⟨a4, a5, a6, a7⟩
          · exact Or.inl (b4.trans a4)
          · exact Or.inr ⟨b4.trans a4, b5.trans a5, b6.trans a6, b7.trans a7⟩
      · refine Or.inr ⟨h0, ?_, b2.trans a2⟩
        rcases b4 with b4 | ⟨b4, _, _⟩
        · exact b4
        · exact b4.trans a1
    · exact Or.inr ⟨List.getElem?_eq_none (Nat.le_trans a.rlen (List.getElem?_eq_none_iff.mp ht)), b1, b2⟩
  · intro c cu k h1 h2
    rcases b.cn c cu k h1 h2 with ⟨ct, ht, hk, hp⟩ | ⟨g1, g2, g3, g4⟩
    · rcases a.cn c ct k ht hk with ⟨cs, hs, hk', hp'⟩ | ⟨g1, g2, g3, g4⟩
      · refine Or.inl ⟨cs, hs, hk', ?_⟩
        rcases hp with hp | hp
        · exact hp'.imp hp.trans b.noReader
        · exact Or.inr hp
      · refine Or.inr ⟨g1, Nat.lt_of_lt_of_le g2 b.slen, b.noReader g3, ?_⟩
        intro c2 cn2 e1 e2
        rcases b.cn c2 cn2 k e1 e2 with ⟨ct2, ht2, hk2, _⟩ | ⟨q1, _, _, _⟩
        · exact g4 c2 ct2 ht2 hk2
        · omega
    · exact Or.inr ⟨Nat.le_trans a.slen g1, g2, g3, g4⟩
  · intro k sk' h1
    rcases b.hd k sk' h1 with ⟨sk1, g1, g2⟩ | g
    · rcases a.hd k sk1 g1 with ⟨sk0, g3, g4⟩ | g
      · exact Or.inl ⟨sk0, g3, g2.trans g4⟩
      · exact Or.inr (g2 ▸ g)
    · exact Or.inr g
  · intro i rs' k h1 h2
    rcases b.eo i rs' k h1 h2 with ⟨rt, g1, g2⟩ | g
    · exact (a.eo i rt k g1 g2).imp id (b.fin k)
    · exact Or.inr g

/-- beyond what `Safe` allows, a connection may take a new `__response` on a socket nobody read from, and a reader may
open as the only reader of its socket and the `__response` of every connection on it; every response of `s'` is judged
afresh -/
theorem Prov.step {s s' : State} (p : Prov A s) (slen : s.socks.length ≤ s'.socks.length)
    (fin : ∀ k : Nat, FinAt s k → FinAt s' k) (held : ∀ (k : Nat) (sk' : Sock), s'.socks[k]? = some sk' → NoHd sk'.held)
    (cn : ∀ (c : Nat) (cn' : Conn) (k : Nat), s'.conns[c]? = some cn' → cn'.sock = some k →
      (∃ cn : Conn, s.conns[c]? = some cn ∧ cn.sock = some k ∧ (cn'.pending = cn.pending ∨ NoReader s' k ∨ NoReader s k)) ∨
      (s.socks.length ≤ k ∧ k < s'.socks.length ∧ NoReader s' k ∧
        ∀ (c2 : Nat) (cn2 : Conn), s'.conns[c2]? = some cn2 → cn2.sock = some k → c2 = c))
    (rs : ∀ (i : Nat) (rs' : Resp), s'.resps[i]? = some rs' → RespOk A s'.socks rs' ∧
      (∀ k, rs'.fp = some k → (∃ rs : Resp, s.resps[i]? = some rs ∧ rs.fp = some k) ∨
        (k < s'.socks.length ∧ (∀ (j : Nat) (rj : Resp), s'.resps[j]? = some rj → rj.fp = some k → j = i) ∧
          ∀ (c : Nat) (cn' : Conn), s'.conns[c]? = some cn' → cn'.sock = some k → cn'.pending = some i)) ∧
      ∀ k, rs'.eofAt = some k → (∃ rs : Resp, s.resps[i]? = some rs ∧ rs.eofAt = some k) ∨ FinAt s' k) : Prov A s' := by
  refine ⟨?_, ?_, ?_, ?_, ?_, fun i rs' h1 => (rs i rs' h1).1, held, ?_⟩
  · intro c cn' k h1 h2
    rcases cn c cn' k h1 h2 with ⟨cn0, hs, hk, _⟩ | ⟨_, g2, _, _⟩
    · exact Nat.lt_of_lt_of_le (p.sockB c cn0 k hs hk) slen
    · exact g2
  · intro i rs' k h1 h2
    rcases (rs i rs' h1).2.1 k h2 with ⟨rs0, a, b⟩ | ⟨g, _⟩
    · exact Nat.lt_of_lt_of_le (p.fpB i rs0 k a b) slen
    · exact g
  · intro c c' cn1 cn2 k h1 h2 h3 h4
    rcases cn c cn1 k h1 h3 with ⟨c0, hs, hk, _⟩ | ⟨_, _, _, g4⟩
    · rcases cn c' cn2 k h2 h4 with ⟨c0', hs', hk', _⟩ | ⟨_, _, _, g4'⟩
      · exact p.sockInj c c' c0 c0' k hs hs' hk hk'
      · exact g4' c cn1 h1 h3
    · exact (g4 c' cn2 h2 h4).symm
  · intro i rs' c cn' k h1 h2 h3 h4
    rcases (rs i rs' h1).2.1 k h2 with ⟨rs0, a, b⟩ | ⟨_, _, g⟩
    · rcases cn c cn' k h3 h4 with ⟨c0, hs, hk, hp⟩ | ⟨_, _, g3, _⟩
      · rcases hp with hp | hp | hp
        · rw [hp]
          exact p.pend i rs0 c c0 k a b hs hk
        · exact absurd h2 (hp i rs' h1)
        · exact absurd b (hp i rs0 a)
      · exact absurd h2 (g3 i rs' h1)
    · exact g c cn' h3 h4
  · intro i j r1 r2 k h1 h2 h3 h4
    rcases (rs i r1 h1).2.1 k h3 with ⟨q1, a1, b1⟩ | ⟨_, u1, _⟩
    · rcases (rs j r2 h2).2.1 k h4 with ⟨q2, a2, b2⟩ | ⟨_, u2, _⟩
      · exact p.fpInj i j q1 q2 k a1 a2 b1 b2
      · exact u2 i r1 h1 h3
    · exact (u1 j r2 h2 h4).symm
  · intro i rs' k h1 h2
    rcases (rs i rs' h1).2.2 k h2 with ⟨rs0, g1, g2⟩ | ⟨sk, g1, g2⟩
    · obtain ⟨q1, q2⟩ := p.eofB i rs0 k g1 g2
      refine ⟨Nat.lt_of_lt_of_le q1 slen, q2.imp (fin k) fun q2 c cn' hc hs => ?_⟩
      -- a connection through socket `k` would have been one in `s`, or `k` would be a new socket
      rcases cn c cn' k hc hs with ⟨cn0, g3, g4, _⟩ | ⟨g3, _⟩
      · exact q2 c cn0 g3 g4
      · omega
    · exact ⟨getElem?_lt g1, Or.inl ⟨sk, g1, g2⟩⟩

/-- response `rs` with `d` more delivered -/
def Resp.add (rs : Resp) (d : List Cell) : Resp := { rs with delivered := rs.delivered ++ d }

theorem Resp.add_nil (rs : Resp) : rs.add [] = rs := by simp [Resp.add]

theorem deliver_nil (s : State) (r : Nat) : deliver s r [] = s := by
  have : (deliver s r []).resps = s.resps := by
    refine List.ext_getElem? fun i => ?_
    simp only [deliver, setResp, List.getElem?_modify]
    split <;> cases s.resps[i]? <;> simp
  cases s
  simpa [deliver, setResp] using this

theorem respOk_socks {socks socks' : List Sock} {rs : Resp}
    (hs : ∀ k, rs.fp = some k → socks'[k]? = socks[k]?) (h : RespOk A socks rs) : RespOk A socks' rs := by
  rcases h with h | ⟨a, hd, fr⟩
  · exact Or.inl h
  · exact Or.inr ⟨a, hd, { fr with opn := fun k hk => by rw [hs k hk]; exact fr.opn k hk }⟩

/-- along a step that moves no bytes a response stays good, whatever it has collected -/
theorem Safe.respOk {s s' : State} (h : Safe s s') {i : Nat} {rs rs' : Resp} (h0 : s.resps[i]? = some rs)
    (h1 : s'.resps[i]? = some rs') (d : List Cell) (q : RespOk A s.socks (rs.add d)) : RespOk A s'.socks (rs'.add d) := by
  rcases h.rs i rs' h1 with ⟨rs0, g0, e1, e2, e3, e4⟩ | ⟨hnone, _⟩
  · cases h0.symm.trans g0
    have e1 : (rs'.add d).rid = (rs.add d).rid := e1
    have e2 : (rs'.add d).delivered = (rs.add d).delivered := congrArg (· ++ d) e2
    have e3 : (rs'.add d).isHead = (rs.add d).isHead := e3
    rcases q with ⟨q1, q2⟩ | ⟨a, hd, fr⟩
    · exact .inl ⟨e4.elim id fun e => e.1.trans q1, e2.trans q2⟩
    · obtain ⟨e5, _, e6⟩ := h.st i rs rs' h0 h1
      refine .inr ⟨a, hd, ⟨by rw [e1]; exact fr.att, fr.head, e5.trans fr.st, e6.trans fr.ch, by rw [e1, e2]; exact fr.dpre,
        by rw [e2, e3]; exact fr.dlen, fun k hk => ?_⟩⟩
      rcases e4 with e4 | ⟨e4, e5, e6, e7⟩
      · cases e4.symm.trans hk
      · obtain ⟨sk, Rem, hsk, q0, q1, q2⟩ := fr.opn k (e4.symm.trans hk)
        obtain ⟨sk', hsk', q3⟩ := h.sk i rs' k sk h1 hk hsk
        have e7 : respPos (rs'.add d) = respPos (rs.add d) := e7
        exact ⟨sk', Rem, hsk', by rw [e1, e2, e7]; exact q0, by rw [show (rs'.add d).buf = rs.buf from e5, q3]; exact q1,
          by rw [e2, e3, show (rs'.add d).length = rs.length from e6]; exact q2⟩
  · cases h0.symm.trans hnone

theorem deliver_some {s : State} {r i : Nat} {d : List Cell} {x : Resp} (h : (deliver s r d).resps[i]? = some x) :
    ∃ rs, s.resps[i]? = some rs ∧ x = rs.add (if i = r then d else []) := by
  obtain ⟨rs, hrs, rfl⟩ := modify_some h
  refine ⟨rs, hrs, ?_⟩
  split <;> rename_i hir
  · rw [if_pos hir.symm]
    rfl
  · rw [if_neg (Ne.symm hir), Resp.add_nil]

theorem deliver_at {s : State} {r i : Nat} (d : List Cell) {rs : Resp} (h : s.resps[i]? = some rs) :
    (deliver s r d).resps[i]? = some (rs.add (if i = r then d else [])) := by
  by_cases hir : i = r
  · subst hir
    rw [if_pos rfl]
    exact setResp_at _ h
  · rw [if_neg hir, Resp.add_nil, ← h]
    exact setResp_ne s _ hir

theorem deliver_setResp (s : State) (r : Nat) (f : Resp → Resp) (d : List Cell) :
    deliver (setResp s r f) r d = setResp s r fun x => (f x).add d := by
  simp only [deliver, setResp, List.modify_modify_eq]
  rfl

theorem noReader_deliver {s : State} {k : Nat} (r : Nat) (d : List Cell) (n : NoReader s k) : NoReader (deliver s r d) k := by
  intro i x h
  obtain ⟨rs, hrs, rfl⟩ := deliver_some h
  exact n i rs hrs

theorem Prov.at {s : State} (p : Prov A s) (r : Nat) : ProvAt A s r [] := ⟨by rwa [deliver_nil], fun _ => rfl⟩

theorem ProvAt.of {s : State} {r : Nat} {X : List Cell} {rs : Resp} (p : Prov A (deliver s r X)) (hr : s.resps[r]? = some rs) :
    ProvAt A s r X := ⟨p, fun h => nomatch hr.symm.trans h⟩

theorem ProvAt.nil {s : State} {r : Nat} (p : ProvAt A s r []) : Prov A s := by
  have := p.prov
  rwa [deliver_nil] at this

/-- a step that moves no bytes keeps the invariant, also with a reader judged by what it has collected -/
theorem Safe.provAt {s s' : State} (h : Safe s s') {r : Nat} {d : List Cell} (p : ProvAt A s r d) : ProvAt A s' r d := by
  refine ⟨?_, fun hn => p.absent (List.getElem?_eq_none (Nat.le_trans h.rlen (List.getElem?_eq_none_iff.mp hn)))⟩
  have hr := p.absent
  have p := p.prov
  refine p.step h.slen h.fin ?_ (fun c cn' k h1 h2 => (h.cn c cn' k h1 h2).imp
    (fun ⟨cn, a, b, e⟩ => ⟨cn, a, b, e.imp_right fun n => .inl (noReader_deliver r d n)⟩)
    fun ⟨a, b, n, e⟩ => ⟨a, b, noReader_deliver r d n, e⟩) fun i x h1 => ?_
  · intro k sk' h1
    rcases h.hd k sk' h1 with ⟨sk, g1, g2⟩ | g
    · rw [g2]
      exact p.heldB k sk g1
    · exact g
  · obtain ⟨rs', g1, rfl⟩ := deliver_some h1
    rcases h.rs i rs' g1 with ⟨rs, g0, -⟩ | ⟨hnone, e1, e2⟩
    · refine ⟨h.respOk g0 g1 _ (p.resp i _ (deliver_at d g0)), fun k hk => ?_, fun k hk => ?_⟩
      · obtain ⟨rs0, a, b⟩ := h.open_old g1 hk
        exact .inl ⟨_, deliver_at d a, b⟩
      · exact (h.eo i rs' k g1 hk).imp (fun ⟨rs0, a, b⟩ => ⟨_, deliver_at d a, b⟩) id
    · refine ⟨.inl ⟨e1, ?_⟩, fun k hk => ?_, fun k hk => (h.eo i rs' k g1 hk).imp (fun ⟨rs0, a, _⟩ => ?_) id⟩
      · show rs'.delivered ++ _ = []
        rw [e2]
        split
        · rename_i hir
          exact hr (hir ▸ hnone)
        · rfl
      · cases e1.symm.trans hk
      · cases hnone.symm.trans a

theorem Safe.prov {s s' : State} (h : Safe s s') (p : Prov A s) : Prov A s' := (h.provAt (p.at 0)).nil

theorem setResp_safe (s : State) (r : Nat) (g : Resp → Resp)
    (hg : ∀ x, (g x).rid = x.rid ∧ (g x).delivered = x.delivered ∧ (g x).isHead = x.isHead ∧
      ((g x).fp = none ∨ ((g x).fp = x.fp ∧ (g x).buf = x.buf ∧ (g x).length = x.length ∧ respPos (g x) = respPos x)))
    (hst : ∀ x, (g x).status = x.status ∧ (g x).length = x.length ∧ (g x).chunked = x.chunked := by intro x; exact ⟨rfl, rfl, rfl⟩)
    (heo : ∀ x, (g x).eofAt = x.eofAt := by intro x; rfl) :
    Safe s (setResp s r g) := by
  have e := Safe.refl s
  refine ⟨e.slen, by simp [setResp], ?_, fun _ _ _ sk _ _ h => ⟨sk, h, rfl⟩, ?_, fun _ cn' _ h1 h2 => Or.inl ⟨cn', h1, h2, Or.inl rfl⟩, e.hd, e.fin, ?_⟩
  · intro i rs rs' h1 h2
    obtain ⟨x, hx, rfl⟩ := modify_some h2
    rw [h1] at hx
    cases hx
    split
    · exact hst _
    · exact ⟨rfl, rfl, rfl⟩
  · intro i rs' h
    obtain ⟨x, hx, rfl⟩ := modify_some h
    refine Or.inl ⟨x, hx, ?_⟩
    split
    · exact hg x
    · exact ⟨rfl, rfl, rfl, Or.inr ⟨rfl, rfl, rfl, rfl⟩⟩
  · intro i rs' k h1 h2
    obtain ⟨x, hx, rfl⟩ := modify_some h1
    refine Or.inl ⟨x, hx, ?_⟩
    split at h2
    · rw [← heo x]
      exact h2
    · exact h2

theorem setConn_safe (s : State) (c : Nat) (g : Conn → Conn)
    (hg : ∀ x, (g x).sock = none ∨ ((g x).sock = x.sock ∧ (g x).pending = x.pending)) :
    Safe s (setConn s c g) := by
  refine safe_conns rfl rfl fun c' cn' k h1 h2 => ?_
  obtain ⟨x, hx, rfl⟩ := modify_some h1
  refine ⟨x, hx, ?_⟩
  split at h2 <;> rename_i hcc
  · rcases hg x with h' | ⟨h', h''⟩
    · rw [h'] at h2
      cases h2
    · exact ⟨h' ▸ h2, Or.inl (by rw [if_pos hcc, h''])⟩
  · exact ⟨h2, Or.inl (by rw [if_neg hcc])⟩

/-- `__response`, if any, is not a closed response (so `forgetClosedPending` does nothing) -/
def Settled (s : State) (c : Nat) : Prop :=
  ∀ (cn : Conn) (r : Nat) (rs : Resp), s.conns[c]? = some cn → cn.pending = some r → s.resps[r]? = some rs → rs.fp.isNone = false

theorem forget_cases (s : State) (c : Nat) :
    (forgetClosedPending s c = s ∧ Settled s c) ∨ ∃ cn : Conn, s.conns[c]? = some cn ∧
      forgetClosedPending s c = (setConn s c fun x => { x with pending := none }) ∧
      ∃ (r : Nat) (rs : Resp), cn.pending = some r ∧ s.resps[r]? = some rs ∧ rs.fp = none := by
  unfold forgetClosedPending Settled
  split
  · rename_i h0
    exact Or.inl ⟨rfl, fun cn r rs h => by rw [h0] at h; cases h⟩
  · rename_i cn hcn
    split
    · rename_i hp
      refine Or.inl ⟨rfl, fun cn' r rs h1 h2 => ?_⟩
      rw [hcn] at h1
      cases h1
      rw [hp] at h2
      cases h2
    · rename_i r hr
      split
      · rename_i hn
        refine Or.inl ⟨rfl, fun cn' r' rs h1 h2 h3 => ?_⟩
        rw [hcn] at h1
        cases h1
        rw [hr] at h2
        cases h2
        rw [hn] at h3
        cases h3
      · rename_i rs hrs
        split
        · rename_i hfp
          exact Or.inr ⟨cn, hcn, rfl, r, rs, hr, hrs, by simpa using hfp⟩
        · rename_i hfp
          refine Or.inl ⟨rfl, fun cn' r' rs' h1 h2 h3 => ?_⟩
          rw [hcn] at h1
          cases h1
          rw [hr] at h2
          cases h2
          rw [hrs] at h3
          cases h3
          cases hq : rs.fp.isNone with
          | false => rfl
          | true => exact absurd hq hfp

theorem forget_safe {s : State} (p : Prov A s) (c : Nat) :
    Safe s (forgetClosedPending s c) := by
  rcases forget_cases s c with ⟨e, _⟩ | ⟨cn, hcn, e, r, rs, hr, hrs, hfp⟩
  · rw [e]
    exact Safe.refl s
  · rw [e]
    refine safe_conns rfl rfl fun c' cn' k h1 h2 => ?_
    obtain ⟨x, hx, rfl⟩ := modify_some h1
    refine ⟨x, hx, ?_⟩
    split at h2 <;> rename_i hcc
    · subst hcc
      refine ⟨h2, Or.inr fun i ri hi hk => ?_⟩
      -- the only possible reader of socket `k` is the connection's `__response`, and that one is closed
      rw [hcn] at hx
      cases hx
      have := p.pend i ri c cn k hi hk hcn h2
      rw [hr] at this
      cases this
      rw [hrs] at hi
      cases hi
      rw [hfp] at hk
      cases hk
    · exact ⟨h2, Or.inl (by rw [if_neg hcc])⟩

theorem markReturned_safe (s : State) (r : Nat) : Safe s (markReturned s r) :=
  setResp_safe s r _ (fun x => ⟨rfl, rfl, rfl, Or.inr ⟨rfl, rfl, rfl, rfl⟩⟩)

theorem newConn_safe (s : State) : Safe s (newConn s).1 := by
  refine safe_conns rfl rfl fun c cn' k h1 h2 => ?_
  rcases append_one_some h1 with h1 | ⟨_, rfl⟩
  · exact ⟨cn', h1, h2, Or.inl rfl⟩
  · cases h2

theorem safe_pooling : Pooling Safe where
  refl := Safe.refl
  trans := Safe.trans
  log := fun _ _ => safe_core rfl rfl rfl
  fp := fun s r => setResp_safe s r _ fun _ => ⟨rfl, rfl, rfl, .inl rfl⟩
  conn := fun s c => setConn_safe s c _ fun _ => .inl rfl
  queue := fun _ _ _ => safe_core rfl rfl rfl
  unhold := fun s r => setResp_safe s r _ fun _ => ⟨rfl, rfl, rfl, .inr ⟨rfl, rfl, rfl, rfl⟩⟩
  new := newConn_safe

theorem closeFp_closed_of {s : State} {r i : Nat} (hc : respFpClosed s i = true) : respFpClosed (closeFp s r) i = true :=
  (safe_pooling.closeFp s r).closed hc

theorem appendSock_safe (s : State) (x : Sock) (hx : x.held = []) : Safe s { s with socks := s.socks ++ [x] } := by
  have e := Safe.refl s
  have old : ∀ (k : Nat) (sk : Sock), s.socks[k]? = some sk → (s.socks ++ [x])[k]? = some sk :=
    fun k sk h => by rw [List.getElem?_append_left (getElem?_lt h)]; exact h
  refine ⟨by simp, e.rlen, e.st, fun _ _ k sk _ _ h => ⟨sk, old k sk h, rfl⟩, e.rs, fun _ cn' _ h1 h2 => Or.inl ⟨cn', h1, h2, Or.inl rfl⟩, ?_,
    fun k ⟨sk, h1, h2⟩ => ⟨sk, old k sk h1, h2⟩, fun _ rs' _ h1 h2 => Or.inl ⟨rs', h1, h2⟩⟩
  intro k sk' h1
  rcases append_one_some h1 with h1 | ⟨_, rfl⟩
  · exact Or.inl ⟨sk', h1, rfl⟩
  · exact Or.inr (by rw [hx]; intro c hc; cases hc)

theorem setSock_safe (s : State) (k : Nat) (g : Sock → Sock) (hg : (∀ x, (g x).inbound = x.inbound) ∨ NoReader s k)
    (hh : ∀ x, (g x).held = x.held ∨ NoHd (g x).held := by intro x; exact Or.inl rfl)
    (hf : (∀ x : Sock, x.after = .fin → (g x).after = .fin) ∨ ¬ FinAt s k := by left; intro x h; exact h) :
    Safe s (setSock s k g) := by
  have e := Safe.refl s
  refine ⟨by simp [setSock], e.rlen, e.st, ?_, e.rs, fun _ cn' _ h1 h2 => Or.inl ⟨cn', h1, h2, Or.inl rfl⟩, ?_, ?_, fun _ rs' _ h1 h2 => Or.inl ⟨rs', h1, h2⟩⟩
  · intro i rs' k' sk h1 h2 h
    by_cases hkk : k' = k
    · subst hkk
      rcases hg with hg | hg
      · exact ⟨g sk, modify_at g h, hg sk⟩
      · exact absurd h2 (hg i rs' h1)
    · exact ⟨sk, by rw [← h]; exact modify_ne _ g hkk, rfl⟩
  · intro k' sk' h1
    obtain ⟨x, hx, rfl⟩ := modify_some h1
    split
    · rcases hh x with e | e
      · exact Or.inl ⟨x, hx, e⟩
      · exact Or.inr e
    · exact Or.inl ⟨x, hx, rfl⟩
  · intro k' ⟨sk, h1, h2⟩
    by_cases hkk : k' = k
    · subst hkk
      rcases hf with hf | hf
      · exact ⟨g sk, modify_at g h1, hf sk h2⟩
      · exact absurd ⟨sk, h1, h2⟩ hf
    · exact ⟨sk, by rw [← h1]; exact modify_ne _ g hkk, h2⟩

end U3.Pool
