import U3.Lemmas.Url
/-!
`parse_url` as a whole: a successful parse taken apart, the branches of `_normalize_host`, the error
funnel, the empty host, and the agreement of the authority with the RFC 3986 reading.
-/
namespace U3.Url
open U3

theorem funnel_ok {α : Type} {x : Except Exc α} {a : α} (h : funnel x = .ok a) : x = .ok a := by
  cases x with
  | ok b => simpa [funnel] using h
  | error e => cases e <;> simp [funnel] at h

/-- `_URI_RE.match(url).groups()`, the text without scheme having got its `"//"` in front -/
structure UriGroups where
  scheme : Option Str
  authority : Option Str
  path : Str
  query : Option Str
  fragment : Option Str

def uriGroups (s : Str) : UriGroups :=
  let url := if schemeRe s then s else 47 :: 47 :: s
  let sa := splitAuthority (splitScheme url).2
  ⟨(splitScheme url).1, sa.1, (splitPQF sa.2).1, (splitPQF sa.2).2.1, (splitPQF sa.2).2.2⟩

theorem normalizeUriOf_eq (sc0 : Option Str) :
    normalizeUriOf sc0 = Gen.normalizableSchemes.contains (sc0.map lower) := by
  cases sc0 with
  | none => decide
  | some x => rfl

theorem parseCore_eq (idna : Str → Option Str) (s : Str) : parseCore idna s =
    (parseAuthority (normalizeUriOf (uriGroups s).scheme) (uriGroups s).authority >>= fun ahp =>
     portToInt ahp.2.2 >>= fun po =>
     normalizeHost idna ahp.2.1 ((uriGroups s).scheme.map lower) >>= fun ho =>
     pure ((uriGroups s).scheme.map lower, ahp.1, ho, po,
       normPath (normalizeUriOf (uriGroups s).scheme) (uriGroups s).path,
       normOpt (normalizeUriOf (uriGroups s).scheme) Gen.queryChars (uriGroups s).query,
       normOpt (normalizeUriOf (uriGroups s).scheme) Gen.fragmentChars (uriGroups s).fragment)) := rfl

/-- `scheme in _NORMALIZABLE_SCHEMES`; reducible, so that a proof of it rewrites the test in the model -/
abbrev Normalizable (sc : Option Str) : Prop := Gen.normalizableSchemes.contains sc = true

theorem normalizable_of_mem {sc : Option Str} (h : sc ∈ Gen.normalizableSchemes) : Normalizable sc :=
  List.contains_iff_mem.mpr h

theorem parseUrlWith_eq (idna : Str → Option Str) (s : Str) :
    parseUrlWith idna s =
      match funnel (parseCore idna s) with
      | .error e => .error e
      | .ok (scheme, auth, host, port, path, query, fragment) =>
        .ok (mkUrl scheme auth host port
          (if path.isEmpty then (if query.isSome || fragment.isSome then some [] else none) else some path)
          query fragment) := by
  cases s <;> rfl

/-- **a successful parse taken apart**: the components are those of the `if authority:` block,
`int(port)`, `_normalize_host` and the encoders, run on the groups of `_URI_RE`.  (The early
`return Url()` for the empty text is what the general path computes as well.) -/
theorem parseUrlWith_parts {idna : Str → Option Str} {s : Str} {u : Url} (h : parseUrlWith idna s = .ok u) :
    ∃ h0 port,
      u.scheme = (uriGroups s).scheme.map lower ∧
      parseAuthority (Gen.normalizableSchemes.contains u.scheme) (uriGroups s).authority = .ok (u.auth, h0, port) ∧
      portToInt port = .ok u.port ∧
      normalizeHost idna h0 u.scheme = .ok u.host ∧
      u.path = (if (normPath (Gen.normalizableSchemes.contains u.scheme) (uriGroups s).path).isEmpty
        then (if u.query.isSome || u.fragment.isSome then some [] else none)
        else some (finalPath (normPath (Gen.normalizableSchemes.contains u.scheme) (uriGroups s).path))) ∧
      u.query = normOpt (Gen.normalizableSchemes.contains u.scheme) Gen.queryChars (uriGroups s).query ∧
      u.fragment = normOpt (Gen.normalizableSchemes.contains u.scheme) Gen.fragmentChars (uriGroups s).fragment := by
  rw [parseUrlWith_eq] at h
  split at h
  · simp at h
  · rename_i sc au ho po pa q f hf
    have hc := funnel_ok hf
    rw [parseCore_eq, normalizeUriOf_eq] at hc
    generalize uriGroups s = g at hc ⊢
    have hsc : (g.scheme.map lower).map lower = g.scheme.map lower := by cases g.scheme <;> simp
    generalize g.scheme.map lower = sc' at hc hsc
    obtain ⟨ahp, h1, h2⟩ := bind_ok hc
    obtain ⟨pi, h3, h4⟩ := bind_ok h2
    obtain ⟨hh, h5, h6⟩ := bind_ok h4
    simp only [pure, Except.pure, Except.ok.injEq, Prod.mk.injEq] at h6 h
    obtain ⟨rfl, rfl, rfl, rfl, rfl, rfl, rfl⟩ := h6
    subst h
    simp only [mkUrl_eq, hsc, true_and, and_true]
    refine ⟨ahp.2.1, ahp.2.2, h1, h3, h5, ?_⟩
    generalize normPath _ g.path = pa
    cases pa with
    | nil =>
      generalize (_ || _ : Bool) = c
      cases c <;> rfl
    | cons c t => rfl

/-- the `if authority:` block as one expression (the empty text takes the general path to the same answer).
The userinfo is written with `refAuthValue`, which the model gives with the reference reading: its "empty is
absent, else percent-encoded when normalising" is literally what the block does, so the `auth` clause of
`parseAuthority_ref` is close to definitional. -/
theorem parseAuthority_eq (n : Bool) (a : Str) :
    parseAuthority n (some a) =
      match hostPortRe (rpartitionAt a).2 with
      | none => .error .attributeError
      | some (h, p) =>
        .ok (refAuthValue n (some (rpartitionAt a).1),
          if (refAuthValue n (some (rpartitionAt a).1)).isNone && (p.filter fun d => !d.isEmpty).isNone && h.isEmpty
          then none else some h,
          p.filter fun d => !d.isEmpty) := by
  cases a with
  | nil => rfl
  | cons c t =>
    simp only [parseAuthority, List.isEmpty_cons, Bool.false_eq_true, if_false]
    generalize hostPortRe _ = r
    rcases r with _ | ⟨h, _ | d⟩
    · rfl
    · rfl
    · cases hd : d.isEmpty <;> simp [Option.filter, hd, refAuthValue]

theorem parseAuthority_err {n : Bool} {a : Option Str} {e : Exc}
    (h : parseAuthority n a = .error e) : e = .attributeError := by
  cases a with
  | none => cases h
  | some a =>
    rw [parseAuthority_eq] at h
    split at h
    · exact (Except.error.inj h).symm
    · cases h

/-- the `if authority:` block read backwards (an absent authority is read like the empty one); the host is
reported unless the authority consists of delimiters only -/
theorem parseAuthority_ok {n : Bool} {a au h0 port : Option Str}
    (h : parseAuthority n a = .ok (au, h0, port)) :
    ∃ hh pp, hostPortRe (rpartitionAt (a.getD [])).2 = some (hh, pp) ∧
      au = refAuthValue n (some (rpartitionAt (a.getD [])).1) ∧ port = pp.filter (fun d => !d.isEmpty) ∧
      h0 = if au.isNone && port.isNone && hh.isEmpty then none else some hh := by
  have e : parseAuthority n a = parseAuthority n (some (a.getD [])) := by cases a <;> rfl
  rw [e, parseAuthority_eq] at h
  split at h
  · cases h
  · rename_i hh pp hre
    simp only [Except.ok.injEq, Prod.mk.injEq] at h
    obtain ⟨rfl, rfl, rfl⟩ := h
    exact ⟨hh, pp, hre, rfl, rfl, rfl⟩

theorem portToInt_ok {p : Option Str} {r : Option Nat} (h : portToInt p = .ok r) :
    r = p.map decNat ∧ ∀ n, r = some n → n ≤ 65535 := by
  unfold portToInt at h
  split at h
  · split at h
    · simp only [Except.ok.injEq] at h
      subst h
      exact ⟨rfl, fun n hn => by simp only [Option.some.injEq] at hn; omega⟩
    · simp at h
  · simp only [Except.ok.injEq] at h
    subst h
    exact ⟨rfl, fun n hn => by simp at hn⟩

theorem portToInt_err {p : Option Str} {e : Exc} (h : portToInt p = .error e) :
    e = .locationParseError := by
  unfold portToInt at h
  split at h
  · split at h <;> simp_all
  · simp at h

theorem refAuthValue_normal {ui : Option Str} {x : Str} (h : refAuthValue true ui = some x) :
    x ≠ [] ∧ NormalForm Gen.userinfoChars x := by
  unfold refAuthValue at h
  split at h
  · simp at h
  · split at h
    · simp at h
    · rename_i hne
      simp only [if_true, Option.some.injEq] at h
      subst h
      exact ⟨encode_ne_nil _ (by simpa using hne), encode_normal encSet_userinfo _⟩

theorem parseUrlWith_normal {idna : Str → Option Str} {s : Str} {u : Url} (h : parseUrlWith idna s = .ok u)
    (hs : Normalizable u.scheme) :
    (∀ x, u.auth = some x → x ≠ [] ∧ NormalForm Gen.userinfoChars x) ∧
    (∀ x, u.query = some x → NormalForm Gen.queryChars x) ∧
    (∀ x, u.fragment = some x → NormalForm Gen.fragmentChars x) ∧
    (∀ p, u.path = some p → (p = [] ∧ (u.query.isSome = true ∨ u.fragment.isSome = true)) ∨
      (p.head? = some 47 ∧ NormalForm Gen.pathChars p ∧ CleanJoin p)) ∧
    (u.path = none → u.query = none ∧ u.fragment = none) := by
  obtain ⟨h0, port, -, hpa, -, -, hpath, hq, hf⟩ := parseUrlWith_parts h
  rw [hs] at hpa hpath hq hf
  refine ⟨fun x hx => ?_, fun x hx => normOpt_normal encSet_query x (hq ▸ hx),
    fun x hx => normOpt_normal encSet_fragment x (hf ▸ hx), ?_⟩
  · obtain ⟨-, -, -, hau, -⟩ := parseAuthority_ok hpa
    exact refAuthValue_normal (hau ▸ hx)
  · rw [hpath]
    split
    · split
      · rename_i hqf
        exact ⟨fun p hp => Or.inl ⟨(Option.some.inj hp).symm, by simpa using hqf⟩, fun hn => by simp at hn⟩
      · rename_i hqf
        exact ⟨fun p hp => by simp at hp, fun _ => by simpa using hqf⟩
    · rename_i hpe
      exact ⟨fun p hp => Option.some.inj hp ▸ Or.inr (finalPath_normPath (by simpa using hpe)),
        fun hn => by simp at hn⟩

theorem idnaEncode_ok {idna : Str → Option Str} {l y : Str} (h : idnaEncode idna l = .ok y) :
    (l.all (· < 128) = true ∧ y = lower l) ∨ idna l = some y := by
  unfold idnaEncode at h
  split at h
  · rename_i ha
    exact Or.inl ⟨ha, by simpa using h.symm⟩
  · split at h
    · rename_i r hr
      exact Or.inr (by simpa [hr] using h)
    · simp at h

theorem idnaEncode_err {idna : Str → Option Str} {l : Str} {e : Exc}
    (h : idnaEncode idna l = .error e) : e = .locationParseError := by
  unfold idnaEncode at h
  split at h
  · simp at h
  · split at h <;> simp_all

theorem normalizeHost_not_normalizable (idna : Str → Option Str) {sc : Option Str} (hs : ¬ Normalizable sc)
    (h : Option Str) : normalizeHost idna h sc = .ok h := by
  have hs' : Gen.normalizableSchemes.contains sc = false := by simpa [Normalizable] using hs
  cases h with
  | none => rfl
  | some x =>
    unfold normalizeHost
    simp only [hs', Bool.false_eq_true, if_false]
    split <;> rfl

/-- what `_normalize_host` makes of a bracketed literal: the address part in lower case, the zone id
(after the first `%`, up to the `]`) without the RFC 6874 delimiter and percent-encoded -/
def literalNorm (h : Str) : Str :=
  let pre := h.takeWhile (· != 37)
  let r := h.dropWhile (· != 37)
  if r.isEmpty then lower h
  else
    let zone := r.takeWhile (· != 93)
    let zoneId := if isPrefix pct25 zone && zone != pct25 then zone.drop 3 else zone.drop 1
    lower pre ++ [37] ++ encodeInvalidChars Gen.unreservedChars zoneId ++ r.dropWhile (· != 93)

theorem normalizeHost_literal (idna : Str → Option Str) {sc : Option Str} (hs : Normalizable sc) {h : Str}
    (hm : ipv6AddrzMatch h = true) : normalizeHost idna (some h) sc = .ok (some (literalNorm h)) := by
  have hne : h.isEmpty = false := by cases h <;> simp_all [ipv6AddrzMatch]
  unfold normalizeHost literalNorm
  simp only [hne, Bool.false_eq_true, if_false, hs, if_true, hm]
  split <;> rfl

theorem normalizeHost_ipv4 (idna : Str → Option Str) {sc : Option Str} {h : Str}
    (h6 : ipv6AddrzMatch h = false) (h4 : ipv4Match h = true) : normalizeHost idna (some h) sc = .ok (some h) := by
  unfold normalizeHost
  simp only [h6, h4, Bool.false_eq_true, if_false, if_true]
  split <;> (try split) <;> rfl

theorem normalizeHost_labels (idna : Str → Option Str) {sc : Option Str} (hs : Normalizable sc) {h : Str}
    (hne : h ≠ []) (h6 : ipv6AddrzMatch h = false) (h4 : ipv4Match h = false) :
    normalizeHost idna (some h) sc =
      (splitOn1 46 h).mapM (idnaEncode idna) >>= fun ls => .ok (some (joinWith [46] ls)) := by
  have hie : h.isEmpty = false := by simpa using hne
  unfold normalizeHost
  simp only [hie, hs, h6, h4, Bool.false_eq_true, if_false, if_true]

theorem normalizeHost_cases (idna : Str → Option Str) (h : Str) (sc : Option Str) :
    normalizeHost idna (some h) sc = .ok (some h) ∨
    (ipv6AddrzMatch h = true ∧ normalizeHost idna (some h) sc = .ok (some (literalNorm h))) ∨
    (h ≠ [] ∧ normalizeHost idna (some h) sc =
      (splitOn1 46 h).mapM (idnaEncode idna) >>= fun ls => .ok (some (joinWith [46] ls))) := by
  by_cases hs : Normalizable sc
  · by_cases hne : h = []
    · subst hne
      exact Or.inl rfl
    · cases h6 : ipv6AddrzMatch h with
      | true => exact Or.inr (Or.inl ⟨rfl, normalizeHost_literal idna hs h6⟩)
      | false =>
        cases h4 : ipv4Match h with
        | true => exact Or.inl (normalizeHost_ipv4 idna h6 h4)
        | false => exact Or.inr (Or.inr ⟨hne, normalizeHost_labels idna hs hne h6 h4⟩)
  · exact Or.inl (normalizeHost_not_normalizable idna hs _)

theorem normalizeHost_some {idna : Str → Option Str} {h : Str} {sc ho : Option Str}
    (he : normalizeHost idna (some h) sc = .ok ho) : ∃ x, ho = some x := by
  rcases normalizeHost_cases idna h sc with e | ⟨-, e⟩ | ⟨-, e⟩ <;> rw [e] at he
  · exact ⟨_, by simpa using he.symm⟩
  · exact ⟨_, by simpa using he.symm⟩
  · obtain ⟨ls, -, h2⟩ := bind_ok he
    exact ⟨_, by simpa using h2.symm⟩

/-- `None` and `""` identified, as the reference reading has no absent host (for `C14_agrees_with_rfc`) -/
theorem normalizeHost_getD {idna : Str → Option Str} {h0 sc ho : Option Str}
    (he : normalizeHost idna h0 sc = .ok ho) :
    normalizeHost idna (some (h0.getD [])) sc = .ok (some (ho.getD [])) ∧ (ho = none → h0 = none) := by
  cases h0 with
  | none =>
    obtain rfl := Except.ok.inj he
    exact ⟨rfl, fun _ => rfl⟩
  | some x =>
    obtain ⟨y, rfl⟩ := normalizeHost_some he
    exact ⟨he, nofun⟩

theorem normalizeHost_err {idna : Str → Option Str} {h : Option Str} {sc : Option Str} {e : Exc}
    (he : normalizeHost idna h sc = .error e) : e = .locationParseError := by
  cases h with
  | none => simp [normalizeHost] at he
  | some h =>
    rcases normalizeHost_cases idna h sc with e' | ⟨-, e'⟩ | ⟨-, e'⟩ <;> rw [e'] at he
    · simp at he
    · simp at he
    · rcases bind_err he with h1 | ⟨ls, -, h2⟩
      · obtain ⟨x, -, hx⟩ := mapM_err h1
        exact idnaEncode_err hx
      · simp at h2

/-- `hc`: `idna.encode` never answers with an empty label -/
theorem normalizeHost_nonempty {idna : Str → Option Str} (hc : ∀ l r, idna l = some r → r ≠ [])
    {h : Str} (hne : h ≠ []) {sc : Option Str} {x : Str}
    (he : normalizeHost idna (some h) sc = .ok (some x)) : x ≠ [] := by
  rcases normalizeHost_cases idna h sc with e | ⟨-, e⟩ | ⟨-, e⟩ <;> rw [e] at he
  · simp only [Except.ok.injEq, Option.some.injEq] at he
    exact he ▸ hne
  · simp only [Except.ok.injEq, Option.some.injEq] at he
    subst he
    simp only [literalNorm]
    split
    · exact fun e => hne (lower_eq_nil e)
    · simp
  · obtain ⟨ls, hls, h2⟩ := bind_ok he
    obtain ⟨hlen, hmem⟩ := mapM_ok hls
    simp only [Except.ok.injEq, Option.some.injEq] at h2
    subst h2
    intro e0
    have hj := joinWith_splitOn1 46 h
    rcases joinWith_eq_nil (by decide) e0 with rfl | rfl
    · exact splitOn1_ne_nil 46 h (List.eq_nil_of_length_eq_zero hlen.symm)
    · -- one label, encoded to `""`: the label, hence the host, is empty
      obtain ⟨p, hp, hf⟩ := hmem [] (List.mem_cons_self ..)
      have hp0 : p = [] := by
        rcases idnaEncode_ok hf with ⟨-, e1⟩ | e1
        · exact lower_eq_nil e1.symm
        · exact absurd rfl (hc _ _ e1)
      obtain ⟨q, hs⟩ := List.length_eq_one_iff.mp hlen.symm
      rw [hs] at hj hp
      obtain rfl : p = q := by simpa using hp
      exact hne (by rw [← hj, hp0]; rfl)

theorem parseCore_err {idna : Str → Option Str} {s : Str} {e : Exc}
    (h : parseCore idna s = .error e) : e = .attributeError ∨ e = .locationParseError := by
  rw [parseCore_eq] at h
  rcases bind_err h with h1 | ⟨ahp, -, h2⟩
  · exact Or.inl (parseAuthority_err h1)
  · rcases bind_err h2 with h3 | ⟨pi, -, h4⟩
    · exact Or.inr (portToInt_err h3)
    · rcases bind_err h4 with h5 | ⟨ho, -, h6⟩
      · exact Or.inr (normalizeHost_err h5)
      · simp [pure, Except.pure] at h6

theorem parseUrlWith_err {idna : Str → Option Str} {s : Str} {e : Exc}
    (h : parseUrlWith idna s = .error e) : e = .locationParseError := by
  rw [parseUrlWith_eq] at h
  cases hc : parseCore idna s with
  | ok a => simp [hc, funnel] at h
  | error e0 =>
    rw [hc] at h
    rcases parseCore_err hc with rfl | rfl <;> simpa [funnel] using h.symm

/-- `hc`: `idna.encode` never answers with an empty label -/
theorem empty_host_has_port_or_userinfo {idna : Str → Option Str} (hc : ∀ l r, idna l = some r → r ≠ [])
    {s : Str} {u : Url} (h : parseUrlWith idna s = .ok u) (hh : u.host = some []) :
    u.auth.isSome = true ∨ u.port.isSome = true := by
  obtain ⟨h0, port, -, hpa, hport, hhost, -⟩ := parseUrlWith_parts h
  rw [hh] at hhost
  obtain ⟨hx, pp, -, -, -, rfl⟩ := parseAuthority_ok hpa
  rw [(portToInt_ok hport).1, Option.isSome_map]
  split at hhost
  · simp [normalizeHost] at hhost
  · rename_i hcnd
    obtain rfl : hx = [] := Decidable.byContradiction fun hne => normalizeHost_nonempty hc hne hhost rfl
    cases hau : u.auth <;> cases hpo : port <;> simp_all

theorem regName_not_mem {h : Str} (hr : (tokenize h).all regNameTok = true) {k : Nat}
    (hk : regNameChar k = false) (hk37 : k ≠ 37) (hkh : isHexC k = false) : k ∉ h := fun hm => by
  rcases tokenize_all_chars hr k hm with h1 | h1 | h1 <;> simp_all [regNameTok]

theorem decNat_dropWhile_zeros (b : Str) :
    decNat (b.dropWhile (· == 48)) = decNat b ∧ (b.dropWhile (· == 48)).all isDigitC = b.all isDigitC := by
  induction b with
  | nil => exact ⟨rfl, rfl⟩
  | cons c t ih =>
    by_cases h : c = 48
    · subst h
      exact ih
    · simp [h]

/-- the capture `0*?(|0|[1-9][0-9]{0,4})` of a port text -/
theorem portCapture_value {b cap : Str} (h : portCapture b = some cap) :
    (if cap.isEmpty then none else some (decNat cap)) = refPortValue (some b) ∧ b.all isDigitC = true := by
  obtain ⟨hv, hd⟩ := decNat_dropWhile_zeros b
  have hnil : b.isEmpty = true → (b.dropWhile (· == 48)).isEmpty = true := by cases b <;> simp
  unfold portCapture at h
  rw [refPortValue, ← hv, ← hd]
  generalize b.dropWhile (· == 48) = d at h hnil ⊢
  simp only at h
  split at h
  · -- zeros only: the capture is `""` for the empty text and `"0"` otherwise
    rename_i hde
    obtain rfl : d = [] := by simpa using hde
    split at h <;> obtain rfl := Option.some.inj h
    · simp_all
    · simp_all [decNat]
  · split at h
    · obtain rfl := Option.some.inj h
      simp_all
    · simp at h

theorem portPart_ref {r : Str} {p : Option Str} (h : portPart r = some p) :
    ∃ pt, (r = [] ∧ pt = none ∨ ∃ q, r = 58 :: q ∧ pt = some q) ∧
      (p.filter (fun d => !d.isEmpty)).map decNat = refPortValue pt ∧
      ∀ q, pt = some q → q.all isDigitC = true := by
  unfold portPart at h
  split at h
  · obtain rfl := Option.some.inj h
    exact ⟨none, Or.inl ⟨rfl, rfl⟩, rfl, by simp⟩
  · rename_i b
    obtain ⟨cap, hc, rfl⟩ := Option.map_eq_some_iff.mp h
    obtain ⟨h1, h2⟩ := portCapture_value hc
    refine ⟨some b, Or.inr ⟨b, rfl, rfl⟩, ?_, by simpa using h2⟩
    rw [← h1]
    cases hd : cap.isEmpty <;> simp [Option.filter, hd]
  · simp at h

/-- **`_HOST_PORT_RE` read backwards**: a run of reg-name tokens, or `[`…`]` (no `]` inside, address with
optional zone), followed by the port part -/
theorem hostPortRe_some {hp h : Str} {p : Option Str} (hm : hostPortRe hp = some (h, p)) :
    (∃ rest, hp = h ++ rest ∧ (tokenize h).all regNameTok = true ∧ portPart rest = some p) ∨
    ∃ c rest, hp = 91 :: (c ++ 93 :: rest) ∧ h = 91 :: c ++ [93] ∧ 93 ∉ c ∧ bracketOk c = true ∧
      portPart rest = some p := by
  unfold hostPortRe at hm
  simp only at hm
  split at hm
  · rename_i p' hp'
    simp only [Option.some.injEq, Prod.mk.injEq] at hm
    obtain ⟨rfl, rfl⟩ := hm
    refine Or.inl ⟨_, ?_, ?_, hp'⟩
    · rw [← List.flatMap_append, List.takeWhile_append_dropWhile]
      exact (text_tokenize hp).symm
    · -- the run is scanned into itself: `%` is no reg-name character
      show (tokenize (renderToks _)).all regNameTok = true
      rw [tokenize_renderToks _ fun t ht =>
        ⟨tokenize_ok hp t ((List.takeWhile_prefix _).subset ht), by
          rintro rfl
          exact absurd (List.all_eq_true.mp List.all_takeWhile _ ht) (by decide)⟩]
      exact List.all_takeWhile
  · right
    unfold hostPortBracket at hm
    split at hm
    · rename_i t _
      simp only at hm
      split at hm
      · rename_i rest hd
        split at hm
        · rename_i hb
          obtain ⟨q, hpp, hq⟩ := Option.map_eq_some_iff.mp hm
          obtain ⟨rfl, rfl⟩ := Prod.mk.inj hq
          refine ⟨_, rest, ?_, rfl, not_mem_takeWhile_ne 93 t, hb, hpp⟩
          rw [← hd, List.takeWhile_append_dropWhile]
        · simp at hm
      · simp at hm
    · simp at hm

theorem hostPortRe_ref {hp h : Str} {p : Option Str} (hm : hostPortRe hp = some (h, p)) :
    ∃ pt, refHostPort hp = (h, pt, true) ∧
      (p.filter (fun d => !d.isEmpty)).map decNat = refPortValue pt ∧
      ∀ q, pt = some q → q.all isDigitC = true := by
  rcases hostPortRe_some hm with ⟨rest, rfl, hreg, hp'⟩ | ⟨c, rest, rfl, rfl, h93, -, hp'⟩ <;>
    obtain ⟨pt, hr, hv, hd⟩ := portPart_ref hp' <;> refine ⟨pt, ?_, hv, hd⟩
  · -- a reg-name has neither `:` nor `[`, so the reference host ends where the run ends
    have h58 := regName_not_mem hreg (k := 58) (by decide) (by decide) (by decide)
    have h91 := regName_not_mem hreg (k := 91) (by decide) (by decide) (by decide)
    have hnb : ∀ t, h ++ rest ≠ 91 :: t := fun t e => by
      cases h with
      | nil => rcases hr with ⟨rfl, -⟩ | ⟨q, rfl, -⟩ <;> simp at e
      | cons x y => exact h91 (by simp_all)
    unfold refHostPort
    split
    · exact absurd ‹_› (hnb _)
    · rcases hr with ⟨rfl, rfl⟩ | ⟨q, rfl, rfl⟩
      · simp [takeWhile_ne_of_not_mem h58]
      · simp [split_at_ne 58 h q h58]
  · have hs := split_at_ne 93 c rest h93
    rcases hr with ⟨rfl, rfl⟩ | ⟨q, rfl, rfl⟩ <;> simp [refHostPort, hs.1, hs.2]

/-- **the `if authority:` block and the reference reading agree on an authority text** (`None` and `""`
identified as hosts) -/
theorem parseAuthority_ref {n : Bool} {a : Str} {au h0 port : Option Str}
    (h : parseAuthority n (some a) = .ok (au, h0, port)) :
    (refAuthOfText a).host = h0.getD [] ∧
    port.map decNat = refPortValue (refAuthOfText a).port ∧
    (∀ p, (refAuthOfText a).port = some p → p.all isDigitC = true) ∧
    au = refAuthValue n (refAuthOfText a).userinfo ∧
    (refAuthOfText a).wellFormed = true := by
  obtain ⟨hh, pp, hre, hau, rfl, rfl⟩ := parseAuthority_ok h
  obtain ⟨pt, href, hv, hd⟩ := hostPortRe_ref hre
  have hui : refAuthValue n (some (rpartitionAt a).1) = refAuthValue n ((rpart 64 a).map (·.1)) := by
    unfold rpartitionAt refAuthValue
    cases rpart 64 a <;> simp
  simp only [refAuthOfText, Option.getD_some] at href ⊢
  rw [href]
  refine ⟨?_, hv, hd, hau.trans hui, rfl⟩
  split
  · rename_i hcnd
    simp only [Bool.and_eq_true, List.isEmpty_iff] at hcnd
    exact hcnd.2
  · rfl

theorem splitScheme_ref (s : Str) : splitScheme s = (refScheme s, (refSchemeRest s).getD s) := by
  unfold splitScheme refScheme refSchemeRest
  split
  · rfl
  · split
    · split <;> simp_all
    · rfl

theorem refAuthOfHier_eq (x : Str) : refAuthOfHier x = (splitAuthority x).1.map refAuthOfText := by
  unfold refAuthOfHier splitAuthority
  split <;> rfl

theorem alpha_ne47 {c : Nat} (h : isAlphaC c = true) : c ≠ 47 := by
  rintro rfl
  simp [isAlphaC, isUpperC, isLowerC] at h

theorem dropWhile_scheme1 (t : Str) (h : 46 ∉ t.takeWhile schemeChar) :
    t.dropWhile schemeChar1 = t.dropWhile schemeChar := by
  induction t with
  | nil => rfl
  | cons x r ih =>
    cases hx : schemeChar x with
    | true =>
      simp only [List.takeWhile, hx, List.mem_cons, not_or] at h
      have h1 : schemeChar1 x = true := by simpa [schemeChar, Ne.symm h.1] using hx
      simp only [List.dropWhile, hx, h1]
      exact ih h.2
    | false =>
      have h1 : schemeChar1 x = false := by simp_all [schemeChar]
      simp [List.dropWhile, hx, h1]

/-- the front end (`_SCHEME_RE`, `_URI_RE`) hands the matcher the authority text of the reference
reading, provided the RFC scheme has no `.` -/
theorem uriGroups_ref {s : Str} {r : RefAuth} (hr : refAuthority s = some r)
    (hdot : ∀ sch, refScheme s = some sch → 46 ∉ sch) :
    ∃ a, (uriGroups s).authority = some a ∧ r = refAuthOfText a := by
  have hre : schemeRe s = true := by
    match s, hr, hdot with
    | c :: t, hr, hdot =>
      by_cases ha : isAlphaC c = true
      · cases hd : t.dropWhile schemeChar with
        | nil => simp [refAuthority, refSchemeRest, refAuthOfHier, ha, hd, alpha_ne47 ha] at hr
        | cons y rest =>
          by_cases hy : y = 58
          · subst hy
            have hnd := hdot (c :: t.takeWhile schemeChar) (by simp [refScheme, ha, hd])
            simp only [List.mem_cons, not_or] at hnd
            simp [schemeRe, alpha_ne47 ha, ha, dropWhile_scheme1 t hnd.2, hd]
          · simp [refAuthority, refSchemeRest, refAuthOfHier, ha, hd, alpha_ne47 ha, hy] at hr
      · have hs : refSchemeRest (c :: t) = none := by simp [refSchemeRest, ha]
        simp only [refAuthority, hs, refAuthOfHier_eq, splitAuthority] at hr
        split at hr
        · rename_i heq
          simp [schemeRe, (List.cons.inj heq).1]
        · simp at hr
  have hr' : (splitAuthority ((refSchemeRest s).getD s)).1.map refAuthOfText = some r := by
    rw [← hr, refAuthority]
    cases refSchemeRest s <;> simp [refAuthOfHier_eq]
  simp only [uriGroups, hre, if_true, splitScheme_ref]
  cases ha : (splitAuthority ((refSchemeRest s).getD s)).1 with
  | none => simp [ha] at hr'
  | some a => exact ⟨a, rfl, by simpa [ha] using hr'.symm⟩

end U3.Url
