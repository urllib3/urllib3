import U3.Lemmas.RespGzip
import U3.Lemmas.RespDeflate
import U3.Lemmas.RespZstd
/-! The wrapper lemma `multidecoder_order` of DESIGN §6 (`multiDec_streamLaw`): `MultiDecoder` (decoders applied
in reverse order of the header, `flush` = first decoder only) obeys the streaming law whenever its
components do; and the law for the concrete decoder family `cdDec` the driver runs (`gzip` / `x-gzip`,
`deflate`, `zstd`, comma lists: `CDGall`, `cdDec_streamLaw`). -/
namespace U3.Resp
open U3

section
variable {δ : Type} (D : Dec δ) (G : δ → Bytes → Bytes → Prop)

/-- what the decoders `ds` (header order; the last is applied first) make of `raw` -/
def ChainG : List δ → Bytes → Bytes → Prop
  | [], raw, p => p = raw
  | d :: rest, raw, p => ∃ mid, ChainG rest raw mid ∧ G d mid p

/-- a `MultiDecoder` has at least one decoder (`flush` is `self._decoders[0].flush()`) -/
def MultiG (ds : List δ) (raw p : Bytes) : Prop := ds ≠ [] ∧ ChainG G ds raw p

variable {D G}

theorem chain_feed (hD : StreamLaw D G) (ds : List δ) (a b p : Bytes) (h : ChainG G ds (a ++ b) p) :
    ∃ o ds', multiDecompress D ds a = (.ok o, ds') ∧ (ds' = [] → ds = []) ∧
      ∃ p', p = o ++ p' ∧ ChainG G ds' b p' := by
  induction ds generalizing p with
  | nil => exact ⟨a, [], rfl, id, b, h, rfl⟩
  | cons d rest ih =>
    obtain ⟨mid, hrest, hd⟩ := h
    obtain ⟨om, rest', h1, _, mid', hm, hrest'⟩ := ih mid hrest
    rw [hm] at hd
    obtain ⟨o, d', h2, p', hp, hd'⟩ := hD.feed d om mid' p hd
    exact ⟨o, d' :: rest', by simp [multiDecompress, h1, h2], nofun, p', hp, mid', hrest', hd'⟩

theorem chain_nil (hD : StreamLaw D G) (ds : List δ) (p : Bytes) (h : ChainG G ds [] p) : p = [] := by
  induction ds generalizing p with
  | nil => exact h
  | cons d rest ih =>
    obtain ⟨mid, hrest, hd⟩ := h
    obtain rfl := ih mid hrest
    exact (hD.done d p hd).1

theorem multiDec_streamLaw (hD : StreamLaw D G) : StreamLaw (multiDec D) (MultiG G) := by
  constructor
  · intro ds a b p ⟨hne, h⟩
    obtain ⟨o, ds', h1, hnil, p', hp, h'⟩ := chain_feed hD ds a b p h
    exact ⟨o, ds', h1, p', hp, fun h0 => hne (hnil h0), h'⟩
  · intro ds p ⟨hne, h⟩
    cases ds with
    | nil => exact absurd rfl hne
    | cons d rest =>
      obtain ⟨mid, hrest, hd⟩ := h
      obtain rfl := chain_nil hD rest mid hrest
      obtain ⟨rfl, d', hfl, hd'⟩ := hD.done d p hd
      exact ⟨rfl, d' :: rest, by simp [multiDec, multiFlush, hfl], nofun, [], hrest, hd'⟩

end

/-- the relation of a single coding: `GzG`, `DfG` or `ZsG` over the stored-block / raw-block
`decompressobj`s -/
def CD1G (c : CD1) (raw p : Bytes) : Prop :=
  match c with
  | .gzip g => GzG gzipO g raw p
  | .deflate d => DfG zlibO rawO d raw p
  | .zstd z => ZsG zstdObj z raw p

theorem cd1Dec_streamLaw : StreamLaw cd1Dec CD1G := .of_at fun c => by
  cases c with
  | gzip g => exact .lift CD1.gzip (gzDec_streamLaw gzipO) (fun _ _ => rfl) (fun _ => rfl) g
  | deflate d => exact .lift CD1.deflate (dfDec_streamLaw zlibO rawO) (fun _ _ => rfl) (fun _ => rfl) d
  | zstd z => exact .lift CD1.zstd (zsDec_streamLaw zstdObj) (fun _ _ => rfl) (fun _ => rfl) z

/-- the relation for every decoder `_get_decoder` can build: a single coding or a comma list -/
def CDGall (c : CD) (raw p : Bytes) : Prop :=
  match c with
  | .one d => CD1G d raw p
  | .multi ds => MultiG CD1G ds raw p

theorem cdDec_streamLaw : StreamLaw cdDec CDGall := .of_at fun c => by
  cases c with
  | one d => exact .lift CD.one cd1Dec_streamLaw (fun _ _ => rfl) (fun _ => rfl) d
  | multi ds => exact .lift CD.multi (multiDec_streamLaw cd1Dec_streamLaw) (fun _ _ => rfl) (fun _ => rfl) ds

theorem CDGall_of_CDG (c : CD) (raw p : Bytes) (h : CDG c raw p) : CDGall c raw p := by
  obtain ⟨z, rfl⟩ := CDG_zstd h
  exact h

end U3.Resp
