import U3.Model.Wire
import U3.Lemmas.Str
import U3.Lemmas.WirePut
/-!
Lemmas behind C10 / C11, in this order: the `%x` / `str(n)` round trips and what `trimOWS` leaves alone; the
buffered head against the permissive parser (`strictParse_prepared`); `prepare`, the framing decision and `request`
read backwards (`prepare_inv`, `framing_inv`, `request_error` / `request_ok`); the re-encoded target is clean; the
`read(blocksize)` loop over a file; the body loop (`bodyToChunks_spec`, `sendChunks_spec`, `bodyPhase_ok`, and how it
fails); chunk framing against the strict decoder, up to `deframe_prepared` and `serialize_ok`; last the invariant
under which `urlopen` re-sends a body (`Replayable`, `Inv`, `sendHistory_inv`).
-/
namespace U3.Wire
open U3

theorem dropLast_append_of_getLast? (l : List Nat) (x : Nat) (h : l.getLast? = some x) :
    l.dropLast ++ [x] = l := by
  obtain ⟨ys, rfl⟩ := List.getLast?_eq_some_iff.mp h
  simp

theorem mem_takeWhile_mem {p : Nat → Bool} {l : List Nat} {c : Nat} (h : c ∈ l.takeWhile p) : c ∈ l :=
  (List.takeWhile_sublist p).subset h

theorem mem_dropWhile_mem {p : Nat → Bool} {l : List Nat} {c : Nat} (h : c ∈ l.dropWhile p) : c ∈ l :=
  (List.dropWhile_sublist p).subset h

/-- `"%x" % n` -/
theorem toHex_radix : Radix 16 hexDigit toHex :=
  Radix.of_fuel (A := toHexAux) (by decide) (fun _ => rfl) (fun _ _ => rfl)

/-- `str(n)` -/
theorem toDec_radix : Radix 10 (48 + ·) toDec :=
  Radix.of_fuel (A := toDecAux) (by decide) (fun _ => rfl) (fun _ _ => rfl)

theorem ofHexAux_toHex (n : Nat) (rest : Bytes) : ofHexAux (toHex n ++ rest) 0 = ofHexAux rest n :=
  toHex_radix.read (by decide) (fun d hd t acc => by simp [ofHexAux, hexVal_hexDigit d hd]) n rest

theorem ofDecAux_toDec (n : Nat) (rest : Bytes) : ofDecAux (toDec n ++ rest) 0 = ofDecAux rest n :=
  toDec_radix.read (by decide)
    (fun d hd t acc => by simp [ofDecAux, show isDigitC (48 + d) = true by simp [isDigitC]; omega]) n rest

theorem ofHex_toHex (n : Nat) : ofHex (toHex n) = some n := by
  simpa [ofHex, toHex_radix.ne_nil (by decide) n, ofHexAux] using ofHexAux_toHex n []

theorem ofDec_toDec (n : Nat) : ofDec (toDec n) = some n := by
  simpa [ofDec, toDec_radix.ne_nil (by decide) n, ofDecAux] using ofDecAux_toDec n []

theorem toHex_hex (n : Nat) : ∀ c ∈ toHex n, (hexVal c).isSome = true := fun c hc => by
  obtain ⟨d, hd, rfl⟩ := toHex_radix.mem (by decide) n c hc
  simp [hexVal_hexDigit d hd]

theorem toDec_digits (n : Nat) : ∀ c ∈ toDec n, isDigitC c = true := fun c hc => by
  obtain ⟨d, hd, rfl⟩ := toDec_radix.mem (by decide) n c hc
  simp [isDigitC]
  omega

theorem trimOWS_sp (v : Bytes) : trimOWS (32 :: v) = trimOWS v := by
  simp [trimOWS, ltrim, isWS]

theorem trimOWS_of_noWS {b : Bytes} (h : ∀ c ∈ b, isWS c = false) : trimOWS b = b := by
  have ltrim_eq : ∀ l : Bytes, (∀ c ∈ l, isWS c = false) → ltrim l = l := by
    intro l hl
    cases l with
    | nil => rfl
    | cons x t => simp [ltrim, hl x]
  rw [trimOWS, ltrim_eq b h, ltrim_eq _ (by simpa using h), List.reverse_reverse]

theorem trimOWS_toDec (n : Nat) : trimOWS (toDec n) = toDec n := by
  refine trimOWS_of_noWS fun c hc => ?_
  have := toDec_digits n c hc
  simp [isDigitC] at this
  simp [isWS]; omega

/-- a buffered header as the permissive parser gives it back: the value without white space at its edges -/
def trimHdr (h : Hdr) : Bytes × Bytes := (h.1, trimOWS h.2)

/-- every CR / LF in the line is the start of a fold (terminator followed by SP / HTAB) -/
def safe : Bytes → Bool
  | [] => true
  | x :: t => (match afterTerm (x :: t) with | some r => startsWS r | none => true) && safe t

theorem afterTerm_none {x : Nat} (t : Bytes) (h1 : x ≠ 13) (h2 : x ≠ 10) : afterTerm (x :: t) = none := by
  simp [afterTerm, h1, h2]

theorem isWS_ne {c : Nat} (h : isWS c = true) : c ≠ 10 ∧ c ≠ 13 := by
  simp [isWS] at h; omega

theorem afterTerm_append {a r : Bytes} (s : Bytes) (h : afterTerm a = some r) (hw : startsWS r = true) :
    afterTerm (a ++ s) = some (r ++ s) ∧ startsWS (r ++ s) = true := by
  obtain ⟨c, r', rfl⟩ : ∃ c r', r = c :: r' := by cases r <;> simp_all [startsWS]
  refine ⟨?_, hw⟩
  rcases a with _ | ⟨x, _ | ⟨y, u⟩⟩ <;> simp only [afterTerm, List.cons_append, List.nil_append] at h ⊢
  all_goals grind

theorem afterTerm_eq_none {x : Nat} {t : Bytes} (h : afterTerm (x :: t) = none) (s : Bytes) :
    afterTerm (x :: s) = none := by
  rcases t with _ | ⟨y, u⟩ <;>
    simp only [afterTerm] at h ⊢ <;>
    grind

theorem takeLogical_line (L S : Bytes) (hs : safe L = true) (hS : startsWS S = false) :
    takeLogical (L ++ crlf ++ S) = some (L, S) := by
  induction L with
  | nil => simp [takeLogical, afterTerm, crlf, hS]
  | cons x t ih =>
    simp only [safe, Bool.and_eq_true] at hs
    simp only [List.cons_append, List.append_assoc, takeLogical] at ih ⊢
    cases hat : afterTerm (x :: t) with
    | some r =>
      obtain ⟨h1, h2⟩ := afterTerm_append (crlf ++ S) hat (by simpa [hat] using hs.1)
      rw [List.cons_append] at h1
      simp only [h1, h2, if_true, ih hs.2, Option.map_some]
    | none => simp only [afterTerm_eq_none hat, ih hs.2, Option.map_some]

theorem safe_append_noCRLF (a b : Bytes) (ha : ∀ c ∈ a, c ≠ 13 ∧ c ≠ 10) (hb : safe b = true) :
    safe (a ++ b) = true := by
  induction a with
  | nil => exact hb
  | cons x t ih =>
    have hx := ha x (by simp)
    simp only [List.cons_append, safe, afterTerm_none _ hx.1 hx.2, Bool.true_and]
    exact ih fun c hc => ha c (by simp [hc])

/-- a value `putheader` accepts has line breaks only as folds: a CR LF pair is judged at its LF -/
theorem safe_of_legal_value (v : Bytes) (h : illegalHeaderValue v = false) : safe v = true := by
  induction v with
  | nil => rfl
  | cons x t ih =>
    simp only [illegalHeaderValue, Bool.or_eq_false_iff] at h
    simp only [safe, ih h.2, Bool.and_true]
    rcases t with _ | ⟨y, u⟩ <;>
      simp only [illegalAt, illegalHeaderValue, afterTerm, startsWS, startsLF] at h ⊢ <;> grind

/-- a line the parser gives back unchanged -/
def GoodLine (l : Bytes) : Prop :=
  (∃ x t, l = x :: t ∧ x ≠ 13 ∧ x ≠ 10 ∧ isWS x = false) ∧ safe l = true

theorem parseLines_lines (ls : List Bytes) (rest : Bytes) (hg : ∀ l ∈ ls, GoodLine l) (fuel : Nat)
    (hf : ls.length < fuel) :
    parseLines fuel ((ls.map (· ++ crlf)).flatten ++ crlf ++ rest) = some (ls, rest) := by
  induction ls generalizing fuel with
  | nil =>
    cases fuel with
    | zero => cases hf
    | succ f => simp [parseLines, afterTerm, crlf]
  | cons l t ih =>
    cases fuel with
    | zero => cases hf
    | succ f =>
      obtain ⟨⟨x, u, rfl, hx1, hx2, hx3⟩, hsafe⟩ := hg l (by simp)
      have hS : startsWS ((t.map (· ++ crlf)).flatten ++ crlf ++ rest) = false := by
        cases t with
        | nil => rfl
        | cons l2 t2 =>
          obtain ⟨⟨y, v, rfl, _, _, hy3⟩, _⟩ := hg l2 (by simp)
          simpa [startsWS] using hy3
      have htl := takeLogical_line (x :: u) _ hsafe hS
      have ih' := ih (fun l hl => hg l (by simp [hl])) f (by simpa using hf)
      simp only [List.map_cons, List.flatten_cons, List.append_assoc, List.cons_append] at htl ih' ⊢
      simp only [parseLines, afterTerm_none _ hx1 hx2, htl, ih', Option.map_some]

theorem length_le_flatten_lines (ls : List Bytes) : ls.length ≤ ((ls.map (· ++ crlf)).flatten).length := by
  induction ls with
  | nil => simp
  | cons l t ih => simp [crlf] at ih ⊢; omega

theorem headBytes_eq (lines : List Bytes) : headBytes lines = (lines.map (· ++ crlf)).flatten ++ crlf := by
  unfold headBytes
  induction lines with
  | nil => simp [joinWith, crlf]
  | cons l t ih =>
    cases t with
    | nil => simp [joinWith, crlf]
    | cons l2 t2 =>
      simp only [List.cons_append, joinWith] at ih ⊢
      rw [ih]; simp

theorem parseRequestLine_ok (m u : Bytes) (hm : m ≠ []) (hu : u ≠ []) (hm32 : 32 ∉ m) (hu32 : 32 ∉ u)
    (htok : m.all isTokenC = true) :
    parseRequestLine (m ++ [32] ++ u ++ [32] ++ httpVsn) = some (m, u) := by
  have h1 : splitOn1 32 (m ++ 32 :: (u ++ 32 :: httpVsn)) = [m, u, httpVsn] := by
    rw [splitOn1_append 32 m _ hm32, splitOn1_append 32 u _ hu32, splitOn1_single 32 httpVsn (by decide)]
  simp [parseRequestLine, h1, hm, hu, htok]

theorem parseHeaderLine_ok (n v : Bytes) (hn : n ≠ []) (h58 : 58 ∉ n) :
    parseHeaderLine (hdrLine (n, v)) = some (n, trimOWS v) := by
  have hl : ∀ a ∈ n, (a != 58) = true := by
    intro a ha
    simp
    rintro rfl
    exact h58 ha
  have e1 : hdrLine (n, v) = n ++ 58 :: 32 :: v := by simp [hdrLine, colonSp]
  simp [parseHeaderLine, e1, List.takeWhile_append_of_pos hl, List.dropWhile_append_of_pos hl, hn, trimOWS_sp]

theorem legalName_facts (n : Bytes) (h : legalHeaderName n = true) :
    n ≠ [] ∧ 58 ∉ n ∧ (∀ c ∈ n, c ≠ 13 ∧ c ≠ 10) ∧
    (∃ x t, n = x :: t ∧ x ≠ 13 ∧ x ≠ 10 ∧ isWS x = false) := by
  cases n with
  | nil => simp [legalHeaderName] at h
  | cons x t =>
    simp [legalHeaderName, isReSpace] at h
    refine ⟨by simp, ?_, ?_, x, t, rfl, ?_, ?_, ?_⟩ <;>
      simp [isWS] <;>
      grind

theorem goodLine_hdr (h : Hdr) (hl : LegalHdr h) : GoodLine (hdrLine h) := by
  obtain ⟨_, _, hcr, x, t, e, hx⟩ := legalName_facts h.1 hl.name
  refine ⟨⟨x, t ++ colonSp ++ h.2, by simp [hdrLine, e], hx⟩, ?_⟩
  rw [hdrLine, List.append_assoc]
  exact safe_append_noCRLF _ _ hcr (safe_append_noCRLF _ _ (by decide) (safe_of_legal_value _ hl.value))

theorem mapM_parseHeaderLine (hs : List Hdr) (hl : ∀ h ∈ hs, LegalHdr h) :
    (hs.map hdrLine).mapM parseHeaderLine = some (hs.map trimHdr) := by
  induction hs with
  | nil => rfl
  | cons h t ih =>
    obtain ⟨hne, h58, _⟩ := legalName_facts h.1 (hl h (by simp)).name
    simp [parseHeaderLine_ok h.1 h.2 hne h58, trimHdr, ih fun x hx => hl x (by simp [hx])]

theorem tokenC_facts {c : Nat} (h : isTokenC c = true) : (c ≠ 13 ∧ c ≠ 10) ∧ c ≠ 32 ∧ isWS c = false := by
  simp [isTokenC, isAlphaC, isUpperC, isLowerC, isDigitC] at h
  simp [isWS]
  omega

theorem urlC_facts {c : Nat} (h : hcUrlBadC c = false) : (c ≠ 13 ∧ c ≠ 10) ∧ c ≠ 32 := by
  simp [hcUrlBadC] at h
  omega

theorem urlOrSlash_ne_nil (u : Str) : urlOrSlash u ≠ [] := by
  unfold urlOrSlash
  split
  · simp
  · rename_i h; simpa using h

theorem reqLine_good {meth url rl : Bytes} (h : ReqLineOk meth url rl) :
    GoodLine rl ∧ startsWS rl = false ∧ parseRequestLine rl = some (meth, urlOrSlash url) := by
  obtain ⟨rfl, hm, htok, hurl⟩ := h
  have htok' : ∀ c ∈ meth, isTokenC c = true := by simpa using htok
  have hurl' : ∀ c ∈ urlOrSlash url, hcUrlBadC c = false := by simpa [hcUrlBad] using hurl
  have hp := parseRequestLine_ok meth _ hm (urlOrSlash_ne_nil url)
    (fun hc => (tokenC_facts (htok' 32 hc)).2.1 rfl) (fun hc => (urlC_facts (hurl' 32 hc)).2 rfl) htok
  have hnocr : ∀ c ∈ meth ++ [32] ++ urlOrSlash url ++ [32] ++ httpVsn, c ≠ 13 ∧ c ≠ 10 := by
    intro c hc
    simp only [List.mem_append, List.mem_singleton] at hc
    rcases hc with (((hc | rfl) | hc) | rfl) | hc
    · exact (tokenC_facts (htok' c hc)).1
    · decide
    · exact (urlC_facts (hurl' c hc)).1
    · decide
    · revert c; decide
  have hsafe := safe_append_noCRLF _ [] hnocr rfl
  obtain ⟨x, t, rfl⟩ := List.exists_cons_of_ne_nil hm
  have hx := tokenC_facts (htok' x (by simp))
  rw [List.append_nil] at hsafe
  exact ⟨⟨⟨x, _, rfl, hx.1.1, hx.1.2, hx.2.2⟩, hsafe⟩, hx.2.2, hp⟩

theorem strictParse_prepared {meth url : Str} {p : Prepared} (hp : LegalHead meth url p) (rest : Bytes) :
    strictParse (headBytes p.lines ++ rest) =
      some ⟨meth, urlOrSlash url, p.hdrs.map trimHdr, rest⟩ := by
  obtain ⟨hgood0, hws, hreq⟩ := reqLine_good hp.reqLine
  have hgood : ∀ l ∈ p.lines, GoodLine l := by
    intro l hlm
    simp only [Prepared.lines, List.mem_cons, List.mem_map] at hlm
    rcases hlm with rfl | ⟨h, hh, rfl⟩
    · exact hgood0
    · exact goodLine_hdr h (hp.legal h hh)
  have hparse := parseLines_lines p.lines rest hgood ((headBytes p.lines ++ rest).length + 1) (by
    have := length_le_flatten_lines p.lines
    simp only [headBytes_eq, List.length_append]; omega)
  unfold strictParse
  rw [headBytes_eq] at hparse ⊢
  rw [hparse]
  simp [Prepared.lines, hws, hreq, mapM_parseHeaderLine p.hdrs hp.legal]

theorem prepare_inv {cfg : Cfg} {meth url : Str} {headers : List (Str × Str)} {body : Body} {ch : Bool}
    {p : Prepared} (e : prepare cfg meth url headers body ch = .ok p) :
    ∃ v cc fr, PrepareOk cfg meth url headers body ch v cc fr p := by
  unfold prepare at e
  obtain ⟨-, e⟩ := ite_err e
  repeat' split at e
  all_goals try cases e
  rename_i l0 h0 _ cc hcc _ fr hfr _ ua hua _ hs hhs
  obtain ⟨v, h⟩ := prepareOk_of_steps h0 hcc hfr hua hhs
  exact ⟨v, cc, fr, h⟩

theorem prepare_legal {cfg : Cfg} {meth url : Str} {headers : List (Str × Str)} {body : Body} {ch : Bool}
    {p : Prepared} (e : prepare cfg meth url headers body ch = .ok p) : LegalHead meth url p := by
  obtain ⟨_, _, _, h⟩ := prepare_inv e
  exact h.toLegalHead

theorem putheader_contentLength (n : Nat) {l : List Hdr}
    (hp : putheader (lit "Content-Length") (toDec n) = .ok l) : l = [(lit "Content-Length", toDec n)] := by
  rw [(putheader_inv hp).1]
  split
  · rfl
  · rename_i hv
    simp [putheader, hv, hdrConsts.clKept] at hp

theorem framing_inv {keys : List Str} {ch : Bool} {chunks : Option (List Chunk)} {cl : Option Nat} {fr : Framing}
    (h : framing keys ch chunks cl = .ok fr) :
    (fr = ⟨true, [(lit "Transfer-Encoding", lit "chunked")]⟩ ∧ keys.contains (lit "transfer-encoding") = false ∧
      (ch = true ∨ (cl = none ∧ chunks.isSome = true))) ∨
    (fr.lines = [] ∧ (keys.contains (lit "content-length") = false → keys.contains (lit "transfer-encoding") = false →
      fr.chunked = false ∧ ch = false ∧ cl = none ∧ chunks = none)) ∨
    (∃ n, fr = ⟨false, [(lit "Content-Length", toDec n)]⟩ ∧ keys.contains (lit "content-length") = false ∧
      keys.contains (lit "transfer-encoding") = false ∧ ch = false ∧ cl = some n) := by
  unfold framing at h
  by_cases hk1 : lit "content-length" ∈ keys <;> by_cases hk2 : lit "transfer-encoding" ∈ keys <;> cases ch <;>
    simp [hk1, hk2, hdrConsts.chunkedLine, Except.map] at h ⊢
  all_goals try (subst h; simp)
  -- neither framing header, chunking not requested: the body decides
  cases cl with
  | none =>
    cases hs : chunks.isSome <;>
      simp [hs] at h <;>
      subst h <;>
      simp_all
  | some n =>
    obtain ⟨l, hl, rfl⟩ := map_ok h
    simp [putheader_contentLength n hl]

/-- `request` read through `prepare`: a failing head phase writes nothing and leaves the body alone -/
theorem request_error {cfg : Cfg} {m t : Str} {hs : List (Str × Str)} {b : Body} {ch : Bool} {e : Exc}
    (h : prepare cfg m t hs b ch = .error e) : request cfg m t hs b ch = ⟨⟨[], some e⟩, b⟩ := by
  unfold request
  rw [h]

/-- … otherwise the whole head goes out, then what the body phase writes, and the body phase alone decides the
outcome -/
theorem request_ok {cfg : Cfg} {m t : Str} {hs : List (Str × Str)} {b : Body} {ch : Bool} {p : Prepared}
    (h : prepare cfg m t hs b ch = .ok p) : request cfg m t hs b ch =
      ⟨⟨headBytes p.lines ++ (bodyPhase p).written, (bodyPhase p).err⟩, p.after⟩ := by
  unfold request
  rw [h]

/-- a byte that may appear in a request target: visible ASCII other than `#` -/
def cleanC (c : Nat) : Prop := 0x20 < c ∧ c < 0x7f ∧ c ≠ 35

theorem hexDigitU_clean {d : Nat} (h : d < 16) : cleanC (hexDigitU d) := by
  unfold cleanC hexDigitU; split <;> omega

theorem utf8Char_lt {c : Nat} (h : c < 0x110000) : ∀ b ∈ utf8Char c, b < 256 := by
  intro b hb
  unfold utf8Char at hb
  repeat' split at hb
  all_goals simp at hb; omega

theorem upperC_le (c : Nat) : upperC c ≤ c := by
  unfold upperC
  split <;> omega

theorem upperPercentsAux_lt (N : Nat) (s : Str) (hs : ∀ c ∈ s, c < N) :
    ∀ k, ∀ c ∈ (upperPercentsAux k s).1, c < N := by
  induction s with
  | nil => intro k c hc; simp [upperPercentsAux] at hc
  | cons x t ih =>
    have hx := hs x (by simp)
    have hu := upperC_le x
    have iht := ih fun c hc => hs c (by simp [hc])
    intro k c hc
    simp only [upperPercentsAux] at hc
    repeat' split at hc
    all_goals
      rcases List.mem_cons.mp hc with rfl | hc
      · omega
      · exact iht _ c hc

theorem encodeInvalidChars_clean (comp : Str) (allowed : List Nat) (hv : ∀ c ∈ comp, c < 0x110000)
    (ha : ∀ c ∈ allowed, cleanC c) : ∀ c ∈ encodeInvalidChars comp allowed, cleanC c := by
  intro c hc
  simp only [encodeInvalidChars, List.mem_flatMap] at hc
  obtain ⟨b, hb, hc⟩ := hc
  have hb256 : b < 256 := by
    simp only [utf8SP, List.mem_flatMap] at hb
    obtain ⟨x, hx, hb⟩ := hb
    exact utf8Char_lt (upperPercentsAux_lt _ comp hv 0 x hx) b hb
  split at hc
  · rename_i hcond
    obtain rfl := List.mem_singleton.mp hc
    simp only [Bool.or_eq_true, Bool.and_eq_true, beq_iff_eq, decide_eq_true_eq] at hcond
    rcases hcond with ⟨_, rfl⟩ | ⟨_, hal⟩
    · simp [cleanC]
    · exact ha c (by simpa using hal)
  · simp only [pctByte, List.mem_cons, List.mem_nil_iff, or_false] at hc
    rcases hc with rfl | rfl | rfl
    · simp [cleanC]
    · exact hexDigitU_clean (by omega)
    · exact hexDigitU_clean (Nat.mod_lt _ (by decide))

theorem targetQuery_mem {r q : Str} (h : targetQuery r = some q) : ∀ x ∈ q, x ∈ r := by
  unfold targetQuery at h
  split at h
  · cases h
    exact fun x hx => List.mem_cons_of_mem _ (mem_takeWhile_mem hx)
  · cases h

theorem encodeTarget_clean (t s : Str) (hv : ∀ c ∈ t, c < 0x110000) (h : encodeTarget t = .ok s) :
    ∀ c ∈ s, cleanC c := by
  unfold encodeTarget at h
  split at h
  · split at h
    · cases h
    · cases h
      intro c hc
      rcases List.mem_append.mp hc with hc | hc
      · exact encodeInvalidChars_clean _ _ (fun x hx => hv x (mem_takeWhile_mem hx))
          (by unfold cleanC; decide) c hc
      · split at hc
        · rename_i q hq
          rcases List.mem_cons.mp hc with rfl | hc
          · simp [cleanC]
          · exact encodeInvalidChars_clean q _
              (fun x hx => hv x (mem_dropWhile_mem (targetQuery_mem hq x hx))) (by unfold cleanC; decide) c hc
        · cases hc
  · cases h

theorem readAt_zero (ps : List (List Nat)) : ∀ k, readAt 0 ps k = [] := by
  induction ps with
  | nil => intro k; rfl
  | cons p ps ih =>
    intro k
    simp only [readAt]
    split
    · rfl
    · split
      · simp
      · exact ih _

theorem readAt_prefix (n : Nat) (ps : List (List Nat)) : ∀ k, readAt n ps k <+: (scriptData ps).drop k := by
  induction ps with
  | nil => intro k; simp [readAt, scriptData]
  | cons p ps ih =>
    intro k
    simp only [readAt, scriptData]
    split
    · exact List.nil_prefix
    · split
      · rename_i hk
        rw [List.drop_append_of_le_length (Nat.le_of_lt hk)]
        exact (List.take_prefix _ _).trans (List.prefix_append _ _)
      · rw [List.drop_append, List.drop_of_length_le (by omega), List.nil_append]
        exact ih _

/-- a short read is never the end -/
theorem readAt_eq_nil_iff {n : Nat} (hn : 0 < n) (ps : List (List Nat)) : ∀ k,
    readAt n ps k = [] ↔ (scriptData ps).length ≤ k := by
  induction ps with
  | nil => intro k; simp [readAt, scriptData]
  | cons p ps ih =>
    intro k
    simp only [readAt, scriptData]
    split
    · simp
    · rename_i hp
      have : 0 < p.length := by cases p <;> simp_all
      split
      · simp [List.take_eq_nil_iff]; omega
      · rw [ih, List.length_append]; omega

/-- same file object, possibly at another position -/
def SameFile (f0 f : FileB) : Prop :=
  f.pieces = f0.pieces ∧ f.seek = f0.seek ∧ f.tell = f0.tell ∧ f.text = f0.text

theorem sameFile_content {f0 f : FileB} (h : SameFile f0 f) : f.content = f0.content := by
  unfold FileB.content; rw [h.1]

theorem chunkReadableAux_spec {n : Nat} (hn : 0 < n) : ∀ (fuel : Nat) (f : FileB),
    f.content.length < fuel + f.pos →
    (chunkReadableAux n fuel f).1.flatten = f.content.drop f.pos ∧
    (∀ d ∈ (chunkReadableAux n fuel f).1, d ≠ []) ∧
    (chunkReadableAux n fuel f).2 = { f with pos := max f.pos f.content.length } := by
  intro fuel
  induction fuel with
  | zero =>
    intro f hf
    have hle : f.content.length ≤ f.pos := by omega
    simp [chunkReadableAux, List.drop_of_length_le hle, Nat.max_eq_left hle]
  | succ fuel ih =>
    intro f hf
    have hnil := readAt_eq_nil_iff hn f.pieces f.pos
    have hpre := List.prefix_iff_eq_append.mp (readAt_prefix n f.pieces f.pos)
    rw [List.drop_drop] at hpre
    simp only [chunkReadableAux, FileB.read]
    by_cases hd : (readAt n f.pieces f.pos).isEmpty = true
    · have hle : f.content.length ≤ f.pos := hnil.mp (List.isEmpty_iff.mp hd)
      simp [List.isEmpty_iff.mp hd, List.drop_of_length_le hle, Nat.max_eq_left hle]
    · simp only [hd, if_false, Bool.false_eq_true]
      have hne : readAt n f.pieces f.pos ≠ [] := by simpa using hd
      have hpos := List.length_pos_iff.mpr hne
      have hlen := (readAt_prefix n f.pieces f.pos).length_le
      rw [List.length_drop, show (scriptData f.pieces).length = f.content.length from rfl] at hlen
      obtain ⟨h1, h2, h3⟩ := ih { f with pos := f.pos + (readAt n f.pieces f.pos).length } (by
        show f.content.length < fuel + (f.pos + _); omega)
      refine ⟨by rw [List.flatten_cons, h1]; exact hpre, ?_, ?_⟩
      · intro d hdm
        rcases List.mem_cons.mp hdm with rfl | hdm
        · exact hne
        · exact h2 d hdm
      · rw [h3]
        show ({ f with pos := max (f.pos + (readAt n f.pieces f.pos).length) f.content.length } : FileB) = _
        congr 1
        omega

theorem chunkReadable_spec {n : Nat} (hn : 0 < n) (f : FileB) :
    (chunkReadable n f).1.flatten = f.content.drop f.pos ∧
    (∀ d ∈ (chunkReadable n f).1, d ≠ []) ∧
    (chunkReadable n f).2 = { f with pos := max f.pos f.content.length } :=
  chunkReadableAux_spec hn _ f (by omega)

/-- `blocksize = 0`: the first `read(0)` is empty, nothing is sent and the file is not moved -/
theorem chunkReadable_zero (f : FileB) : chunkReadable 0 f = ([], f) := by
  simp [chunkReadable, chunkReadableAux, FileB.read, readAt_zero]

/-- reading moves the file and does nothing else to it -/
theorem chunkReadable_pos (n : Nat) (f : FileB) : ∃ k, (chunkReadable n f).2 = { f with pos := k } := by
  cases n with
  | zero => exact ⟨f.pos, by rw [chunkReadable_zero]⟩
  | succ n => exact ⟨_, (chunkReadable_spec n.succ_pos f).2.2⟩

theorem chunkBytes_str_append (a b : Str) :
    chunkBytes (.str (a ++ b)) = (do let x ← chunkBytes (.str a); let y ← chunkBytes (.str b); pure (x ++ y)) := by
  simp only [chunkBytes, List.any_append, utf8SP, List.flatMap_append]
  cases a.any isSurrogate <;> cases b.any isSurrogate <;> simp

theorem chunksPayload_str_blocks (bl : List Str) :
    chunksPayload (bl.map Chunk.str) = chunkBytes (.str bl.flatten) := by
  induction bl with
  | nil => simp [chunksPayload, chunkBytes, utf8SP]
  | cons a t ih =>
    simp only [List.map_cons, chunksPayload, List.flatten_cons, chunkBytes_str_append, ih]

theorem chunksPayload_bytes_blocks (bl : List Bytes) :
    chunksPayload (bl.map Chunk.bytes) = some bl.flatten := by
  induction bl with
  | nil => simp [chunksPayload]
  | cons a t ih => simp [chunksPayload, chunkBytes, ih]

/-- object invariant of a buffer chunk: a positive item size and a whole number of items
(`nbytes = len * itemsize`), so that `not chunk` (no items) is the same as "no bytes".  Items may be
wider than a byte.  Chunks of the other kinds satisfy it trivially. -/
def wellSized : Chunk → Prop
  | .buf b k => 0 < k ∧ b.length % k = 0
  | _ => True

def WellSizedBody : Body → Prop
  | .buffer b k => 0 < k ∧ b.length % k = 0
  | .iter cs _ => ∀ c ∈ cs, wellSized c
  | _ => True

/-- bodies that are consumed (and whose `str` pieces are encoded) while the body is being sent -/
def LazyText : Body → Prop
  | .iter _ _ => True
  | .file f => f.text = true
  | _ => False

/-- what `body_to_chunks` hands on, against the bytes of the body: the chunks carry them, are well sized if the
body is, a recommended `Content-Length` is their number, and only a lazily encoded body can be without bytes -/
structure ChunksOk (body : Body) (cc : ChunksCL) : Prop where
  pay : (match cc.chunks with | some cs => chunksPayload cs | none => some []) = payload body
  sized : WellSizedBody body → ∀ cs, cc.chunks = some cs → ∀ c ∈ cs, wellSized c
  len : ∀ n bs, cc.contentLength = some n → payload body = some bs → bs.length = n
  lazy : payload body = none → LazyText body

theorem bodyToChunks_spec {body : Body} {m : Str} {bs : Nat} {cc : ChunksCL} (hbs : 0 < bs)
    (h : bodyToChunks body m bs = .ok cc) : ChunksOk body cc := by
  cases body with
  | str s =>
    simp only [bodyToChunks, bind, Except.bind] at h
    split at h
    · cases h
    · rename_i b hb
      cases h
      simp only [encodeUtf8] at hb
      split at hb
      · cases hb
      · cases hb
        rename_i hs
        constructor <;> simp [chunksPayload, chunkBytes, payload, wellSized, hs]
  | file f =>
    cases h
    refine ⟨?_, ?_, by simp, ?_⟩
    · simp only [payload]
      cases f.text with
      | true => exact (chunksPayload_str_blocks _).trans (by rw [(chunkReadable_spec hbs f).1]; rfl)
      | false => exact (chunksPayload_bytes_blocks _).trans (by rw [(chunkReadable_spec hbs f).1]; rfl)
    · intro _ cs hcs c hc
      cases hcs
      obtain ⟨d, _, rfl⟩ := List.mem_map.mp hc
      split <;> trivial
    · intro hn
      cases ht : f.text with
      | true => exact ht
      | false => simp [payload, ht, chunkBytes] at hn
  | none =>
    cases h
    refine ⟨rfl, by simp, ?_, nofun⟩
    intro n pay hn hp
    cases hp
    split at hn <;> cases hn
    rfl
  | _ =>
    cases h
    constructor <;> simp +contextual [chunksPayload, chunkBytes, payload, wellSized, WellSizedBody, LazyText]

theorem utf8SP_eq_nil {s : Str} (h : utf8SP s = []) : s = [] := by
  cases s with
  | nil => rfl
  | cons x u =>
    have : utf8Char x = [] := (List.append_eq_nil_iff.mp h).1
    unfold utf8Char at this
    repeat' split at this
    all_goals cases this

theorem Chunk.data_spec (c : Chunk) :
    (∃ d, c.data = .ok d ∧ chunkBytes c = some d) ∨ (c.data = .error .unicodeEncodeError ∧ chunkBytes c = none) := by
  cases c with
  | str s => cases h : s.any isSurrogate <;> simp [Chunk.data, encodeUtf8, chunkBytes, h]
  | _ => simp [Chunk.data, chunkBytes]

theorem Chunk.len_eq_zero_iff {c : Chunk} (hw : wellSized c) : c.len = 0 ↔ chunkBytes c = some [] := by
  cases c with
  | bytes b => simp [Chunk.len, chunkBytes]
  | str s =>
    simp only [Chunk.len, chunkBytes, List.length_eq_zero_iff]
    constructor
    · rintro rfl; rfl
    · intro h
      split at h
      · cases h
      · exact utf8SP_eq_nil (Option.some.inj h)
  | buf b k =>
    obtain ⟨hk, hmod⟩ := hw
    simp only [Chunk.len, chunkBytes, Option.some.injEq, ← List.length_eq_zero_iff]
    have := Nat.div_add_mod b.length k
    constructor
    · intro h0; rw [h0, hmod] at this; omega
    · intro h0; simp [h0]

/-- `hex(len) CRLF data CRLF` for every piece -/
def frameData : List Bytes → Bytes
  | [] => []
  | d :: t => toHex d.length ++ crlf ++ d ++ crlf ++ frameData t

theorem sendChunks_spec (cs : List Chunk) (hw : ∀ c ∈ cs, wellSized c) (chunked : Bool)
    (hok : (sendChunks chunked cs).err = none) :
    ∃ ds : List Bytes, (∀ d ∈ ds, d ≠ []) ∧ chunksPayload cs = some ds.flatten ∧
      (sendChunks chunked cs).written = if chunked then frameData ds else ds.flatten := by
  induction cs with
  | nil => exact ⟨[], by simp, rfl, by cases chunked <;> rfl⟩
  | cons c t ih =>
    have hlen := Chunk.len_eq_zero_iff (hw c (by simp))
    have ih := ih fun x hx => hw x (by simp [hx])
    simp only [sendChunks] at hok ⊢
    split at hok
    · -- an empty piece is skipped
      rename_i h0
      obtain ⟨ds, h1, h2, h3⟩ := ih hok
      exact ⟨ds, h1, by simp [chunksPayload, hlen.mp h0, h2], by simpa [h0] using h3⟩
    · rename_i h0
      rcases Chunk.data_spec c with ⟨d, hd, hb⟩ | ⟨hd, _⟩
      · rw [hd] at hok ⊢
        obtain ⟨ds, h1, h2, h3⟩ := ih hok
        have hne : d ≠ [] := fun e => h0 (hlen.mpr (e ▸ hb))
        refine ⟨d :: ds, by simpa [hne] using h1, by simp [chunksPayload, hb, h2], ?_⟩
        simp only [h0, if_false, h3, Chunk.sizeLine]
        cases chunked <;> simp [frameData]
      · rw [hd] at hok; cases hok

/-- non-empty `bytes` blocks (the `read()` results of a binary file): nothing is skipped, nothing can fail, every
block is one chunk -/
theorem sendChunks_bytes_blocks (bl : List Bytes) (hne : ∀ d ∈ bl, d ≠ []) :
    (sendChunks true (bl.map Chunk.bytes)).err = none ∧
    (sendChunks true (bl.map Chunk.bytes)).written = frameData bl := by
  induction bl with
  | nil => exact ⟨rfl, rfl⟩
  | cons d t ih =>
    have hd : d.length ≠ 0 := fun h => hne d (by simp) (List.eq_nil_of_length_eq_zero h)
    obtain ⟨g1, g2⟩ := ih fun x hx => hne x (by simp [hx])
    simp [sendChunks, Chunk.len, hd, Chunk.data, Chunk.sizeLine, g1, g2, frameData]

theorem bodyPhase_ok {p : Prepared} (hw : ∀ cs, p.chunks = some cs → ∀ c ∈ cs, wellSized c)
    (h : (bodyPhase p).err = none) :
    ∃ ds : List Bytes, (∀ d ∈ ds, d ≠ []) ∧
      (match p.chunks with | some cs => chunksPayload cs | none => some []) = some ds.flatten ∧
      (bodyPhase p).written = if p.chunked then frameData ds ++ lastChunk else ds.flatten := by
  unfold bodyPhase at h ⊢
  cases hc : p.chunks with
  | none => exact ⟨[], by simp, rfl, by cases p.chunked <;> rfl⟩
  | some cs =>
    simp only [hc] at h ⊢
    cases he : (sendChunks p.chunked cs).err with
    | some e => simp [he] at h
    | none =>
      obtain ⟨ds, h1, h2, h3⟩ := sendChunks_spec cs (hw cs hc) p.chunked he
      refine ⟨ds, h1, h2, ?_⟩
      simp only [h3]
      cases p.chunked <;> simp

theorem bodyPhase_err {p : Prepared} {e : Exc} (h : (bodyPhase p).err = some e) :
    ∃ cs, p.chunks = some cs ∧ (sendChunks p.chunked cs).err = some e := by
  unfold bodyPhase at h
  cases hc : p.chunks with
  | none => simp [hc] at h
  | some cs =>
    simp only [hc] at h
    cases he : (sendChunks p.chunked cs).err with
    | none => simp [he] at h
    | some e' => exact ⟨cs, rfl, by simpa [he] using h⟩

theorem sendChunks_err {ch : Bool} {cs : List Chunk} {e : Exc} (h : (sendChunks ch cs).err = some e) :
    e = .unicodeEncodeError ∧ chunksPayload cs = none := by
  induction cs with
  | nil => cases h
  | cons c t ih =>
    simp only [sendChunks] at h
    have hrest : (sendChunks ch t).err = some e → chunksPayload (c :: t) = none := fun h' => by
      cases hb : chunkBytes c <;> simp [chunksPayload, hb, (ih h').2]
    split at h
    · exact ⟨(ih h).1, hrest h⟩
    · rcases Chunk.data_spec c with ⟨d, hd, _⟩ | ⟨hd, hb⟩
      · rw [hd] at h
        exact ⟨(ih h).1, hrest h⟩
      · rw [hd] at h
        cases h
        exact ⟨rfl, by simp [chunksPayload, hb]⟩

theorem dechunk_size_line (fuel n : Nat) (r : Bytes) :
    dechunk (fuel + 1) (toHex n ++ 13 :: 10 :: r) =
      if n = 0 then (if r == crlf then some [] else none)
      else if r.length < n + 2 then none
      else if (r.drop n).take 2 != crlf then none
      else (dechunk fuel (r.drop (n + 2))).map fun p => r.take n ++ p := by
  have htw : (toHex n ++ 13 :: 10 :: r).takeWhile (fun c => (hexVal c).isSome) = toHex n := by
    rw [List.takeWhile_append_of_pos (toHex_hex n), List.takeWhile_cons_of_neg (by simp [hexVal]),
      List.append_nil]
  rw [dechunk]
  simp only [htw, List.drop_left, ofHex_toHex]

theorem dechunk_step (fuel : Nat) (d rest : Bytes) (hd : d ≠ []) :
    dechunk (fuel + 1) (toHex d.length ++ crlf ++ d ++ crlf ++ rest) =
      (dechunk fuel rest).map (fun p => d ++ p) := by
  have hw : toHex d.length ++ crlf ++ d ++ crlf ++ rest = toHex d.length ++ 13 :: 10 :: (d ++ crlf ++ rest) := by
    simp [crlf]
  have h3 : (d ++ crlf ++ rest).drop (d.length + 2) = rest := by
    rw [← List.drop_drop]; simp [crlf]
  rw [hw, dechunk_size_line, h3]
  simp [hd, crlf, Nat.add_assoc]
  omega

theorem dechunk_frameData (ds : List Bytes) (hne : ∀ d ∈ ds, d ≠ []) (fuel : Nat) (hf : ds.length < fuel) :
    dechunk fuel (frameData ds ++ lastChunk) = some ds.flatten := by
  induction ds generalizing fuel with
  | nil =>
    cases fuel with
    | zero => cases hf
    | succ f => exact dechunk_size_line f 0 crlf
  | cons d t ih =>
    cases fuel with
    | zero => cases hf
    | succ f =>
      rw [frameData, List.append_assoc, dechunk_step f d _ (hne d (by simp)),
        ih (fun x hx => hne x (by simp [hx])) f (by simpa using hf)]
      rfl

theorem length_le_frameData (ds : List Bytes) : ds.length ≤ (frameData ds).length := by
  induction ds with
  | nil => simp [frameData]
  | cons d t ih =>
    have := List.length_pos_iff.mpr (toHex_radix.ne_nil (by decide) d.length)
    simp [frameData]; omega

theorem headerValues_append (a b : List (Bytes × Bytes)) (n : Str) :
    headerValues (a ++ b) n = headerValues a n ++ headerValues b n := by
  simp [headerValues]

theorem headerValues_eq_nil {l : List Hdr} {n : Str} (h : ∀ x ∈ l, lower x.1 ≠ n) :
    headerValues (l.map trimHdr) n = [] := by
  simp only [headerValues, List.map_eq_nil_iff, List.filter_eq_nil_iff, List.mem_map]
  rintro _ ⟨x, hx, rfl⟩
  simpa [trimHdr] using h x hx

/-- only `frL` contributes values under a name that is neither one of the automatic headers' nor one of the
caller's -/
theorem headerValues_headHdrs {headers : List (Str × Str)} {n : Str} (v : Bytes) (frL : List Hdr)
    (hn : ∀ k ∈ [lit "Host", lit "Accept-Encoding", lit "User-Agent"], lower k ≠ n)
    (hk : (headerKeys headers).contains n = false) :
    headerValues ((headHdrs v frL headers).map trimHdr) n = headerValues (frL.map trimHdr) n := by
  have auto : ∀ (c : Bool) (k : Str) (v : Bytes), k ∈ [lit "Host", lit "Accept-Encoding", lit "User-Agent"] →
      headerValues ((if c then [] else [((k, v) : Hdr)]).map trimHdr) n = [] := by
    intro c k v hm
    cases c <;> simp [headerValues, trimHdr, hn k hm]
  have caller : ∀ x ∈ callerHdrs headers, lower x.1 ≠ n := by
    rintro x hx rfl
    have hm : lower x.1 ∈ headerKeys headers := List.mem_map.mpr ⟨x, (List.mem_filter.mp hx).1, rfl⟩
    simp [hm] at hk
  simp only [headHdrs, List.map_append, headerValues_append, headerValues_eq_nil caller, auto _ (lit "Host") _ (by simp),
    auto _ (lit "Accept-Encoding") _ (by simp), auto _ (lit "User-Agent") _ (by simp), List.nil_append,
    List.append_nil]

theorem deframe_prepared {cfg : Cfg} {meth url : Str} {headers : List (Str × Str)} {body : Body} {ch : Bool}
    {p : Prepared} (hp : prepare cfg meth url headers body ch = .ok p)
    (h1 : (headerKeys headers).contains (lit "content-length") = false)
    (h2 : (headerKeys headers).contains (lit "transfer-encoding") = false)
    (hbs : 0 < cfg.blocksize) (hw : WellSizedBody body) (hok : (bodyPhase p).err = none) (m t : Bytes) :
    ∃ kind pay, deframe ⟨m, t, p.hdrs.map trimHdr, (bodyPhase p).written⟩ = some (kind, pay) ∧
      payload body = some pay := by
  obtain ⟨v, cc, fr, hp⟩ := prepare_inv hp
  have k := hdrConsts
  have hb := bodyToChunks_spec hbs hp.cc_ok
  obtain ⟨ds, hne, hds, hwr⟩ := bodyPhase_ok (p := p) (by rw [hp.chunks]; exact hb.sized hw) hok
  rw [hp.chunks, hb.pay] at hds
  rw [hp.chunked] at hwr
  unfold deframe
  -- the automatic lines have other names than the framing headers, and the caller's are excluded by hypothesis
  simp only [hp.hdrs, headerValues_headHdrs _ _ (fun n hn => (k.autoNames n hn).1) h1,
    headerValues_headHdrs _ _ (fun n hn => (k.autoNames n hn).2) h2, hwr]
  rcases framing_inv hp.fr_ok with ⟨rfl, _, _⟩ | ⟨hl, hn⟩ | ⟨n, rfl, _, _, _, hcl⟩
  · -- Transfer-Encoding: chunked
    simp only [headerValues, trimHdr, List.map_cons, List.map_nil, List.filter_cons, List.filter_nil, k.te_cl, k.te_te,
      k.chunked, if_true, Bool.false_eq_true, if_false]
    rw [dechunk_frameData ds hne _ (by
      have := length_le_frameData ds
      simp only [List.length_append]; omega)]
    exact ⟨.chunked, ds.flatten, rfl, hds⟩
  · -- no framing header at all: there is no body
    obtain ⟨hch, _, _, hcn⟩ := hn h1 h2
    have hpay := hb.pay
    rw [hcn] at hpay
    have hfl : ds.flatten = [] := by rw [← hpay] at hds; exact (Option.some.inj hds).symm
    simp only [hl, hch, hfl]
    exact ⟨.unframed, [], rfl, hpay.symm⟩
  · -- Content-Length: n
    simp only [headerValues, trimHdr, List.map_cons, List.map_nil, List.filter_cons, List.filter_nil, k.cl_cl, k.cl_te,
      if_true, trimOWS_toDec, ofDec_toDec, hb.len n _ hcl hds, Bool.false_eq_true, if_false]
    exact ⟨.contentLength, ds.flatten, rfl, hds⟩

theorem serialize_ok {cfg : Cfg} {meth url : Str} {hs : List (Str × Str)} {body : Body} {ch : Bool} {w : Bytes}
    (h : serialize cfg meth url hs body ch = .ok w) :
    ∃ p, prepare cfg meth url hs body ch = .ok p ∧ (bodyPhase p).err = none ∧
      w = headBytes p.lines ++ (bodyPhase p).written := by
  unfold serialize at h
  cases hp : prepare cfg meth url hs body ch with
  | error e => simp [request_error hp] at h
  | ok p =>
    cases he : (bodyPhase p).err <;> simp [request_ok hp, he] at h
    exact ⟨p, rfl, he, h.symm⟩

/-- `b` with its file position, if it has one, moved to `k` -/
def Body.seekTo : Body → Nat → Body
  | .file f, k => .file { f with pos := k }
  | b, _ => b

theorem Body.eq_seekTo (b : Body) : ∃ k, b = b.seekTo k := by
  cases b with
  | file f => exact ⟨f.pos, rfl⟩
  | _ => exact ⟨0, rfl⟩

/-- bodies that are still there after a request: everything but a one-shot iterable — and, for a file, with a
`tell` attribute (working or not), so that `set_file_position` does not take it for a body without position -/
def Replayable : Body → Prop
  | .iter _ one => one = false
  | .file f => f.tell ≠ .absent
  | _ => True

/-- a request leaves such a body as it was, up to the file position -/
theorem request_after (cfg : Cfg) (m t : Str) (hs : List (Str × Str)) (ch : Bool) {b : Body} (hr : Replayable b) :
    ∃ k, (request cfg m t hs b ch).after = b.seekTo k := by
  cases hp : prepare cfg m t hs b ch with
  | error e => rw [request_error hp]; exact b.eq_seekTo
  | ok p =>
    rw [request_ok hp]
    obtain ⟨_, cc, _, h⟩ := prepare_inv hp
    have hcc := h.cc_ok
    rw [h.after]
    cases b with
    | file f =>
      cases hcc
      obtain ⟨k, hk⟩ := chunkReadable_pos cfg.blocksize f
      exact ⟨k, congrArg Body.file hk⟩
    | str s =>
      simp only [bodyToChunks, bind, Except.bind] at hcc
      split at hcc
      · cases hcc
      · cases hcc; exact ⟨0, rfl⟩
    | iter cs one =>
      cases hcc
      cases (hr : one = false)
      exact ⟨0, rfl⟩
    | _ => cases hcc; exact ⟨0, rfl⟩

/-- the call did not fail, or — only when `bad` — it failed with `UnrewindableBodyError`, or it failed
with the error of sending some request -/
def ResultOk (cfg : Cfg) (target : Str) (chunked : Bool) (bad : Prop) (r : HResult) : Prop :=
  r.result = .ok () ∨ (bad ∧ r.result = .error .unrewindableBody) ∨
  ∃ e m hs b, r.result = .error e ∧ (request cfg m target hs b chunked).sent.err = some e

/-- bodies whose iteration leaves them unchanged and that need no re-positioning: the bodies of `Replayable` other
than files — a file has to be moved back, and whether that can be done is what `Good` asks of it -/
def Stable : Body → Prop
  | .none | .bytes _ | .str _ | .buffer _ _ => True
  | .iter _ one => one = false
  | .file _ => False

/-- bodies that `urlopen` can always re-send: unchanged by iteration, or a file with working `seek()`
and `tell()` -/
def Good (b0 : Body) : Prop :=
  Stable b0 ∨ ∃ f, b0 = .file f ∧ f.seek = .ok ∧ f.tell = .ok

theorem Good.replayable {b : Body} (h : Good b) : Replayable b := by
  rcases h with hst | ⟨f, rfl, _, htl⟩
  · cases b <;> simp_all [Replayable, Stable]
  · simp [Replayable, htl]

/-- the invariant of `urlopen`'s recursion, judged by what the next call makes of the state: the position it
works with — also the one `PoolManager.urlopen` would record itself — is the one `set_file_position` records
for the initial body `b0`, and re-positioning gives `b0` back, or fails for want of a working `seek()` /
`tell()` -/
def Inv (b0 : Body) (st : HState) : Prop :=
  managerPos st = recordPos b0 ∧
  (setFilePosition st.body st.pos = .ok (b0, recordPos b0) ∨
   (setFilePosition st.body st.pos = .error .unrewindableBody ∧ ¬ Good b0))

/-- the first call: nothing recorded yet -/
theorem inv_first (b0 : Body) (m : Str) (hs : List (Str × Str)) (a3 : Bool) :
    Inv b0 ⟨m, hs, b0, .none, a3, none⟩ :=
  ⟨by cases h : recordPos b0 <;> simp [managerPos, h], .inl rfl⟩

theorem good_file {f : FileB} : Good (.file f) ↔ f.seek = .ok ∧ f.tell = .ok :=
  ⟨fun h => h.elim False.elim fun ⟨_, e, h⟩ => Body.file.inj e ▸ h, fun h => .inr ⟨f, rfl, h⟩⟩

/-- every later call: the body is the initial one up to its file position, the recorded position is handed on -/
theorem inv_later {b0 body : Body} (hr : Replayable b0) (hb : ∃ k, body = b0.seekTo k) (m : Str)
    (hs : List (Str × Str)) (a3 : Bool) {mgr : Option BodyPos} (hm : mgr = none ∨ mgr = some (recordPos b0)) :
    Inv b0 ⟨m, hs, body, recordPos b0, a3, mgr⟩ := by
  obtain ⟨k, rfl⟩ := hb
  cases b0 with
  | file f =>
    obtain ⟨ps, p, sk, tl, tx⟩ := f
    -- `tell()` exists, so a position (or its failure) is on record; `seek(p)` on the file moved to `k` gives the
    -- file back when both methods work, and nothing else does
    cases tl with
    | absent => exact absurd rfl hr
    | raises =>
      exact ⟨by rcases hm with rfl | rfl <;> rfl, .inr ⟨rfl, fun g => nomatch (good_file.mp g).2⟩⟩
    | ok =>
      refine ⟨by rcases hm with rfl | rfl <;> rfl, ?_⟩
      cases sk with
      | ok => exact .inl rfl
      | raises => exact .inr ⟨rfl, fun g => nomatch (good_file.mp g).1⟩
      | absent => exact .inr ⟨rfl, fun g => nomatch (good_file.mp g).1⟩
  | _ => exact ⟨by rcases hm with rfl | rfl <;> rfl, .inl rfl⟩

theorem nextPos_self (lvl : Level) (p : BodyPos) : nextPos lvl p p = p := by cases lvl <;> rfl

theorem cons_attempts {cfg : Cfg} {target : Str} {chunked : Bool} {bad : Prop} {P : Attempt → Prop}
    (a : Attempt) (h : HResult) (ha : P a) (H : (∀ x ∈ h.attempts, P x) ∧ ResultOk cfg target chunked bad h) :
    (∀ x ∈ (⟨a :: h.attempts, h.result⟩ : HResult).attempts, P x) ∧
      ResultOk cfg target chunked bad ⟨a :: h.attempts, h.result⟩ :=
  ⟨fun x hx => (List.mem_cons.mp hx).elim (· ▸ ha) (H.1 x), H.2⟩

/-- Along every history the invariant is kept, so every request written before a 303 is the first one
again.  A 303 starts afresh with the body `None`, for which the same statement says that nothing but
the sending of a request can fail; its requests are marked `after303`. -/
theorem sendHistory_inv (lvl : Level) (cfg : Cfg) (target : Str) (chunked : Bool) (hist : List Outcome) :
    ∀ (b0 : Body) (st : HState), Replayable b0 → Inv b0 st →
      (∀ a ∈ (sendHistory lvl cfg target chunked hist st).attempts, a.after303 = false →
          st.after303 = false ∧ a.wire = (request cfg st.meth target st.headers b0 chunked).sent.written) ∧
      ResultOk cfg target chunked (¬ Good b0) (sendHistory lvl cfg target chunked hist st) := by
  induction hist with
  | nil => intros; exact ⟨fun _ h => (nomatch h), .inl rfl⟩
  | cons o rest ih =>
    intro b0 st hrep ⟨hmp, hstep⟩
    rcases hstep with hsf | ⟨hsf, hbad⟩
    · simp only [sendHistory, hsf, hmp]
      by_cases hc : o = .connErr
      · simp only [hc, if_true]
        exact ih _ _ hrep (inv_later hrep b0.eq_seekTo _ _ _ (.inr rfl))
      · simp only [hc, if_false]
        have hafter := request_after cfg st.meth target st.headers chunked hrep
        cases herr : (request cfg st.meth target st.headers b0 chunked).sent.err with
        | some e => exact ⟨by simp, .inr (.inr ⟨e, _, _, _, rfl, herr⟩)⟩
        | none =>
          simp only
          cases o with
          | connErr => exact absurd rfl hc
          | ok => simp [ResultOk]
          | readErr | retryStatus =>
            exact cons_attempts _ _ (fun h => ⟨h, rfl⟩) (ih _ _ hrep (inv_later hrep hafter _ _ _ (.inr rfl)))
          | redirectKeep =>
            rw [nextPos_self]
            exact cons_attempts _ _ (fun h => ⟨h, rfl⟩) (ih _ _ hrep (inv_later hrep hafter _ _ _ (.inl rfl)))
          | redirect303 =>
            obtain ⟨h1, h2⟩ := ih .none _ trivial (inv_first .none (lit "GET") (pmc st.headers) true)
            refine cons_attempts _ _ (fun h => ⟨h, rfl⟩) ⟨fun x hx h3 => Bool.noConfusion (h1 x hx h3).1, ?_⟩
            rcases h2 with h | ⟨hn, _⟩ | h
            · exact .inl h
            · exact absurd (.inl trivial) hn
            · exact .inr (.inr h)
    · simp only [sendHistory, hsf]
      exact ⟨by simp, .inr (.inl ⟨hbad, rfl⟩)⟩

end U3.Wire
