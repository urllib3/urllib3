import U3.Model.Route
import U3.Lemmas.PoolKey
import U3.Lemmas.Url
import U3.Lemmas.WirePut
/-!
One request through a manager, taken apart (`route_eq`): `route` = choice of the pool (`poolFor`, in closed form
`poolForN`) followed by the exchange on a connection of that pool (`send`, read backwards in `send_ok`).
Every served request of a fresh manager is a `routeSpec` (`routeWith_spec`); `route_origin` reads it for
direct and tunnelled requests, `route_forward` for forwarded ones.  On a manager whose defaults are `Fine`
(`PoolKey`) `route` is `routeS`, which does not run the key normaliser (`route_fine`); the evaluated vectors of
C15 run on it.
-/
namespace U3.Route
open U3

/-- one request through a fresh manager built with the pool keywords `extra` -/
def routeWith (idna : Str → Option Str) (proxy : Option ProxyCfg) (extra : PoolKey.Ctx) (u : Url.Url)
    (carried : List (Str × Str) := []) : Except Exc Route :=
  (route idna (Mgr.init proxy extra) u carried).2

theorem routeFresh_eq (idna : Str → Option Str) (proxy : Option ProxyCfg) (u : Url.Url) :
    routeFresh idna proxy u = routeWith idna proxy [] u := rfl

/-- the `(host, port, scheme)` handed to `connection_from_host` -/
def poolTarget (proxy : Option ProxyCfg) (u : Url.Url) : Option Str × PoolKey.Val × Option Str :=
  match proxy with
  | some p => if u.scheme = some https then (u.host, portVal u.port, u.scheme)
              else (p.host, .int p.port, some p.scheme)
  | none => (u.host, portVal u.port, u.scheme)

theorem poolTarget_https (proxy : Option ProxyCfg) (u : Url.Url) (hs : u.scheme = some https) :
    poolTarget proxy u = (u.host, portVal u.port, u.scheme) := by
  unfold poolTarget
  cases proxy with
  | none => rfl
  | some p => simp [hs]

theorem poolTarget_http (p : ProxyCfg) {u : Url.Url} (hu : u.scheme = some http) :
    poolTarget (some p) u = (p.host, .int p.port, some p.scheme) := by
  have : ¬ u.scheme = some https := by rw [hu]; decide
  simp [poolTarget, this]

/-- `scheme or "http"` on an optional scheme -/
def schemeOrO (scheme : Option Str) : Str :=
  match scheme with
  | some s => if s.isEmpty then PoolKey.kHttp else s
  | none => PoolKey.kHttp

theorem schemeOrO_web {s : Str} (h : s = http ∨ s = https) : schemeOrO (some s) = s := by
  rcases h with rfl | rfl <;> decide

/-- scheme of the pool `connection_from_host` is asked for (`scheme or "http"`) -/
def poolScheme (proxy : Option ProxyCfg) (u : Url.Url) : Str := schemeOrO (poolTarget proxy u).2.2

/-- `port_by_scheme.get(scheme.lower(), 80)` for `scheme or "http"` -/
def dfltPort (scheme : Option Str) : Nat :=
  (List.lookup (lower (schemeOrO scheme)) Gen.portByScheme).getD 80

/-- the port `connection_from_host` ends up with: `if not port:` replaces an absent port — and port 0 —
by the scheme default -/
def effPort (u : Url.Url) : Nat :=
  match u.port with
  | some p => if p ≠ 0 then p else dfltPort u.scheme
  | none => dfltPort u.scheme

/-- the scheme default used for an absent port -/
def schemeDefault (s : Str) : Nat := if s = https then 443 else 80

theorem effPort_web {u : Url.Url} {s : Str} (hs : u.scheme = some s) (hsch : s = http ∨ s = https)
    (hp0 : u.port ≠ some 0) : effPort u = u.port.getD (schemeDefault s) := by
  unfold effPort dfltPort
  rw [hs, schemeOrO_web hsch]
  cases hp : u.port with
  | none => rcases hsch with rfl | rfl <;> decide
  | some p => simp [show p ≠ 0 from fun e => hp0 (e ▸ hp)]

theorem portOr_portVal (u : Url.Url) :
    PoolKey.portOr (portVal u.port) (schemeOrO u.scheme) = .int (effPort u) := by
  unfold PoolKey.portOr effPort dfltPort portVal
  cases u.port with
  | none => simp [PoolKey.Val.truthy]
  | some p =>
    by_cases hp : p = 0
    · subst hp; simp [PoolKey.Val.truthy]
    · have : ((p : Int) != 0) = true := by simp; omega
      simp [PoolKey.Val.truthy, this, hp]

theorem requestContext_eq (d : PoolKey.Ctx) (host : Option Str) (port : PoolKey.Val) (scheme : Option Str) :
    PoolKey.requestContext d host port scheme none =
      match host with
      | none => .error .locationValueError
      | some h =>
        if h.isEmpty then .error .locationValueError
        else .ok (PoolKey.hostCtx d (schemeOrO scheme) (PoolKey.portOr port (schemeOrO scheme)) h) := by
  cases host <;> cases scheme <;> rfl

/-- the manager after a pool has been built and entered under `key` -/
def Mgr.grown (m : Mgr) (key : PoolKey.Key) (pl : Pool) : Mgr :=
  { m with pk := { m.pk with pools := m.pk.pools ++ [(key, m.pk.next)], next := m.pk.next + 1 },
           pools := m.pools ++ [pl] }

/-- **`PoolManager.connection_from_host(host, port, scheme)` in closed form** (`t`: the three arguments), the
key function `norm` being a parameter.  The request context is always a `hostCtx`, so scheme, host and port
are not read back from it. -/
def poolForN (norm : PoolKey.Ctx → Except PoolKey.Exc PoolKey.Key) (idna : Str → Option Str) (m : Mgr)
    (t : Option Str × PoolKey.Val × Option Str) : Mgr × Except Exc (Nat × PoolKey.Key × Pool) :=
  match t.1 with
  | none => (m, .error .locationValueError)
  | some h =>
    if h.isEmpty then (m, .error .locationValueError) else
    let s := schemeOrO t.2.2
    let pv := PoolKey.portOr t.2.1 s
    if !(Gen.keyFnSchemes.contains (lower s)) then (m, .error .urlSchemeUnknown) else
    match norm (PoolKey.hostCtx m.pk.defaults s pv h) with
    | .error e => (m, .error (ofKeyExc e))
    | .ok key =>
      match List.lookup key m.pk.pools with
      | some id =>
        (match m.pools[id]? with
         | some pl => (m, .ok (id, key, pl))
         | none => (m, .error .unmodelled))
      | none =>
        if !(Gen.poolClassSchemes.contains s) then (m, .error .keyError) else
        match pv with
        | .int p =>
          (match newPool idna s h p.toNat with
           | .error e => (m, .error e)
           | .ok pl => (m.grown key pl, .ok (m.pk.next, key, pl)))
        | _ => (m, .error .unmodelled)

theorem poolFor_eqN (idna : Str → Option Str) (m : Mgr) (u : Url.Url) :
    poolFor idna m u =
      poolForN (fun rc => PoolKey.normalize (PoolKey.unstrict rc)) idna m (poolTarget m.proxy u) := by
  -- the triple the model binds first is `poolTarget m.proxy u`
  show (match PoolKey.requestContext m.pk.defaults (poolTarget m.proxy u).1 (poolTarget m.proxy u).2.1
        (poolTarget m.proxy u).2.2 none with
      | .error e => _
      | .ok rc => _) = _
  generalize poolTarget m.proxy u = t
  rw [requestContext_eq, poolForN]
  cases t.1 with
  | none => rfl
  | some h =>
    dsimp only
    cases h.isEmpty with
    | true => rfl
    | false =>
      simp only [Bool.false_eq_true, if_false]
      generalize schemeOrO t.2.2 = s
      generalize PoolKey.portOr t.2.1 s = pv
      obtain ⟨hs, hh, hp⟩ := PoolKey.get_hostCtx_keys m.pk.defaults s pv h
      rw [← PoolKey.unstrict]
      simp only [PoolKey.fromContext_hostCtx, hs, hh, hp]
      cases !Gen.keyFnSchemes.contains (lower s) with
      | true => rfl
      | false =>
        simp only [Bool.false_eq_true, if_false]
        cases PoolKey.normalize (PoolKey.unstrict (PoolKey.hostCtx m.pk.defaults s pv h)) with
        | error e => rfl
        | ok key =>
          dsimp only
          cases List.lookup key m.pk.pools with
          | some id => rfl
          | none =>
            dsimp only
            cases !Gen.poolClassSchemes.contains s with
            | true => rfl
            | false => cases pv <;> rfl

theorem poolFor_congr (idna : Str → Option Str) (m : Mgr) (u₁ u₂ : Url.Url)
    (hs : u₁.scheme = u₂.scheme) (hh : u₁.host = u₂.host)
    (hp : PoolKey.portOr (portVal u₁.port) (schemeOrO u₁.scheme) =
          PoolKey.portOr (portVal u₂.port) (schemeOrO u₁.scheme)) :
    poolFor idna m u₁ = poolFor idna m u₂ := by
  rw [poolFor_eqN, poolFor_eqN]
  unfold poolTarget
  cases m.proxy with
  | none => simp only [poolForN, ← hs, ← hh, hp]
  | some p =>
    simp only [← hs]
    split
    · simp only [poolForN, ← hh, hp]
    · rfl

/-- the manager invariant `route` maintains: pool identities are positions in `pools` -/
def Mgr.Sync (m : Mgr) : Prop := m.pk.next = m.pools.length

/-- the three ways `poolFor` ends: an error, a pool found under its key, a pool built and entered (after
which the same request finds it) -/
theorem poolFor_cases {idna : Str → Option Str} {m : Mgr} {u : Url.Url}
    {r : Mgr × Except Exc (Nat × PoolKey.Key × Pool)} (h : poolFor idna m u = r) :
    (∃ e, r = (m, .error e)) ∨
    (∃ x, r = (m, .ok x) ∧ m.pools[x.1]? = some x.2.2) ∨
    ∃ hst p key pl, (poolTarget m.proxy u).1 = some hst ∧ hst ≠ [] ∧
      PoolKey.portOr (poolTarget m.proxy u).2.1 (poolScheme m.proxy u) = .int p ∧
      newPool idna (poolScheme m.proxy u) hst p.toNat = .ok pl ∧
      r = (m.grown key pl, .ok (m.pk.next, key, pl)) ∧
      (m.Sync → poolFor idna (m.grown key pl) u = (m.grown key pl, .ok (m.pk.next, key, pl))) := by
  subst h
  simp only [poolFor_eqN, poolScheme]
  -- building a pool leaves `proxy` alone: the repeated request asks for the same `poolTarget`
  show _ ∨ _ ∨ ∃ hst p key pl, _ ∧ _ ∧ _ ∧ _ ∧ _ ∧
    (_ → poolForN _ idna (m.grown key pl) (poolTarget m.proxy u) = _)
  generalize poolTarget m.proxy u = t
  generalize (fun rc => PoolKey.normalize (PoolKey.unstrict rc)) = norm
  rw [poolForN]
  cases hhst : t.1 with
  | none => exact .inl ⟨_, rfl⟩
  | some hst =>
  dsimp only
  by_cases hne : hst.isEmpty = true
  · exact .inl ⟨_, if_pos hne⟩
  rw [if_neg hne]
  by_cases hkf : (!Gen.keyFnSchemes.contains (lower (schemeOrO t.2.2))) = true
  · exact .inl ⟨_, if_pos hkf⟩
  rw [if_neg hkf]
  cases hkey : norm (PoolKey.hostCtx m.pk.defaults (schemeOrO t.2.2) (PoolKey.portOr t.2.1 (schemeOrO t.2.2))
      hst) with
  | error e => exact .inl ⟨_, rfl⟩
  | ok key =>
  dsimp only
  cases hlk : List.lookup key m.pk.pools with
  | some id =>
    dsimp only
    cases hpl : m.pools[id]? with
    | none => exact .inl ⟨_, rfl⟩
    | some pl => exact .inr (.inl ⟨_, rfl, hpl⟩)
  | none =>
  dsimp only
  by_cases hpc : (!Gen.poolClassSchemes.contains (schemeOrO t.2.2)) = true
  · exact .inl ⟨_, if_pos hpc⟩
  rw [if_neg hpc]
  cases hpv : PoolKey.portOr t.2.1 (schemeOrO t.2.2) with
  | int p =>
    dsimp only
    cases hnp : newPool idna (schemeOrO t.2.2) hst p.toNat with
    | error e => exact .inl ⟨_, rfl⟩
    | ok pl =>
      refine .inr (.inr ⟨hst, p, key, pl, rfl, by simpa using hne, rfl, hnp, rfl, fun hw => ?_⟩)
      have hl : List.lookup key (m.pk.pools ++ [(key, m.pk.next)]) = some m.pk.next := by
        simp [List.lookup_append, hlk]
      have hg : (m.pools ++ [pl])[m.pk.next]? = some pl := by rw [hw]; simp
      rw [hpv] at hkey
      simp only [poolForN, Mgr.grown, hhst, hne, hkf, hpv, hkey, hl, hg, Bool.false_eq_true, if_false]
  | _ => exact .inl ⟨_, rfl⟩

theorem poolFor_fst (idna : Str → Option Str) (m : Mgr) (u : Url.Url) :
    (m.Sync → (poolFor idna m u).1.Sync) ∧ (poolFor idna m u).1.proxy = m.proxy ∧
      (poolFor idna m u).1.pk.defaults = m.pk.defaults := by
  rcases poolFor_cases (r := poolFor idna m u) rfl with
    ⟨e, he⟩ | ⟨x, he, -⟩ | ⟨_, _, key, pl, -, -, -, -, he, -⟩ <;> rw [he]
  · exact ⟨id, rfl, rfl⟩
  · exact ⟨id, rfl, rfl⟩
  · exact ⟨fun hw => by simpa [Mgr.Sync, Mgr.grown] using hw, rfl, rfl⟩

theorem poolFor_repeat {idna : Str → Option Str} {m m1 : Mgr} {u : Url.Url} {x : Nat × PoolKey.Key × Pool}
    (hw : m.Sync) (h : poolFor idna m u = (m1, .ok x)) : poolFor idna m1 u = (m1, .ok x) := by
  rcases poolFor_cases h with ⟨e, he⟩ | ⟨x', he, -⟩ | ⟨_, _, key, pl, -, -, -, -, he, hrep⟩ <;> cases he
  · exact h
  · exact hrep hw

/-- the observation of a request served by pool `id` (under `key`), from what `send` returns -/
def Route.ofSent (id : Nat) (key : PoolKey.Key)
    (x : Str × Nat × List Str × Option Bytes × Str × List Bytes × Bytes × List (Str × Str)) : Route :=
  ⟨id, key, x.1, x.2.1, x.2.2.1, x.2.2.2.1, x.2.2.2.2.1, x.2.2.2.2.2.1, x.2.2.2.2.2.2.1, x.2.2.2.2.2.2.2⟩

/-- `route`, given what `poolFor` returns -/
def routeOf (m : Mgr) (u : Url.Url) (carried : List (Str × Str))
    (pf : Mgr × Except Exc (Nat × PoolKey.Key × Pool)) : Mgr × Except Exc Route :=
  if m.proxy.isSome && !(u.scheme = some http || u.scheme = some https) then (m, .error .unmodelled)
  else (pf.1, pf.2.bind fun x => (send m.proxy u x.2.2 carried).map (Route.ofSent x.1 x.2.1))

theorem route_eq (idna : Str → Option Str) (m : Mgr) (u : Url.Url) (c : List (Str × Str)) :
    route idna m u c = routeOf m u c (poolFor idna m u) := by
  unfold route routeOf
  split
  · rfl
  · rcases poolFor idna m u with ⟨m', e | ⟨id, key, pl⟩⟩
    · rfl
    · dsimp only [Except.bind]
      cases send m.proxy u pl c <;> rfl

/-- a served request: the pool was chosen and `send` succeeded -/
theorem route_ok {idna : Str → Option Str} {m m1 : Mgr} {u : Url.Url} {c : List (Str × Str)} {r : Route}
    (h : route idna m u c = (m1, .ok r)) :
    (m.proxy.isSome && !(u.scheme = some http || u.scheme = some https)) = false ∧
    ∃ id key pl y, poolFor idna m u = (m1, .ok (id, key, pl)) ∧ send m.proxy u pl c = .ok y ∧
      r = Route.ofSent id key y := by
  rw [route_eq, routeOf] at h
  split at h
  · cases h
  · rename_i hb
    obtain ⟨h1, h2⟩ := Prod.mk.inj h
    obtain ⟨x, hx, h2⟩ := bind_ok h2
    obtain ⟨y, hy, rfl⟩ := map_ok h2
    exact ⟨by simpa using hb, _, _, _, y, Prod.ext h1 hx, hy, rfl⟩

theorem route_fst (idna : Str → Option Str) (m : Mgr) (u : Url.Url) (c : List (Str × Str)) :
    (m.Sync → (route idna m u c).1.Sync) ∧ (route idna m u c).1.proxy = m.proxy ∧
      (route idna m u c).1.pk.defaults = m.pk.defaults := by
  rw [route_eq, routeOf]
  split
  · exact ⟨id, rfl, rfl⟩
  · exact poolFor_fst idna m u

theorem route_repeat {idna : Str → Option Str} {m m1 : Mgr} {u : Url.Url} {c : List (Str × Str)} {r : Route}
    (hw : m.Sync) (h : route idna m u c = (m1, .ok r)) :
    route idna m1 u c = (m1, .ok r) ∧ m1.Sync := by
  have hs := (route_fst idna m u c).1 hw
  have hp := (route_fst idna m u c).2.1
  rw [h] at hs hp
  obtain ⟨hb, id, key, pl, y, hpf, -, -⟩ := route_ok h
  -- the pool is found again, and `route` reads nothing else of the manager but its proxy
  rw [← h, route_eq, route_eq, poolFor_repeat hw hpf, hpf, routeOf, routeOf, hp, hb]
  exact ⟨rfl, hs⟩

/-- `ProxyManager.urlopen` sends the absolute URL to the proxy (no tunnel) -/
def isForwarding (proxy : Option ProxyCfg) (scheme : Option Str) : Bool :=
  proxy.isSome && !requiresTunnel proxy scheme

/-- where the carrying connection of a proxied HTTPS pool goes: the proxy -/
def proxyAddr (p : ProxyCfg) (pl : Pool) : Str × Nat :=
  match p.host with
  | some ph => (ph, p.port)
  | none => (pl.host, pl.port)

/-- `HTTP(S)ConnectionPool._new_conn`: the address the carrying connection is built for.  Behind a proxy an
https pool (tunnelling or forwarding) connects to the proxy; an http pool behind a proxy is the proxy's own
pool -/
def connAddr (proxy : Option ProxyCfg) (pl : Pool) : Str × Nat :=
  match proxy with
  | some p => if pl.isHttps then proxyAddr p pl else (pl.host, pl.port)
  | none => (pl.host, pl.port)

/-- the `Cfg` of a connection of the pool's own class to `(host, port)` -/
def connCfg (isHttps : Bool) (dnsHost : Str) (port : Nat) : Wire.Cfg :=
  ⟨rstripDot dnsHost, port, if isHttps then 443 else 80, 16384, .error .assertionError, .error .unicodeError⟩

/-- the `Cfg` `http.client` works with inside a tunnel: `set_tunnel(_tunnel_host, port)`, the
brackets of `_tunnel_host` hidden while `putrequest` computes the `Host` header -/
def tunnelCfg (pl : Pool) : Wire.Cfg :=
  ⟨unbracket pl.tunnelHost, pl.port, 443, 16384, .error .assertionError, .error .unicodeError⟩

def hostVals (p : Wire.Prepared) : List Bytes :=
  (p.hdrs.filter fun h => lower h.1 == lit "host").map (·.2)

/-- the handshake with an https proxy that precedes the CONNECT request -/
def proxyTls (proxy : Option ProxyCfg) (connHost : Str) : List Str :=
  match proxy with
  | some p => if p.scheme = https then [sniNorm connHost] else []
  | none => []

theorem send_congr (proxy : Option ProxyCfg) (u₁ u₂ : Url.Url) (pl : Pool) (carried : List (Str × Str))
    (hs : u₁.scheme = u₂.scheme) (hr : u₁.requestUri = u₂.requestUri)
    (hnf : isForwarding proxy u₁.scheme = false) :
    send proxy u₁ pl carried = send proxy u₂ pl carried := by
  have hnf2 : isForwarding proxy u₂.scheme = false := hs ▸ hnf
  unfold isForwarding at hnf hnf2
  unfold send
  simp only [hnf, hnf2, Bool.false_and, Bool.false_eq_true, if_false, hr]

theorem route_congr (idna : Str → Option Str) (m : Mgr) (u₁ u₂ : Url.Url) (carried : List (Str × Str))
    (hs : u₁.scheme = u₂.scheme) (hh : u₁.host = u₂.host)
    (hp : PoolKey.portOr (portVal u₁.port) (schemeOrO u₁.scheme) =
          PoolKey.portOr (portVal u₂.port) (schemeOrO u₁.scheme))
    (hr : u₁.requestUri = u₂.requestUri)
    (hnf : isForwarding m.proxy u₁.scheme = false) :
    route idna m u₁ carried = route idna m u₂ carried := by
  simp only [route_eq, routeOf, ← hs, poolFor_congr idna m u₁ u₂ hs hh hp,
    fun pl => send_congr m.proxy u₁ u₂ pl carried hs hr hnf]

theorem mem_dropWhile_or {p : Nat → Bool} {l : List Nat} {x : Nat} (h : x ∈ l) :
    x ∈ l.dropWhile p ∨ p x = true := by
  rw [← List.takeWhile_append_dropWhile (p := p) (l := l), List.mem_append] at h
  exact h.symm.imp_right mem_takeWhile_p

theorem rstripDot_sublist (s : Str) : (rstripDot s).Sublist s := by
  simpa [rstripDot] using List.reverse_sublist.mpr (List.dropWhile_sublist (· == 46) (l := s.reverse))

theorem stripBr_sublist (s : Str) : (stripBr s).Sublist s := by
  have h := (List.dropWhile_sublist isBr (l := (s.dropWhile isBr).reverse)).trans
    (List.reverse_sublist.mpr (List.dropWhile_sublist isBr (l := s)))
  simpa [stripBr] using List.reverse_sublist.mpr h

theorem unbracket_sublist (h : Str) : (unbracket h).Sublist h := by
  unfold unbracket
  split
  · exact (List.dropLast_sublist _).trans (List.tail_sublist h)
  · exact List.Sublist.refl h

theorem mem58_rstripDot {s : Str} : 58 ∈ rstripDot s ↔ 58 ∈ s := by
  refine ⟨fun h => (rstripDot_sublist s).subset h, fun h => ?_⟩
  rcases mem_dropWhile_or (p := (· == 46)) (List.mem_reverse.mpr h) with h1 | h1
  · exact List.mem_reverse.mpr h1
  · simp at h1

theorem rstripDot_idem (s : Str) : rstripDot (rstripDot s) = rstripDot s := by
  simp [rstripDot, dropWhile_idem]

theorem unbracket_bracketed (a : Str) : unbracket (91 :: a ++ [93]) = a := by
  have h1 : (91 :: (a ++ [93])).getLast? = some 93 := by
    rw [show 91 :: (a ++ [93]) = (91 :: a) ++ [93] from rfl, List.getLast?_append]; simp
  simp [unbracket, h1]

theorem unbracket_of_head {h : Str} (hh : h.head? ≠ some 91) : unbracket h = h := by
  unfold unbracket
  simp [hh]

theorem unbracket_lower (h : Str) : unbracket (lower h) = lower (unbracket h) := by
  have h1 : (lower h).head? = some 91 ↔ h.head? = some 91 := by
    cases h <;> simp [lower_cons, lowerC_eq_iff _ 91 rfl]
  unfold unbracket
  simp only [h1, getLast?_lower_eq 93 rfl]
  split
  · simp [lower, List.map_dropLast, List.map_tail]
  · rfl

/-- the name `create_connection` finally dials: brackets stripped when the name starts with one -/
def dialName (d : Str) : Str := if d.head? = some 91 then stripBr d else d

theorem dialName_of_head {d : Str} (h : d.head? ≠ some 91) : dialName d = d := if_neg h

theorem dial_ok {d : Str} {port : Nat} {dh : Str} {dp : Nat} (h : dial d port = .ok (dh, dp)) :
    dh = dialName d ∧ dp = port ∧ d.all (· < 128) = true := by
  unfold dial at h
  simp only at h
  obtain ⟨ha, h⟩ := ite_err h
  obtain ⟨-, h⟩ := ite_err h
  cases h
  refine ⟨rfl, rfl, ?_⟩
  -- a character the dialled name has lost is a bracket
  simp only [Bool.not_eq_true', Bool.not_eq_false, List.all_eq_true, decide_eq_true_eq] at ha ⊢
  intro x hx
  split at ha
  · rcases mem_dropWhile_or (p := isBr) hx with h1 | h1
    · rcases mem_dropWhile_or (p := isBr) (List.mem_reverse.mpr h1) with h2 | h2
      · exact ha x (List.mem_reverse.mpr h2)
      · simp only [isBr, Bool.or_eq_true, beq_iff_eq] at h2; omega
    · simp only [isBr, Bool.or_eq_true, beq_iff_eq] at h1; omega
  · exact ha x hx

theorem cutLastPct_single {s : Str} (h1 : s.count 37 ≤ 1) :
    (if s.contains 37 then cutLastPct s else s) = s.takeWhile (· != 37) := by
  unfold cutLastPct
  cases hr : Url.rpart 37 s with
  | none =>
    have hn := Url.rpart_eq_none.mp hr
    simp [hn, (takeWhile_ne_of_not_mem hn).1]
  | some p =>
    obtain ⟨a, b⟩ := p
    obtain ⟨rfl, -⟩ := Url.rpart_some hr
    have ha : 37 ∉ a := by
      rw [← List.count_eq_zero]
      simp only [List.count_append, List.count_cons_self] at h1
      omega
    simp [(split_at_ne 37 a b ha).1]

theorem sniNorm_single {sh : Str} (h1 : sh.count 37 ≤ 1) :
    sniNorm sh = (if isIpAddress ((stripBr sh).takeWhile (· != 37)) then (stripBr sh).takeWhile (· != 37) else sh) := by
  unfold sniNorm
  simp only
  rw [cutLastPct_single (Nat.le_trans ((stripBr_sublist sh).count_le 37) h1)]

/-- `"?" + query` -/
def qSuffix : Option Str → Str
  | some x => 63 :: x
  | none => []

/-- the path part of `request_uri` -/
def pathOrSlash (u : Url.Url) : Str :=
  match u.path with | some p => if p.isEmpty then [47] else p | none => [47]

theorem requestUri_eq (u : Url.Url) :
    u.requestUri = pathOrSlash u ++ qSuffix u.query := by
  unfold Url.Url.requestUri pathOrSlash qSuffix
  cases u.query <;> rfl

theorem absTarget_eq (u : Url.Url) :
    absTarget u =
      (match u.scheme with | some s => s ++ [58, 47, 47] | none => []) ++
      (match u.host with | some h => h | none => []) ++
      (match u.port with | some n => 58 :: Url.natToDec n | none => []) ++
      (match u.path with | some x => x | none => []) ++ qSuffix u.query := by
  cases hq : u.query <;>
    simp [absTarget, Url.Url.render, qSuffix, hq] <;>
    rfl

theorem encodeInvalidChars_slash (A : List Nat) (h47 : Url.mem A 47 = true) (s : Str) :
    ∃ r, Url.encodeInvalidChars A (47 :: s) = 47 :: r := by
  rw [Url.encodeInvalidChars_eq, Url.tokenize_cons (by decide), List.flatMap_cons, Url.encTok_slash A _ h47]
  exact ⟨_, rfl⟩

theorem encodeTarget_ok_eq {t s : Str} (h : Url.encodeTarget t = .ok s) :
    ∃ t', t = 47 :: t' ∧ s = Url.encodeInvalidChars Gen.pathChars (Url.splitPQF t).1 ++
      (match (Url.splitPQF t).2.1 with
       | some q => 63 :: Url.encodeInvalidChars Gen.queryChars q
       | none => []) := by
  unfold Url.encodeTarget at h
  split at h
  · rename_i t'
    refine ⟨t', rfl, ?_⟩
    simp only at h
    split at h
    · split at h
      · exact (Except.ok.inj h).symm
      · cases h
    · simp only [if_true] at h
      exact (Except.ok.inj h).symm
  · cases h

theorem encodeTarget_head {t s : Str} (h : Url.encodeTarget t = .ok s) : ∃ r, s = 47 :: r := by
  obtain ⟨t', rfl, hs⟩ := encodeTarget_ok_eq h
  have hp : (Url.splitPQF (47 :: t')).1 = 47 :: t'.takeWhile Url.pathChar := by
    simp [Url.splitPQF, Url.pathChar]
  obtain ⟨r, hr⟩ := encodeInvalidChars_slash Gen.pathChars (by decide) (t'.takeWhile Url.pathChar)
  rw [hs, hp, hr]
  exact ⟨_, rfl⟩

theorem pathOrSlash_normal {u : Url.Url} (hp : ∀ x, u.path = some x → Url.NormalForm Gen.pathChars x) :
    Url.NormalForm Gen.pathChars (pathOrSlash u) := by
  have hs : Url.NormalForm Gen.pathChars [47] :=
    Url.normalForm_cons _ 47 [] (by decide) (Url.normalForm_nil _)
  unfold pathOrSlash
  cases h : u.path with
  | none => exact hs
  | some p =>
    simp only
    split
    · exact hs
    · exact hp p h

/-- a `request_uri` whose path and query are in normal form (every parsed http/https URL: C14) is
left alone by the pool's `_encode_target` -/
theorem encodeTarget_normal {u : Url.Url} (h47 : u.requestUri.head? = some 47)
    (hp : ∀ x, u.path = some x → Url.NormalForm Gen.pathChars x)
    (hq : ∀ x, u.query = some x → Url.NormalForm Gen.queryChars x) :
    Url.encodeTarget u.requestUri = .ok u.requestUri := by
  have hP := pathOrSlash_normal hp
  have hsp : Url.splitPQF u.requestUri = (pathOrSlash u, u.query, none) := by
    have := Url.splitPQF_text (f := none) (Url.normalForm_forall (by decide +kernel) (by decide +kernel) hP)
      fun x hx => Url.normalForm_forall (by decide +kernel) (by decide +kernel) (hq x hx)
    rw [requestUri_eq]
    rwa [show Url.optText 35 none = [] from rfl, List.append_nil] at this
  unfold Url.encodeTarget
  split
  · simp only [hsp]
    simp only [if_true, Except.ok.injEq]
    rw [Url.encode_keeps Url.encSet_path hP, requestUri_eq]
    congr 1
    cases hqq : u.query with
    | none => rfl
    | some q =>
      simp only
      rw [Url.encode_keeps Url.encSet_query (hq q hqq)]
      rfl
  · rename_i hne
    obtain ⟨t, ht⟩ := List.head?_eq_some_iff.mp h47
    exact absurd ht (hne t)

/-- the host part of the `Host` value `http.client.putrequest` computes from `self.host` -/
def hostText (h : Str) : Str :=
  if h.contains 58 then
    (if h.contains 37 then 91 :: h.takeWhile (· != 37) ++ [93] else 91 :: h ++ [93])
  else h

theorem hostText_eq (h : Str) :
    hostText h = if h.contains 58 then 91 :: h.takeWhile (· != 37) ++ [93] else h := by
  unfold hostText
  by_cases h37 : 37 ∈ h
  · simp [h37]
  · simp [h37, (takeWhile_ne_of_not_mem h37).1]

theorem hostText_cases (T : Str) :
    (58 ∉ T → hostText T = T) ∧ (58 ∈ T → hostText T = 91 :: T.takeWhile (· != 37) ++ [93]) := by
  rw [hostText_eq]
  constructor <;> intro h <;> simp [h]

theorem stripIpv6Iface_bracketed (h : Str) :
    Wire.stripIpv6Iface ([91] ++ h ++ [93]) = .ok (91 :: h.takeWhile (· != 37) ++ [93]) := by
  unfold Wire.stripIpv6Iface
  by_cases h37 : 37 ∈ h
  · obtain ⟨a, b, rfl, ha⟩ := List.eq_append_cons_of_mem h37
    have h1 := (split_at_ne 37 (91 :: a) (b ++ [93]) (by simp [ha])).1
    simp only [List.cons_append, List.append_assoc, List.nil_append] at h1 ⊢
    simp [h1, (split_at_ne 37 a b ha).1]
  · simp [h37, (takeWhile_ne_of_not_mem h37).1]

def aeHdr : Wire.Hdr := (lit "Accept-Encoding", lit "identity")
def uaHdr : Wire.Hdr := (lit "User-Agent", Gen.defaultUserAgent)
def acceptHdr : Str × Str := (lit "Accept", lit "*/*")

/-- what following one GET needs of the string constants: GET has no body, which of the header names involved
is `host`, the keys of the two headers `_set_proxy_headers` supplies -/
structure GetConsts : Prop where
  noBody : Gen.methodsNotExpectingBody.contains (upper methodGet) = true
  http : lit "http" = [104, 116, 116, 112]
  host : (lower (lit "Host") == lit "host") = true
  ae : (lower aeHdr.1 == lit "host") = false
  ua : (lower uaHdr.1 == lit "host") = false
  accept : (lower acceptHdr.1 == lit "host") = false
  acceptSent : (acceptHdr.2 != Gen.skipHeader) = true
  hostKey : [lower acceptHdr.1, lower (lit "Host")].contains (lit "host") = true
  otherKeys : ∀ k ∈ [lit "accept-encoding", lit "user-agent", lit "content-length", lit "transfer-encoding"],
    [lower acceptHdr.1, lower (lit "Host")].contains k = false

/-- one evaluation for all of them: the kernel decodes the string literals once per declaration -/
theorem getConsts : GetConsts :=
  have ⟨a, b, c, d, e, f, g, h, i⟩ : _ ∧ _ ∧ _ ∧ _ ∧ _ ∧ _ ∧ _ ∧ _ ∧ _ := by decide +kernel
  ⟨a, b, c, d, e, f, g, h, i⟩

/-- `http.client`'s automatic `Host` value -/
def autoHost (cfg : Wire.Cfg) : Bytes :=
  hostText cfg.host ++ (if cfg.port = cfg.defaultPort then [] else 58 :: Wire.toDec cfg.port)

theorem autoHost_connCfg (s D : Str) (port : Nat) :
    autoHost (connCfg (s == https) D port) =
      hostText (rstripDot D) ++ (if port = schemeDefault s then [] else 58 :: Wire.toDec port) := by
  unfold autoHost connCfg schemeDefault
  by_cases h : s = https <;> simp [h]

theorem hostLine_origin {cfg : Wire.Cfg} {url : Str} {hv : Wire.Hdr}
    (hu : isPrefix (lit "http") url = false) (ha : cfg.host.all (· < 128) = true)
    (h : Wire.hostLine cfg url = .ok hv) :
    hv = (lit "Host", autoHost cfg) := by
  unfold autoHost
  have hval : Wire.hostValue cfg url = .ok (if cfg.port = cfg.defaultPort then .inr (hostText cfg.host)
      else .inl (hostText cfg.host ++ [58] ++ Wire.toDec cfg.port)) := by
    unfold Wire.hostValue
    simp only [hu, Bool.false_eq_true, if_false, bind, Except.bind, pure, Except.pure, bne_self_eq_false,
      Wire.asciiOrIdna, Wire.encodeAscii, ha, if_true, hostText_eq, stripIpv6Iface_bracketed]
    split <;> split <;> rfl
  unfold Wire.hostLine at h
  by_cases hp : cfg.port = cfg.defaultPort
  · simp only [hval, hp, if_true] at h ⊢
    obtain ⟨-, hn, hv2⟩ := Wire.hcPutheader_inv h
    exact Prod.ext hn (by simpa using (Except.ok.inj hv2).symm)
  · simp only [hval, hp, if_false] at h ⊢
    obtain ⟨-, hn, hv2⟩ := Wire.hcPutheader_inv h
    exact Prod.ext hn ((Wire.encodeLatin1_ok hv2).trans (by simp))

theorem prepareNV_of_prepare {cfg : Wire.Cfg} {meth url : Str} {headers : List (Str × Str)} {p : Wire.Prepared}
    (e : Wire.prepare cfg meth url headers .none false = .ok p) :
    prepareNoValidate cfg meth url headers = .ok p := by
  unfold Wire.prepare at e
  exact (ite_err e).2

theorem prepare_get_inv {cfg : Wire.Cfg} {url : Str} {headers : List (Str × Str)} {p : Wire.Prepared}
    (e : prepareNoValidate cfg methodGet url headers = .ok p)
    (hcl : (Wire.headerKeys headers).contains (lit "content-length") = false)
    (hte : (Wire.headerKeys headers).contains (lit "transfer-encoding") = false) :
    ∃ v, ((Wire.headerKeys headers).contains (lit "host") = false →
        Wire.hostLine cfg (Wire.urlOrSlash url) = .ok (lit "Host", v)) ∧
      p.hdrs = Wire.headHdrs v [] headers ∧
      writtenOf p = Wire.headBytes
        ((methodGet ++ [32] ++ Wire.urlOrSlash url ++ [32] ++ Wire.httpVsn) :: p.hdrs.map Wire.hdrLine) := by
  unfold prepareNoValidate at e
  repeat' split at e
  all_goals try cases e
  rename_i l0 h0 _ cc hcc _ fr hfr _ ua hua _ hs hhs
  obtain ⟨v, h⟩ := Wire.prepareOk_of_steps h0 hcc hfr hua hhs
  simp only [Wire.bodyToChunks, getConsts.noBody, if_true, Except.ok.injEq] at hcc
  subst hcc
  simp only [Wire.framing, hcl, hte, Bool.false_eq_true, if_false, Option.isSome_none, Except.ok.injEq] at hfr
  subst hfr
  exact ⟨v, h.host, h.hdrs, by simp [writtenOf, Wire.bodyPhase, Wire.Prepared.lines, show l0.1 = _ from h.reqLine.eq]⟩

/-- the bytes of a GET without caller headers: request line, `Host: hostV` and the two other automatic
headers -/
def requestBytes (target : Str) (hostV : Bytes) : Bytes :=
  Wire.headBytes [methodGet ++ [32] ++ target ++ [32] ++ Wire.httpVsn, Wire.hdrLine (lit "Host", hostV),
    Wire.hdrLine aeHdr, Wire.hdrLine uaHdr]

theorem prepare_get_origin {cfg : Wire.Cfg} {r : Str} {p : Wire.Prepared}
    (ha : cfg.host.all (· < 128) = true)
    (e : prepareNoValidate cfg methodGet (47 :: r) [] = .ok p) :
    hostVals p = [autoHost cfg] ∧ writtenOf p = requestBytes (47 :: r) (autoHost cfg) := by
  obtain ⟨v, hv, hhd, hw⟩ := prepare_get_inv e rfl rfl
  have hu : isPrefix (lit "http") (Wire.urlOrSlash (47 :: r)) = false := by
    simp [getConsts.http, Wire.urlOrSlash, isPrefix]
  obtain rfl := (Prod.ext_iff.mp (hostLine_origin hu ha (hv rfl))).2
  have hhd' : p.hdrs = [(lit "Host", _), aeHdr, uaHdr] := hhd
  exact ⟨by simp [hostVals, hhd', getConsts.host, getConsts.ae, getConsts.ua], by rw [hw, hhd']; rfl⟩

theorem proxyHeaders_fresh {u : Url.Url} {n : Str} (hn : u.netloc = some n) (hne : n ≠ []) :
    proxyHeaders u [] = [acceptHdr, (lit "Host", n)] := by
  simp [proxyHeaders, dictUpdate, hn, hne, acceptHdr]

/-- `_set_proxy_headers` when the caller's headers are a previous hop's computed `Accept` / `Host`: the
carried `Host` wins -/
theorem proxyHeaders_carried {u : Url.Url} {n n₀ : Str} (hn : u.netloc = some n) (hne : n ≠ []) :
    proxyHeaders u [acceptHdr, (lit "Host", n₀)] = [acceptHdr, (lit "Host", n₀)] := by
  have e2 : lit "Host" ≠ lit "Accept" := by decide
  simp [proxyHeaders, dictUpdate, dictSet, hn, hne, acceptHdr, e2, e2.symm]

/-- the bytes of a forwarded GET: absolute-form target, the caller-side `Accept` and `Host` of
`_set_proxy_headers` after the automatic headers -/
def fwdRequestBytes (url n : Str) : Bytes :=
  Wire.headBytes ([methodGet ++ [32] ++ Wire.urlOrSlash url ++ [32] ++ Wire.httpVsn, Wire.hdrLine aeHdr,
    Wire.hdrLine uaHdr, Wire.hdrLine acceptHdr] ++
    (if n != Gen.skipHeader then [Wire.hdrLine (lit "Host", n)] else []))

theorem prepare_get_fwd {cfg : Wire.Cfg} {url n : Str} {p : Wire.Prepared}
    (e : prepareNoValidate cfg methodGet url [acceptHdr, (lit "Host", n)] = .ok p) :
    hostVals p = (if n != Gen.skipHeader then [n] else []) ∧ writtenOf p = fwdRequestBytes url n := by
  have hk := getConsts.otherKeys
  obtain ⟨v, -, hhd, hw⟩ := prepare_get_inv e (hk _ (by simp)) (hk _ (by simp))
  have hhd' : p.hdrs = [aeHdr, uaHdr, acceptHdr] ++ (if n != Gen.skipHeader then [(lit "Host", n)] else []) := by
    rw [hhd]
    simp only [Wire.headHdrs, Wire.headerKeys, List.map_cons, List.map_nil, getConsts.hostKey,
      hk _ (List.mem_cons_self ..), hk (lit "user-agent") (by simp), Wire.callerHdrs, List.filter_cons,
      getConsts.acceptSent]
    rfl
  constructor
  · rw [hostVals, hhd']
    split <;> simp [getConsts.host, getConsts.ae, getConsts.ua, getConsts.accept]
  · rw [hw, hhd', fwdRequestBytes]
    split <;> rfl

theorem classDefaultPort_eq (b : Bool) : classDefaultPort b = some (if b then 443 else 80) := by
  cases b <;> decide

/-- `send`, read backwards: a proxied https pool that does not forward makes a tunnel (`CONNECT`, then
the request as if sent to the tunnel host), every other connection sends the request itself -/
theorem send_ok {proxy : Option ProxyCfg} {u : Url.Url} {pl : Pool} {carried : List (Str × Str)}
    {res : Str × Nat × List Str × Option Bytes × Str × List Bytes × Bytes × List (Str × Str)}
    (h : send proxy u pl carried = .ok res) :
    ∃ target dh dp prep,
      (if isForwarding proxy u.scheme then (∃ n, u.netloc = some n ∧ n ≠ []) ∧ target = absTarget u
       else u.requestUri.head? = some 47 ∧ Url.encodeTarget u.requestUri = .ok target) ∧
      dial (connAddr proxy pl).1 (connAddr proxy pl).2 = .ok (dh, dp) ∧
      if (proxy.isSome && pl.isHttps && !isForwarding proxy u.scheme) = true then
        pl.tunnelHost.all (· < 128) = true ∧
        prepareNoValidate (tunnelCfg pl) methodGet target carried = .ok prep ∧
        res = (dh, dp, proxyTls proxy (rstripDot (connAddr proxy pl).1) ++ [sniNorm (rstripDot pl.tunnelHost)],
          some (connectBytes pl.tunnelHost pl.port), target, hostVals prep, writtenOf prep, carried)
      else
        Wire.prepare (connCfg pl.isHttps (connAddr proxy pl).1 (connAddr proxy pl).2) methodGet target
          (if isForwarding proxy u.scheme then proxyHeaders u carried else carried) .none false = .ok prep ∧
        res = (dh, dp, (if pl.isHttps then [sniNorm (rstripDot (rstripDot (connAddr proxy pl).1))] else []),
          none, target, hostVals prep, writtenOf prep,
          if isForwarding proxy u.scheme then proxyHeaders u carried else carried) := by
  -- `_new_conn`'s choice of address always succeeds.  The `match` written here is not the matcher of the
  -- model file, so `haddr` is not rewritten with but used up to unfolding (`haddr.symm.trans hca` below).
  have haddr : (match proxy with
      | some p =>
        if pl.isHttps then
          (match p.host with
           | some ph => (.ok (ph, p.port) : Except Exc (Str × Nat))
           | none => .ok (pl.host, pl.port))
        else .ok (pl.host, pl.port)
      | none => .ok (pl.host, pl.port)) = .ok (connAddr proxy pl) := by
    unfold connAddr proxyAddr
    cases proxy with
    | none => rfl
    | some p =>
      obtain ⟨_, ho, _, _⟩ := p
      cases pl.isHttps <;> cases ho <;> rfl
  unfold isForwarding
  unfold send at h
  dsimp only at h
  obtain ⟨hnl, h⟩ := ite_err h
  generalize ht : (if (proxy.isSome && !requiresTunnel proxy u.scheme) = true then Except.ok (absTarget u) else _) = tg at h
  cases tg with
  | error e => cases h
  | ok target =>
    dsimp only at h
    have htarget : if (proxy.isSome && !requiresTunnel proxy u.scheme) = true then
          (∃ n, u.netloc = some n ∧ n ≠ []) ∧ target = absTarget u
        else u.requestUri.head? = some 47 ∧ Url.encodeTarget u.requestUri = .ok target := by
      generalize (proxy.isSome && !requiresTunnel proxy u.scheme) = fwd at ht hnl ⊢
      cases fwd with
      | true =>
        cases hn : u.netloc with
        | none => simp [hn] at hnl
        | some n => exact ⟨⟨n, rfl, by simpa [hn] using hnl⟩, by simpa using ht.symm⟩
      | false =>
        simp only [Bool.false_eq_true, if_false] at ht ⊢
        split at ht
        · rename_i h47
          split at ht
          · rename_i het
            cases ht
            exact ⟨h47, het⟩
          · cases ht
        · cases ht
    split at h
    · cases h
    · cases h
    · rename_i a b dflt hca hd
      have hab : connAddr proxy pl = (a, b) := Except.ok.inj (haddr.symm.trans hca)
      rw [classDefaultPort_eq] at hd
      cases hd
      obtain ⟨hbad, h⟩ := ite_err h
      rw [hab]
      rcases ite_cases h with ⟨htun, h⟩ | ⟨htun, h⟩
      · obtain ⟨hasc, h⟩ := ite_err h
        obtain ⟨-, h⟩ := ite_err h
        obtain ⟨-, h⟩ := ite_err h
        split at h
        · cases h
        · rename_i dh dp hdl
          split at h
          · cases h
          · rename_i prep hprep
            cases h
            obtain ⟨⟨-, hhttps⟩, hfwd⟩ : (proxy.isSome = true ∧ pl.isHttps = true) ∧
                (proxy.isSome && !requiresTunnel proxy u.scheme) = false := by
              simpa only [Bool.and_eq_true, Bool.not_eq_true'] using htun
            rw [hhttps, hfwd] at hprep
            refine ⟨target, dh, dp, prep, htarget, hdl, ?_⟩
            rw [if_pos htun, hfwd]
            exact ⟨by simpa using hasc, hprep, rfl⟩
      · split at h
        · cases h
        · cases h
        · cases h
        · rename_i prep dh dp hprep hdl
          cases h
          refine ⟨target, dh, dp, prep, htarget, hdl, ?_⟩
          rw [if_neg htun]
          exact ⟨hprep, rfl⟩

theorem newPool_ok {idna : Str → Option Str} {s h : Str} {port : Nat} {pl : Pool}
    (e : newPool idna s h port = .ok pl) :
    ∃ h', Url.normalizeHost idna (some h) (some s) = .ok (some h') ∧
      pl = ⟨s == https, unbracket h', port, lower h'⟩ := by
  unfold newPool renorm at e
  split at e
  · cases e
  · rename_i h' hr
    split at hr
    · rename_i h'' hn
      cases hr
      cases e
      exact ⟨_, hn, rfl⟩
    · cases hr
    · cases hr

/-- the port of the pool `connection_from_host` is asked for, after `if not port:` -/
def poolPort (proxy : Option ProxyCfg) (u : Url.Url) : Nat :=
  match proxy with
  | some p => if u.scheme = some https then effPort u
              else if p.port ≠ 0 then p.port else dfltPort (some p.scheme)
  | none => effPort u

theorem portOr_poolTarget (proxy : Option ProxyCfg) (u : Url.Url) :
    PoolKey.portOr (poolTarget proxy u).2.1 (poolScheme proxy u) = .int (poolPort proxy u) := by
  unfold poolScheme poolPort poolTarget
  cases proxy with
  | none => exact portOr_portVal u
  | some p =>
    dsimp only
    split
    · exact portOr_portVal u
    · by_cases hp : p.port = 0
      · simp [PoolKey.portOr, PoolKey.Val.truthy, dfltPort, hp]
      · have : ((p.port : Int) != 0) = true := by simp; omega
        simp [PoolKey.portOr, PoolKey.Val.truthy, this, hp]

/-- the pool built for the request; `h'` is the host of `poolTarget` as the pool re-normalises it -/
def poolOf (proxy : Option ProxyCfg) (u : Url.Url) (h' : Str) : Pool :=
  ⟨poolScheme proxy u == https, unbracket h', poolPort proxy u, lower h'⟩

theorem routeWith_pool {idna : Str → Option Str} {proxy : Option ProxyCfg} {extra : PoolKey.Ctx} {u : Url.Url}
    {c : List (Str × Str)} {r : Route} (h : routeWith idna proxy extra u c = .ok r) :
    ∃ hst h' key y, (poolTarget proxy u).1 = some hst ∧ hst ≠ [] ∧
      Url.normalizeHost idna (some hst) (some (poolScheme proxy u)) = .ok (some h') ∧
      send proxy u (poolOf proxy u h') c = .ok y ∧ r = Route.ofSent 0 key y := by
  obtain ⟨m1, hm⟩ : ∃ m1, route idna (Mgr.init proxy extra) u c = (m1, .ok r) := ⟨_, Prod.ext rfl h⟩
  obtain ⟨-, id, key, pl, y, hpf, hsend, rfl⟩ := route_ok hm
  rcases poolFor_cases hpf with ⟨e, he⟩ | ⟨x, -, hx⟩ | ⟨hst, pv, key', pl', hh, hne, hp, hnp, he, -⟩
  · cases he
  · cases hx
  · cases he
    cases (portOr_poolTarget proxy u).symm.trans hp
    obtain ⟨h', hn, rfl⟩ := newPool_ok hnp
    exact ⟨hst, h', key, y, hh, hne, hn, hsend, rfl⟩

/-- **What a served request of a fresh manager looks like**, the kind of request being data: `fwd` (the
absolute URL goes to the proxy) and the pool `pl`; a request through a proxy's https pool that is not
forwarded travels in a CONNECT tunnel (`tun`).  `n`: the `Host` value among the caller headers of a
forwarded request (not used otherwise). -/
def routeSpec (proxy : Option ProxyCfg) (fwd : Bool) (pl : Pool) (target n : Str) (key : PoolKey.Key) : Route :=
  let a := connAddr proxy pl
  let tun := !fwd && proxy.isSome && pl.isHttps
  let hv := autoHost (if tun then tunnelCfg pl else connCfg pl.isHttps a.1 a.2)
  { pool := 0, poolKey := key, dialHost := dialName a.1, dialPort := a.2
    tls := if tun then proxyTls proxy (rstripDot a.1) ++ [sniNorm (rstripDot pl.tunnelHost)]
           else if pl.isHttps then [sniNorm (rstripDot a.1)] else []
    connect := if tun then some (connectBytes pl.tunnelHost pl.port) else none
    target := target
    hostHeader := if fwd then (if n != Gen.skipHeader then [n] else []) else [hv]
    request := if fwd then fwdRequestBytes target n else requestBytes target hv
    kwHeaders := if fwd then [acceptHdr, (lit "Host", n)] else [] }

/-- **Every served request of a fresh manager is `routeSpec`** (any proxy, any pool keywords): a forwarded
one when `_set_proxy_headers` ends up with `Accept` and `Host: n`, any other when the caller gives no
headers. -/
theorem routeWith_spec {idna : Str → Option Str} {proxy : Option ProxyCfg} {extra : PoolKey.Ctx} {u : Url.Url}
    {c : List (Str × Str)} {r : Route} (h : routeWith idna proxy extra u c = .ok r) :
    ∃ hst h' target key, (poolTarget proxy u).1 = some hst ∧ hst ≠ [] ∧
      Url.normalizeHost idna (some hst) (some (poolScheme proxy u)) = .ok (some h') ∧
      (if isForwarding proxy u.scheme then (∃ n, u.netloc = some n ∧ n ≠ []) ∧ target = absTarget u
       else Url.encodeTarget u.requestUri = .ok target) ∧
      ∀ n, (if isForwarding proxy u.scheme then proxyHeaders u c = [acceptHdr, (lit "Host", n)] else c = []) →
        r = routeSpec proxy (isForwarding proxy u.scheme) (poolOf proxy u h') target n key := by
  obtain ⟨hst, h', key, y, hh, hne, hn, hs, rfl⟩ := routeWith_pool h
  obtain ⟨target, dh, dp, prep, ht, hdial, hrest⟩ := send_ok hs
  obtain ⟨rfl, rfl, hasc⟩ := dial_ok hdial
  have hasc' : (rstripDot (connAddr proxy (poolOf proxy u h')).1).all (· < 128) = true :=
    List.all_eq_true.mpr fun x hx => List.all_eq_true.mp hasc x ((rstripDot_sublist _).subset hx)
  rw [Bool.and_comm, ← Bool.and_assoc] at hrest
  refine ⟨hst, h', target, key, hh, hne, hn, ?_⟩
  by_cases hf : isForwarding proxy u.scheme = true
  · simp only [hf, Bool.not_true, Bool.false_and, if_true, Bool.false_eq_true, if_false] at hrest ht ⊢
    refine ⟨ht, fun n hc => ?_⟩
    rw [hc] at hrest
    obtain ⟨hv1, hv2⟩ := prepare_get_fwd (prepareNV_of_prepare hrest.1)
    rw [hrest.2]
    simp only [routeSpec, Route.ofSent, hv1, hv2, rstripDot_idem, ht.2, Bool.not_true, Bool.false_and, if_true,
      Bool.false_eq_true, if_false]
  · simp only [hf] at hrest ht ⊢
    refine ⟨ht.2, fun n hc => ?_⟩
    subst hc
    obtain ⟨tr, rfl⟩ := encodeTarget_head ht.2
    by_cases htn : (!false && proxy.isSome && (poolOf proxy u h').isHttps) = true
    · rw [if_pos htn] at hrest
      obtain ⟨hta, hprep, hres⟩ := hrest
      obtain ⟨hv1, hv2⟩ := prepare_get_origin (cfg := tunnelCfg (poolOf proxy u h'))
        (List.all_eq_true.mpr fun x hx => List.all_eq_true.mp hta x ((unbracket_sublist _).subset hx)) hprep
      rw [hres]
      simp only [routeSpec, Route.ofSent, htn, hv1, hv2, if_true, Bool.false_eq_true, if_false]
    · rw [if_neg htn] at hrest
      obtain ⟨hprep, hres⟩ := hrest
      obtain ⟨hv1, hv2⟩ := prepare_get_origin
        (cfg := connCfg (poolOf proxy u h').isHttps (connAddr proxy (poolOf proxy u h')).1 (connAddr proxy (poolOf proxy u h')).2)
        hasc' (prepareNV_of_prepare hprep)
      rw [hres]
      simp only [routeSpec, Route.ofSent, htn, hv1, hv2, rstripDot_idem, Bool.false_eq_true, if_false]

/-- the http / https requests that are not forwarded: direct ones (`proxy = none`) and tunnelled ones (https
URL through a proxy that does not forward https); their pool is the origin's -/
theorem route_origin {idna : Str → Option Str} {proxy : Option ProxyCfg} {extra : PoolKey.Ctx} {u : Url.Url}
    {r : Route} {s hst : Str} (hs : u.scheme = some s) (hsch : s = http ∨ s = https) (hh : u.host = some hst)
    (hnf : isForwarding proxy (some s) = false) (h : routeWith idna proxy extra u = .ok r) :
    ∃ h' target key, Url.normalizeHost idna (some hst) (some s) = .ok (some h') ∧
      Url.encodeTarget u.requestUri = .ok target ∧
      r = routeSpec proxy false ⟨s == https, unbracket h', effPort u, lower h'⟩ target [] key := by
  obtain ⟨hst', h', target, key, hh', -, hn, ht, hr⟩ := routeWith_spec h
  -- a proxy forwards every http request, so one that is not forwarded has the pool of its own URL
  have hpt : poolTarget proxy u = (u.host, portVal u.port, u.scheme) := by
    cases proxy with
    | none => rfl
    | some p =>
      rcases hsch with rfl | rfl
      · cases hnf
      · exact poolTarget_https _ u hs
  have hps : poolScheme proxy u = s := by rw [poolScheme, hpt, hs, schemeOrO_web hsch]
  have hpp : poolPort proxy u = effPort u := by
    have := portOr_poolTarget proxy u
    rw [poolScheme, hpt] at this
    exact (Int.ofNat.inj (PoolKey.Val.int.inj ((portOr_portVal u).symm.trans this))).symm
  rw [hpt, hh] at hh'
  cases hh'
  rw [hs, hnf] at ht hr
  rw [hps] at hn
  refine ⟨h', target, key, hn, ht, ?_⟩
  rw [hr [] rfl, poolOf, hps, hpp]

theorem route_forward {idna : Str → Option Str} {extra : PoolKey.Ctx} {p : ProxyCfg} {u : Url.Url} {r : Route}
    (hf : isForwarding (some p) u.scheme = true) (h : routeWith idna (some p) extra u = .ok r) :
    ∃ hst h' n key, u.netloc = some n ∧ n ≠ [] ∧ (poolTarget (some p) u).1 = some hst ∧
      Url.normalizeHost idna (some hst) (some (poolScheme (some p) u)) = .ok (some h') ∧
      r = routeSpec (some p) true (poolOf (some p) u h') (absTarget u) n key := by
  obtain ⟨hst, h', target, key, hh', -, hn, ht, hr⟩ := routeWith_spec h
  simp only [hf, if_true] at ht hr
  obtain ⟨⟨n, hnl, hne⟩, rfl⟩ := ht
  exact ⟨hst, h', n, key, hnl, hne, hh', hn, hr n (proxyHeaders_fresh hnl hne)⟩

/-- where the connection that carries a forwarded request goes: to the proxy as configured, except that an
http pool (http URL through an http proxy — the proxy's own pool) is dialled at its re-normalised host -/
theorem connAddr_forward {p : ProxyCfg} {u : Url.Url} {ph : Str} (h' : Str)
    (hsc : u.scheme = some http ∨ u.scheme = some https) (hph : p.host = some ph)
    (hps : p.scheme = http ∨ p.scheme = https) (hpp : p.port ≠ 0) :
    connAddr (some p) (poolOf (some p) u h') =
      (if p.scheme = https ∨ u.scheme = some https then ph else unbracket h', p.port) := by
  have hne : http ≠ https := by decide
  rcases hsc with hu | hu
  · have hu' : ¬ u.scheme = some https := by rw [hu]; decide
    have e1 : poolScheme (some p) u = p.scheme := by rw [poolScheme, poolTarget_http p hu, schemeOrO_web hps]
    rcases hps with e | e
    · simp [connAddr, poolOf, poolPort, e1, e, hne, hu', hpp]
    · simp [connAddr, proxyAddr, poolOf, e1, e, hph]
  · have e1 : poolScheme (some p) u = https := by rw [poolScheme, poolTarget_https _ u hu, hu]; rfl
    simp [connAddr, proxyAddr, poolOf, e1, hu, hph]

section fine
open PoolKey

/-- `poolFor` when the normaliser cannot fail: the key is `keyOf`, the normaliser is not run.  (`S`, here and
in `routeS`, `routeUrlS`: the short way, for evaluation.) -/
def poolForS (idna : Str → Option Str) (m : Mgr) (u : Url.Url) :=
  poolForN (fun rc => .ok (keyOf rc)) idna m (poolTarget m.proxy u)

theorem poolFor_fine {m : Mgr} (f : Fine m.pk.defaults) (idna : Str → Option Str) (u : Url.Url) :
    poolFor idna m u = poolForS idna m u := by
  have hn (s p h) : normalize (unstrict (hostCtx m.pk.defaults s p h)) =
      .ok (keyOf (hostCtx m.pk.defaults s p h)) := by
    rw [unstrict, f.no_strict, if_neg Bool.false_ne_true, normalize_hostCtx f]
  rw [poolFor_eqN, poolForS, poolForN, poolForN]
  simp only [hn]

/-- `route` with `poolForS` for `poolFor` -/
def routeS (idna : Str → Option Str) (m : Mgr) (u : Url.Url) (carried : List (Str × Str) := []) :
    Mgr × Except Exc Route :=
  routeOf m u carried (poolForS idna m u)

theorem route_fine {m : Mgr} (f : Fine m.pk.defaults) (idna : Str → Option Str) (u : Url.Url)
    (c : List (Str × Str)) : route idna m u c = routeS idna m u c := by
  rw [route_eq, poolFor_fine f, routeS]

theorem routeS_fine {m : Mgr} (f : Fine m.pk.defaults) (idna : Str → Option Str) (u : Url.Url)
    (c : List (Str × Str)) : Fine (routeS idna m u c).1.pk.defaults := by
  rw [← route_fine f]
  exact (route_fst idna m u c).2.2 ▸ f

def routeUrlS (idna : Str → Option Str) (m : Mgr) (url : Str) (carried : List (Str × Str) := []) :
    Mgr × Except Exc Route :=
  match Url.parseUrlWith idna url with
  | .error _ => (m, .error .locationParseError)
  | .ok u => routeS idna m u carried

theorem routeUrl_fine {m : Mgr} (f : Fine m.pk.defaults) (idna : Str → Option Str) (url : Str)
    (c : List (Str × Str)) :
    routeUrl idna m url c = routeUrlS idna m url c ∧ Fine (routeUrlS idna m url c).1.pk.defaults := by
  unfold routeUrl routeUrlS
  cases Url.parseUrlWith idna url with
  | error _ => exact ⟨rfl, f⟩
  | ok u => exact ⟨route_fine f idna u c, routeS_fine f idna u c⟩

/-- the defaults of a `PoolManager()` / `ProxyManager(proxy_url)` built without pool keywords -/
theorem fine_init (proxy : Option ProxyCfg) : Fine (Mgr.init proxy []).pk.defaults := by
  have table : ∀ d ∈ [[], defaultsOf (some ⟨[], none, 0, false⟩) []],
      IsDict (hostCtx d [] .none []) ∧ NoClash (hostCtx d [] .none []) ∧
      (∀ kw ∈ keys (hostCtx d [] .none []), keyField kw ∈ Gen.poolKeyFields) ∧
      PoolKey.get d kHeaders = none ∧ (PoolKey.get d kProxyHeaders = none ∨ PoolKey.get d kProxyHeaders = some (.dict [])) ∧
      PoolKey.get d kSocksOptions = none ∧ PoolKey.get d kSocketOptions = none := by decide +kernel
  have fine : ∀ d ∈ [[], defaultsOf (some ⟨[], none, 0, false⟩) []], Fine d := fun d hd =>
    have ⟨a, b, c, e, f, g, h⟩ := table d hd
    ⟨a, b, c, .inl e, f.elim .inl fun f => .inr (.inr ⟨_, f⟩), .inl g, .inl h⟩
  cases proxy with
  | none => exact fine _ (by simp [Mgr.init, PoolKey.Mgr.init, defaultsOf])
  | some p => exact fine _ (List.mem_cons_of_mem _ List.mem_cons_self)

end fine

end U3.Route
