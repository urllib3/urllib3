import U3.Model.Pool
import U3.Lemmas.Pool
import U3.Lemmas.PoolProv
import U3.Lemmas.PoolExc
/-!
# Which connections may be reused (C03, second clause)

`LinkX L X s`: every connected connection `c` whose `http.client` `__response` is response `r`
* has `r` reading from `c`'s own socket (if `r` is still open) and an `r` whose body is delimited (`Delim`);
* unless `c` is the connection leased by the running `urlopen` (`L = some c`): if `r` is closed its
  exchange is over (`Done`), and if `r` is open it *holds* `c` (`r.conn = some c`), so that any unclean
  end of `r` (`close()`, a read error, garbage collection) closes `c`.
`X = some r` marks the response a read is in progress on: it may already be closed with bytes
outstanding, as long as it still holds its connection (the `finally` of `_error_catcher` is about to
close it).  `Link L s` is `LinkX L none s`.

`Link` is preserved by every operation of a history *without early release* (`NoEarlyOp`: no
`release_conn=True` with `preload_content=False`, no `release_conn()` by the caller); the known finding
is exactly a history that violates this hypothesis (`run_link`).  Last, a request rejected between `putrequest()` and
`endheaders()` (`request_rejected`).
-/
namespace U3.Pool

variable {A : Nat → Attempt → Prop} {L X : Option Nat}

/-- the exchange of response `rs` is over: the declared length has been read; for a chunked reply (to
anything but `HEAD`) a chunk parser has read the empty line that ends the message — or has hit EOF
while it was discarding the trailer section (the connection is then at EOF: the checkout probe drops it) -/
def Done (rs : Resp) : Prop :=
  if rs.chunked = true ∧ rs.isHead = false then (rs.eom = true ∨ rs.eofAt.isSome = true) else rs.length = some 0

/-- the end of the body of `rs` is determined by its framing (and not by the end of the connection) -/
def Delim (rs : Resp) : Prop := rs.length.isSome = true ∨ rs.chunked = true

theorem done_plain {rs : Resp} (hc : rs.chunked = false) : Done rs ↔ rs.length = some 0 := by
  unfold Done
  simp [hc]

theorem done_chunked {rs : Resp} (hc : rs.chunked = true) (hh : rs.isHead = false) :
    Done rs ↔ (rs.eom = true ∨ rs.eofAt.isSome = true) := by
  unfold Done
  simp [hc, hh]

theorem not_delim {rs : Resp} (hc : rs.chunked = false) (hl : rs.length = none) : ¬ Delim rs := by
  unfold Delim
  simp [hc, hl]

/-- what `LinkX` asks of response `r`, which is `rs`, as the `__response` of connection `c` connected through socket `k` -/
structure LinkAt (L X : Option Nat) (c k r : Nat) (rs : Resp) : Prop where
  delim : Delim rs
  sock : ∀ k', rs.fp = some k' ∨ rs.eofAt = some k' → k' = k
  hold : L ≠ some c →
    if X = some r then rs.conn = some c
    else (rs.fp = none → Done rs) ∧ (rs.fp ≠ none → rs.conn = some c)

structure LinkX (L X : Option Nat) (s : State) : Prop where
  nosock : ∀ (c : Nat) (cn : Conn), s.conns[c]? = some cn → cn.sock = none → cn.pending = none
  bound : ∀ (c : Nat) (cn : Conn) (r : Nat), s.conns[c]? = some cn → cn.pending = some r → r < s.resps.length
  pend : ∀ (c : Nat) (cn : Conn) (k r : Nat) (rs : Resp), s.conns[c]? = some cn → cn.sock = some k →
    cn.pending = some r → s.resps[r]? = some rs → LinkAt L X c k r rs

abbrev Link (L : Option Nat) (s : State) : Prop := LinkX L none s

def SockInj (s : State) : Prop :=
  ∀ (c c' : Nat) (cn cn' : Conn) (k : Nat), s.conns[c]? = some cn → s.conns[c']? = some cn' → cn.sock = some k → cn'.sock = some k → c = c'

theorem Safe.sockInj {s s' : State} (h : Safe s s') (p : SockInj s) : SockInj s' := by
  intro c c' cn cn' k h1 h2 h3 h4
  rcases h.cn c cn k h1 h3 with ⟨c0, hs, hk, _⟩ | ⟨_, _, _, g4⟩
  · rcases h.cn c' cn' k h2 h4 with ⟨c0', hs', hk', _⟩ | ⟨_, _, _, g4'⟩
    · exact p c c' c0 c0' k hs hs' hk hk'
    · exact g4' c cn h1 h3
  · exact (g4 c' cn' h2 h4).symm

theorem sockInj_conns {s s' : State} (h : s'.conns = s.conns) (p : SockInj s) : SockInj s' := by
  unfold SockInj
  rw [h]
  exact p

/-- connections may lose their `__response` (in particular: be closed, appear unconnected), the leased connection may
take a delimited response that reads from its socket as its `__response`; responses may appear -/
theorem linkx_frame {s s' : State} (h : LinkX L X s)
    (hc : ∀ (c : Nat) (cn' : Conn), s'.conns[c]? = some cn' → cn'.pending = none ∨
      (∃ cn : Conn, s.conns[c]? = some cn ∧ cn'.sock = cn.sock ∧ cn'.pending = cn.pending) ∨
      (L = some c ∧ ∃ k r, cn'.sock = some k ∧ cn'.pending = some r ∧ r < s'.resps.length ∧
        ∀ rs : Resp, s'.resps[r]? = some rs → Delim rs ∧ ∀ k', rs.fp = some k' ∨ rs.eofAt = some k' → k' = k))
    (hr : ∀ r, r < s.resps.length → s'.resps[r]? = s.resps[r]?) : LinkX L X s' := by
  refine ⟨fun c cn' h1 h2 => ?_, fun c cn' r h1 h2 => ?_, fun c cn' k r rs' h1 h2 h3 h4 => ?_⟩
  all_goals rcases hc c cn' h1 with e | ⟨cn, g1, g2, g3⟩ | ⟨hL, k0, r0, ek, er, hlt, hrs⟩
  · exact e
  · rw [g3]
    exact h.nosock c cn g1 (g2 ▸ h2)
  · rw [ek] at h2
    cases h2
  · rw [e] at h2
    cases h2
  · have hb := h.bound c cn r g1 (g3 ▸ h2)
    exact getElem?_lt ((hr r hb).trans (List.getElem?_eq_getElem hb))
  · rw [er] at h2
    cases h2
    exact hlt
  · rw [e] at h3
    cases h3
  · rw [hr r (h.bound c cn r g1 (g3 ▸ h3))] at h4
    exact h.pend c cn k r rs' g1 (g2 ▸ h2) (g3 ▸ h3) h4
  · rw [ek] at h2
    rw [er] at h3
    cases h2
    cases h3
    exact ⟨(hrs rs' h4).1, (hrs rs' h4).2, fun hn => absurd hL hn⟩

theorem linkx_log {s s' : State} (h : LinkX L X s) (hc : s'.conns = s.conns) (hr : s'.resps = s.resps) :
    LinkX L X s' :=
  linkx_frame h (fun c cn' h1 => Or.inr (Or.inl ⟨cn', hc ▸ h1, rfl, rfl⟩)) (fun r _ => by rw [hr])

theorem setConn_linkx {s : State} (c : Nat) (g : Conn → Conn) (h : LinkX L X s)
    (hg : ∀ x, s.conns[c]? = some x → (g x).pending = none ∨ ((g x).sock = x.sock ∧ (g x).pending = x.pending)) :
    LinkX L X (setConn s c g) := by
  refine linkx_frame h (fun c' cn' h1 => ?_) (fun _ _ => rfl)
  obtain ⟨x, hx, rfl⟩ := modify_some h1
  split
  · rename_i hcc
    subst hcc
    exact (hg x hx).imp id fun e => Or.inl ⟨x, hx, e⟩
  · exact Or.inr (Or.inl ⟨x, hx, rfl, rfl⟩)

theorem forget_linkx {s : State} (c : Nat) (h : LinkX L X s) : LinkX L X (forgetClosedPending s c) := by
  rcases forget_cases s c with ⟨e, _⟩ | ⟨_, _, e, _⟩ <;> rw [e]
  · exact h
  · exact setConn_linkx c _ h (fun _ _ => Or.inl rfl)

/-- no connected, non-leased connection has `r` as its `__response` -/
def NoOwner (L : Option Nat) (s : State) (r : Nat) : Prop :=
  ∀ (c : Nat) (cn : Conn), s.conns[c]? = some cn → cn.pending = some r → cn.sock = none ∨ L = some c

/-- only response `r` changes.  It stays delimited, its reader and its EOF mark stay on the socket they were on;
while the read on `r` is in progress it keeps its connection; otherwise it keeps its connection as long as it is
open, and it is closed only with its exchange over (or without an owner) -/
theorem linkx_resp {s s' : State} {r : Nat} (h : LinkX L X s)
    (hc : s'.conns = s.conns) (hl : s'.resps.length = s.resps.length) (ho : ∀ i, i ≠ r → s'.resps[i]? = s.resps[i]?)
    (hr : ∀ rs, s.resps[r]? = some rs → ∃ rs', s'.resps[r]? = some rs' ∧ (Delim rs → Delim rs') ∧
      (∀ k, rs'.fp = some k ∨ rs'.eofAt = some k → rs.fp = some k ∨ rs.eofAt = some k) ∧
      (if X = some r then rs'.conn = rs.conn
       else (rs'.fp ≠ none → rs.fp ≠ none ∧ rs'.conn = rs.conn) ∧
         (rs'.fp = none → (rs.fp = none ∧ (Done rs → Done rs')) ∨ Done rs' ∨ NoOwner L s r))) :
    LinkX L X s' := by
  refine ⟨by rw [hc]; exact h.nosock, by rw [hc, hl]; exact h.bound, fun c cn k r' rs' h1 h2 h3 h4 => ?_⟩
  rw [hc] at h1
  by_cases hrr : r' = r
  · subst hrr
    have hrs := List.getElem?_eq_getElem (h.bound c cn r' h1 h3)
    obtain ⟨q1, q2, q3⟩ := h.pend c cn k r' _ h1 h2 h3 hrs
    obtain ⟨rs'', g, d, f, t⟩ := hr _ hrs
    rw [g] at h4
    cases h4
    refine ⟨d q1, fun k' hk' => q2 k' (f k' hk'), fun hL => ?_⟩
    have q3 := q3 hL
    split at t
    · rename_i hX
      rw [if_pos hX] at q3 ⊢
      rw [t]
      exact q3
    · rename_i hX
      rw [if_neg hX] at q3 ⊢
      refine ⟨fun hn => ?_, fun hn => ?_⟩
      · rcases t.2 hn with ⟨e, dd⟩ | dn | no
        · exact dd (q3.1 e)
        · exact dn
        · rcases no c cn h1 h3 with o | o
          · rw [h2] at o
            cases o
          · exact absurd o hL
      · obtain ⟨e1, e2⟩ := t.1 hn
        rw [e2]
        exact q3.2 e1
  · rw [ho r' hrr] at h4
    exact h.pend c cn k r' rs' h1 h2 h3 h4

theorem closeFp_linkx {s : State} {r : Nat} (h : LinkX L X s)
    (ok : X = some r ∨ ∀ rs : Resp, s.resps[r]? = some rs → rs.fp = none ∨ Done rs ∨ NoOwner L s r) :
    LinkX L X (closeFp s r) := by
  obtain ⟨e1, _, e3, e4⟩ := closeFp_fields s r
  refine linkx_resp h e1 e3 e4 (fun rs hrs => ?_)
  obtain ⟨b, hb⟩ := closeFp_at hrs
  refine ⟨_, hb, id, fun k hk => hk.elim nofun Or.inr, ?_⟩
  split
  · rfl
  · rename_i hX
    refine ⟨fun hn => absurd rfl hn, fun _ => ?_⟩
    exact (ok.resolve_left hX rs hrs).imp (fun o => ⟨o, id⟩) id

theorem LinkX.owner_inj {s : State} (h : LinkX L X s) (si : SockInj s ∨ (L = none ∧ X = none))
    {c c2 k k2 r : Nat} {cn cn2 : Conn} {rs : Resp} (h1 : s.conns[c]? = some cn) (h2 : s.conns[c2]? = some cn2)
    (hk : cn.sock = some k) (hk2 : cn2.sock = some k2) (hp : cn.pending = some r) (hp2 : cn2.pending = some r)
    (hrs : s.resps[r]? = some rs) (hfp : rs.fp ≠ none) : c2 = c := by
  have q := h.pend c cn k r rs h1 hk hp hrs
  have q2 := h.pend c2 cn2 k2 r rs h2 hk2 hp2 hrs
  rcases si with si | ⟨rfl, rfl⟩
  · cases hf : rs.fp with
    | none => exact absurd hf hfp
    | some k' => exact si c2 c cn2 cn k' h2 h1 (by rw [hk2, q2.sock k' (Or.inl hf)]) (by rw [hk, q.sock k' (Or.inl hf)])
  · have b1 := (q.hold nofun).2 hfp
    rw [(q2.hold nofun).2 hfp] at b1
    cases b1
    rfl

/-- `conn.close()` also closes the reader of the connection's `__response`: no other connected connection has the
same open `__response` -/
theorem connClose_linkx {s : State} (c : Nat) (h : LinkX L X s) (si : SockInj s ∨ (L = none ∧ X = none)) :
    LinkX L X (connClose s c) := by
  unfold connClose
  split
  · exact h
  · rename_i cn hcn
    have h1 := setConn_linkx c (fun x => { x with sock := none, http := .idle, pending := none, proxyConnected := false }) h
      (fun _ _ => Or.inl rfl)
    have h2 : ∀ t : State, t.conns = s.conns.modify c (fun x => { x with sock := none, http := .idle, pending := none, proxyConnected := false }) →
        t.resps = s.resps → LinkX L X t → LinkX L X (match cn.pending with | some r => closeFp t r | none => t) := by
      intro t tc tr ht
      cases hp : cn.pending with
      | none => exact ht
      | some r =>
        refine closeFp_linkx ht (Or.inr fun rs hrs => ?_)
        by_cases hfp : rs.fp = none
        · exact Or.inl hfp
        · refine Or.inr (Or.inr fun c2 cn2 g1 g2 => ?_)
          rw [tc] at g1
          obtain ⟨x, hx, rfl⟩ := modify_some g1
          split at g2
          · cases g2
          · rename_i hne
            rw [if_neg hne]
            cases hs2 : x.sock with
            | none => exact Or.inl rfl
            | some k2 =>
              cases hsc : cn.sock with
              | none => rw [h.nosock c cn hcn hsc] at hp; cases hp
              | some k => exact absurd (h.owner_inj si hcn hx hsc hs2 hp g2 (tr ▸ hrs) hfp).symm hne
    cases cn.sock with
    | some k => exact h2 _ (noteClose_fields _ _).1 (noteClose_fields _ _).2.1 (linkx_log h1 (noteClose_fields _ _).1 (noteClose_fields _ _).2.1)
    | none => exact h2 _ rfl rfl h1

theorem setResp_linkx {s : State} (r : Nat) (g : Resp → Resp) (h : LinkX L X s)
    (hfp : ∀ x, (g x).fp = x.fp)
    (hdl : ∀ x, s.resps[r]? = some x → Delim x → Delim (g x))
    (hdn : ∀ x, s.resps[r]? = some x → (Done x → Done (g x)) ∨ x.fp ≠ none ∨ X = some r)
    (hconn : ∀ x, s.resps[r]? = some x → (g x).conn = x.conn ∨ (x.fp = none ∧ X ≠ some r))
    (heo : ∀ x, (g x).eofAt = x.eofAt := by intro x; rfl) :
    LinkX L X (setResp s r g) := by
  refine linkx_resp h rfl (by simp [setResp]) (fun i hi => setResp_ne s g hi) (fun x hx => ?_)
  refine ⟨g x, setResp_at g hx, hdl x hx, by rw [hfp, heo]; exact fun _ => id, ?_⟩
  rw [hfp]
  split
  · rename_i hX; exact (hconn x hx).resolve_right fun e => e.2 hX
  · rename_i hX
    refine ⟨fun hn => ⟨hn, (hconn x hx).resolve_right fun e => hn e.1⟩, fun hn => Or.inl ⟨hn, ?_⟩⟩
    exact (hdn x hx).resolve_right fun e => e.elim (fun e => e hn) hX

theorem deliver_linkx {s : State} (r : Nat) (d : List Cell) (h : LinkX L X s) : LinkX L X (deliver s r d) :=
  setResp_linkx r _ h (fun _ => rfl) (fun _ _ d => d) (fun _ _ => Or.inl id) (fun _ _ => Or.inl rfl)

theorem linkx_enter {s : State} {r k : Nat} (h : Link L s) (ho : OpenK r k s) : LinkX L (some r) s := by
  refine ⟨h.nosock, h.bound, fun c cn k' r' rs h1 h2 h3 h4 => ?_⟩
  obtain ⟨q1, q2, q3⟩ := h.pend c cn k' r' rs h1 h2 h3 h4
  refine ⟨q1, q2, fun hL => ?_⟩
  have t3 := q3 hL
  rw [if_neg nofun] at t3
  split
  · rename_i e
    cases e
    exact t3.2 (by rw [ho rs h4]; nofun)
  · exact t3

/-- the read is over: the response is still open, or it was read to the end, or it owns no live
connection any more -/
theorem linkx_leave {s : State} {r : Nat} (h : LinkX L (some r) s)
    (hok : ∀ rs : Resp, s.resps[r]? = some rs → rs.fp ≠ none ∨ Done rs ∨ NoOwner L s r) : Link L s := by
  refine ⟨h.nosock, h.bound, fun c cn k r' rs h1 h2 h3 h4 => ?_⟩
  obtain ⟨q1, q2, q3⟩ := h.pend c cn k r' rs h1 h2 h3 h4
  refine ⟨q1, q2, fun hL => ?_⟩
  have t3 := q3 hL
  rw [if_neg nofun]
  split at t3
  · rename_i e
    cases e
    refine ⟨fun hn => ?_, fun _ => t3⟩
    rcases hok rs h4 with o | o | o
    · exact absurd hn o
    · exact o
    · rcases o c cn h1 h3 with o | o
      · rw [h2] at o
        cases o
      · exact absurd o hL
  · exact t3

theorem putConn_linkx {s : State} (x : Option Nat) (h : LinkX L X s) (si : x = none ∨ SockInj s) :
    LinkX L X (putConn s x).1 := by
  have cl : ∀ u : State, LinkX L X u → (x = none ∨ SockInj u) → LinkX L X (closeItem u x) ∧ (x = none ∨ SockInj (closeItem u x)) := by
    intro u hu su
    cases x with
    | none => exact ⟨hu, su⟩
    | some i =>
      have su := su.resolve_left nofun
      exact ⟨connClose_linkx i hu (Or.inl su), Or.inr ((safe_pooling.connClose u i).sockInj su)⟩
  have h0 : LinkX L X (logEv s (.put x)) := linkx_log h rfl rfl
  have si0 : x = none ∨ SockInj (logEv s (.put x)) := si
  rcases putConn_cases s x with ⟨_, _, e⟩ | ⟨_, _, _, e⟩ | ⟨_, _, _, e⟩ | ⟨_, e⟩ <;> rw [e]
  · exact linkx_log h0 rfl rfl
  · exact (cl _ h0 si0).1
  · exact (cl _ (cl _ h0 si0).1 (cl _ h0 si0).2).1
  · exact (cl _ h0 si0).1

theorem releaseConn_linkx {s : State} {r : Nat} (h : LinkX L X s) (si : SockInj s)
    (hcl : respFpClosed s r = true) (hX : X ≠ some r) : LinkX L X (releaseConn s r).1 := by
  rcases releaseConn_cases s r with ⟨e, _⟩ | ⟨_, c, _, _, _, ⟨_, _, e⟩ | ⟨_, e⟩⟩ <;> rw [e]
  · exact h
  · exact putConn_linkx (some c) h (Or.inr si)
  · have hc1 := (respFpClosed_iff _ r).mp ((safe_pooling.putConn s (some c)).closed hcl)
    exact setResp_linkx r _ (putConn_linkx (some c) h (Or.inr si)) (fun _ => rfl) (fun _ _ d => d) (fun _ _ => Or.inl id)
      (fun x hx => Or.inr ⟨hc1 x hx, hX⟩)

theorem LinkX.focus_conn {s : State} {r c : Nat} {cn : Conn} {rs : Resp} (h : LinkX L (some r) s)
    (h1 : s.conns[c]? = some cn) (hp : cn.pending = some r) (hrs : s.resps[r]? = some rs) :
    (cn.sock = none ∨ L = some c) ∨ rs.conn = some c := by
  cases hs : cn.sock with
  | none => exact Or.inl (Or.inl rfl)
  | some k =>
    by_cases hL : L = some c
    · exact Or.inl (Or.inr hL)
    · have := (h.pend c cn k r rs h1 hs hp hrs).hold hL
      rw [if_pos rfl] at this
      exact Or.inr this

/-- `response.close()` / the unclean exit of `_error_catcher`, while the read on `r` is in progress -/
theorem respClose_exempt {s : State} {r : Nat} (h : LinkX L (some r) s) (si : SockInj s) :
    Link L (respClose s r) := by
  have ht : LinkX L (some r) (closeFp s r) := closeFp_linkx h (Or.inl rfl)
  have sit : SockInj (closeFp s r) := sockInj_conns (closeFp_fields s r).1 si
  unfold respClose
  dsimp only
  generalize closeFp s r = t at ht sit
  split
  · rename_i hn
    exact linkx_leave ht (fun rs hrs => by rw [hn] at hrs; cases hrs)
  · rename_i rs hrs
    split
    · rename_i c hc
      refine linkx_leave (connClose_linkx c ht (Or.inl sit)) (fun _ _ => Or.inr (Or.inr fun c2 cn2 g1 g2 => ?_))
      rw [connClose_conns] at g1
      obtain ⟨x, hx, rfl⟩ := modify_some g1
      split at g2
      · cases g2
      · rename_i hne
        rw [if_neg hne]
        exact (ht.focus_conn hx g2 hrs).resolve_right fun e => hne (by rw [hc] at e; cases e; rfl)
    · rename_i hc
      refine linkx_leave ht (fun _ _ => Or.inr (Or.inr fun c2 cn2 g1 g2 => ?_))
      exact (ht.focus_conn g1 g2 hrs).resolve_right (by rw [hc]; nofun)

theorem respClose_link {s : State} {r : Nat} (h : Link L s) (si : SockInj s) : Link L (respClose s r) := by
  cases hc : respFpClosed s r with
  | false =>
    obtain ⟨rs, k, ho⟩ := respFpClosed_false hc
    exact respClose_exempt (linkx_enter h (.of ho)) si
  | true =>
    -- already closed: `_close_conn()` does nothing, `conn.close()` is always fine
    unfold respClose
    rw [closeFp_of_closed hc]
    dsimp only
    split
    · exact h
    · split
      · exact connClose_linkx _ h (Or.inl si)
      · exact h

/-- the state in which the body of `_error_catcher` ends with outcome `out`: no read is in progress; or the read on `r`
still is, and — unless an exception is under way — `r` may be left (`linkx_leave`) -/
def Leaving (L : Option Nat) (r : Nat) (s : State) (out : DataOut) : Prop :=
  Link L s ∨ (LinkX L (some r) s ∧
    ∀ d, out = .data d → ∀ rs : Resp, s.resps[r]? = some rs → rs.fp ≠ none ∨ Done rs ∨ NoOwner L s r)

/-- leaving `_error_catcher`: with an exception the response is closed (and with it the connection it holds) -/
theorem catcherExit_link {s : State} {r : Nat} {out : DataOut} (si : SockInj s) (h : Leaving L r s out) :
    Link L (catcherExit s r out).1 := by
  have tail : ∀ t : State, Link L t → SockInj t → Link L (if respFpClosed t r then releaseConn t r else (t, none)).1 := by
    intro t ht sit
    split
    · rename_i hc
      exact releaseConn_linkx ht sit hc nofun
    · exact ht
  cases out with
  | exc e =>
    exact fst_orElse (P := Link L)
      (tail _ (h.elim (respClose_link · si) (fun g => respClose_exempt g.1 si)) ((safe_pooling.respClose s r).sockInj si))
  | data d => exact fst_orElse (P := Link L) (tail s (h.elim id (fun g => linkx_leave g.1 (g.2 d rfl))) si)

/-- response `r` is open on socket `k`; its reply is chunked and not a reply to `HEAD` -/
def ChunkedOn (r k : Nat) (s : State) : Prop :=
  ∀ rs : Resp, s.resps[r]? = some rs → rs.fp = some k ∧ rs.chunked = true ∧ rs.isHead = false

theorem ChunkedOn.openK {r k : Nat} {s : State} (h : ChunkedOn r k s) : OpenK r k s := fun rs hrs => (h rs hrs).1

theorem ChunkedOn.relP {r k : Nat} {s s' : State} {m : List Cell} (h : ChunkedOn r k s) (rel : RdP r k s s' m) :
    ChunkedOn r k s' := by
  intro rs' hrs'
  obtain ⟨rs, hrs, e1, e2, e3⟩ := resp_back (P := fun rs' rs => rs'.fp = rs.fp ∧ rs'.chunked = rs.chunked ∧ rs'.isHead = rs.isHead)
    rel.rlen (fun rs hrs => by obtain ⟨rx, hx, kp, hfp, _⟩ := rel.kept hrs; exact ⟨rx, hx, hfp, kp.chunked, kp.isHead⟩) rs' hrs'
  rw [e1, e2, e3]
  exact h rs hrs

theorem ChunkedOn.deliver {r k : Nat} {s : State} (d : List Cell) (h : ChunkedOn r k s) : ChunkedOn r k (deliver s r d) := by
  intro rs' hrs'
  obtain ⟨x, hx, rfl⟩ := modify_some hrs'
  rw [if_pos rfl]
  exact h x hx

theorem dirty_linkx {s s' : State} {r k : Nat} (h : LinkX L (some r) s) (d : Dirty r k s s')
    (hfp : OpenK r k s) : LinkX L (some r) s' := by
  refine linkx_resp h d.conns d.rlen d.rother fun rs hrs => ?_
  obtain ⟨rs', g, kp, hf, heo⟩ := d.rsame rs hrs
  refine ⟨rs', g, by unfold Delim; rw [kp.chunked, kp.length]; exact id, fun k' hk' => ?_, by rw [if_pos rfl]; exact kp.conn⟩
  rcases hk' with e | e
  · exact Or.inl (hf.elim (fun a => a ▸ e) (fun a => by rw [a] at e; cases e))
  · exact (heo k' e).elim Or.inr (fun g => Or.inl (g.1 ▸ hfp rs hrs))

theorem ChunkedOn.done {r k : Nat} {s s' : State} {rs' : Resp} (h : ChunkedOn r k s) (d : Dirty r k s s')
    (hrs' : s'.resps[r]? = some rs') (he : rs'.eom = true ∨ rs'.eofAt = some k) : Done rs' := by
  obtain ⟨rs, hrs, e1, e2⟩ := resp_back (P := fun rs' rs => rs'.chunked = rs.chunked ∧ rs'.isHead = rs.isHead) d.rlen
    (fun x hx => by obtain ⟨rx, hx', kp, _⟩ := d.rsame x hx; exact ⟨rx, hx', kp.chunked, kp.isHead⟩) rs' hrs'
  obtain ⟨_, g1, g2⟩ := h rs hrs
  exact (done_chunked (e1.trans g1) (e2.trans g2)).mpr (he.imp id fun g => by rw [g]; rfl)

/-- a reader that answers `HEAD` has nothing to read; the invariant may be one that judges some reader `r'` by what it
has collected -/
theorem head_done {s : State} {r r' k : Nat} {X : List Cell} {rs : Resp} (p : Prov A (deliver s r' X))
    (ho : OpenAt s r k rs) (hh : rs.isHead = true) : Done rs := by
  rcases p.resp r _ (deliver_at X ho.resp) with ⟨e, _⟩ | ⟨a, hd, fr⟩
  · cases ho.fp.symm.trans e
  · obtain ⟨sk, _, _, _, _, q⟩ := fr.opn k ho.fp
    obtain ⟨l, e1, e2⟩ := q 0 (by simp [lenBound, initLength, noBody, Resp.add, hh])
    have e1 : rs.length = some l := e1
    unfold Done
    rw [if_neg (by simp [hh]), e1]
    congr
    omega

theorem linkx_rframe (L : Option Nat) (r : Nat) : RFrame r fun s s' => LinkX L (some r) s → LinkX L (some r) s' where
  refl := fun _ => id
  trans := fun a b h => b (a h)
  close := fun _ h => closeFp_linkx h (Or.inl rfl)
  setlen := fun _ _ h => setResp_linkx r _ h (fun _ => rfl) (fun _ _ _ => Or.inl rfl) (fun _ _ => Or.inr (Or.inr rfl))
    (fun _ _ => Or.inl rfl)
  dirty := fun ho d h => dirty_linkx h d ho

/-- after a `read` that returned data `d`: a reader that is closed now has reached the end of its body, unless the
body is not delimited or nothing at all came (`amt` bytes were asked for); a chunked reply that yields nothing when
something was asked for is over -/
theorem httpRead_done {s s1 : State} {r r' k : Nat} {X : List Cell} {rs : Resp} {amt : Option Nat}
    {d : List Cell} (p : Prov A (deliver s r' X)) (ho : OpenAt s r k rs)
    (hh : httpRead s r amt = (s1, .data d)) : ∀ rs1 : Resp, s1.resps[r]? = some rs1 →
      (rs1.fp = none → Done rs1 ∨ ¬ Delim rs1 ∨ ∃ n, amt = some n ∧ n ≠ 0 ∧ d = []) ∧
      (rs1.chunked = false ∨ Done rs1 ∨ ∀ n, amt = some n → n ≠ 0 → d ≠ []) := by
  intro rs1 h1
  rcases httpRead_cases ho hh with ⟨hhd, e, _⟩ | ⟨hhd, hch, e⟩ | ⟨_, hch, t, m, rel, _, q⟩
  · subst e
    obtain ⟨b, hb⟩ := closeFp_at ho.resp
    rw [hb] at h1
    cases h1
    have dn : Done { rs with fp := none, buf := b } := head_done (rs := rs) p ho hhd
    exact ⟨fun _ => Or.inl dn, Or.inr (Or.inl dn)⟩
  · have dd := (hcReadChunked_spec e).dirty
    obtain ⟨rx, hx, q⟩ := (hcReadChunked_spec e).ended rs d ho rfl
    cases h1.symm.trans hx
    rcases q with ⟨o1, o2⟩ | o
    · exact ⟨fun hn => (by rw [o1] at hn; cases hn), Or.inr (Or.inr fun n hn hn0 =>
        o2 (Or.inr fun n' hn' => by cases hn.symm.trans hn'; exact hn0))⟩
    · have o := ChunkedOn.done (fun rs' h' => by rw [ho.resp] at h'; cases h'; exact ⟨ho.fp, hch, hhd⟩) dd h1 o
      exact ⟨fun _ => Or.inl o, Or.inr (Or.inl o)⟩
  · obtain ⟨b, hb⟩ := rel.rsame rs ho.resp
    rcases q with ⟨_, he, _⟩ | ⟨hd, q⟩
    · cases he
    cases hd
    rcases q with ⟨hl, ⟨_, e⟩ | e⟩ | ⟨n, hn, hn0, hm, e⟩ | ⟨l, _, _, e⟩ | ⟨l, _, e⟩ <;> subst e
    · rw [hb] at h1
      cases h1
      exact ⟨fun hn => (by cases ho.fp.symm.trans hn), Or.inl hch⟩
    · obtain ⟨b', hb'⟩ := closeFp_at hb
      rw [hb'] at h1
      cases h1
      exact ⟨fun _ => Or.inr (Or.inl (not_delim hch hl)), Or.inl hch⟩
    · obtain ⟨b', hb'⟩ := closeFp_at hb
      rw [hb'] at h1
      cases h1
      exact ⟨fun _ => Or.inr (Or.inr ⟨n, hn, hn0, hm⟩), Or.inl hch⟩
    · rw [setResp_at _ hb] at h1
      cases h1
      exact ⟨fun hn => (by cases ho.fp.symm.trans hn), Or.inl hch⟩
    · obtain ⟨b', hb'⟩ := closeFp_at (setResp_at (fun x => { x with length := some 0 }) hb)
      rw [hb'] at h1
      cases h1
      exact ⟨fun _ => Or.inl ((done_plain (by exact hch)).mpr rfl), Or.inl hch⟩

theorem noOwner_of_not_delim {s : State} {r : Nat} {rs : Resp} (h : LinkX L X s)
    (hrs : s.resps[r]? = some rs) (hl : ¬ Delim rs) : NoOwner L s r := by
  intro c cn h1 h2
  cases hs : cn.sock with
  | none => exact Or.inl rfl
  | some k => exact absurd (h.pend c cn k r rs h1 hs h2 hrs).delim hl

theorem rawRead_link {s s' : State} {r : Nat} {X : List Cell} {amt : Option Nat}
    {out : DataOut} (p : ProvAt A s r X) (h : Link L s) (hr : rawRead s r amt = (s', out)) : Link L s' := by
  rw [rawRead_eq] at hr
  generalize hm : rawMid r amt (httpRead s r amt).1 (httpRead s r amt).2 = res at hr
  obtain ⟨s2, o2⟩ := res
  -- while `http.client` reads, `r` is the response in progress (`X = some r`); what comes out may be left (`Leaving`)
  have mid : s2.conns = s.conns ∧ Leaving L r s2 o2 := by
    cases hc : respFpClosed s r with
    | true =>
      rw [httpRead_closed amt hc] at hm
      rcases rawMid_spec r amt s (.data []) with ⟨e, _⟩ | ⟨_, _, e | ⟨e, _⟩⟩ <;> rw [hm] at e <;> cases e
      · exact ⟨rfl, Or.inl h⟩
      all_goals
        rw [closeFp_of_closed hc]
        exact ⟨rfl, Or.inl h⟩
    | false =>
      obtain ⟨rs, k, ho⟩ := respFpClosed_false hc
      have hx := httpRead_frame (linkx_rframe L r) s amt
        (linkx_enter h (.of ho))
      have hc1 := (httpRead_frame (keepCH_frame r) s amt).1
      generalize hh : httpRead s r amt = res at hm hx hc1
      obtain ⟨s1, o1⟩ := res
      rcases rawMid_spec r amt s1 o1 with ⟨e, hne⟩ | ⟨ho, ⟨n, hn, hn0⟩, q⟩
      · rw [hm] at e
        cases e
        refine ⟨hc1, Or.inr ⟨hx, fun d hd rs2 hrs2 => ?_⟩⟩
        cases hd
        cases hfp : rs2.fp with
        | some k' => exact Or.inl nofun
        | none =>
          rcases (httpRead_done p.prov ho hh rs2 hrs2).1 hfp with o | o | ⟨n, hn, hn0, hd⟩
          · exact Or.inr (Or.inl o)
          · exact Or.inr (Or.inr (noOwner_of_not_delim hx hrs2 o))
          · exact absurd (by rw [hd]) (hne n hn hn0)
      · subst ho
        have h2 : LinkX L (some r) (closeFp s1 r) := closeFp_linkx hx (Or.inl rfl)
        have hc2 : (closeFp s1 r).conns = s.conns := (closeFp_fields s1 r).1.trans hc1
        rcases q with q | ⟨q, hlen⟩ <;> rw [hm] at q <;> cases q
        · exact ⟨hc2, Or.inr ⟨h2, nofun⟩⟩
        refine ⟨hc2, Or.inr ⟨h2, fun d hd rs2 hrs2 => Or.inr ?_⟩⟩
        obtain ⟨rs1, hrs1, e⟩ := closeFp_back hrs2
        rcases (httpRead_done p.prov ho hh rs1 hrs1).2 with hch | o | o
        · have hch2 : rs2.chunked = false := by rw [e]; exact hch
          rcases hlen rs2 hrs2 with hl | hl
          · exact Or.inr (noOwner_of_not_delim h2 hrs2 (not_delim hch2 hl))
          · exact Or.inl ((done_plain hch2).mpr hl)
        · exact Or.inl (e ▸ o)
        · exact absurd rfl (o n hn hn0)
  have := catcherExit_link (sockInj_conns mid.1 p.prov.sockInj) mid.2
  rw [hr] at this
  exact this

theorem readAmt_link {r n : Nat} :
    ∀ (fuel : Nat) (s s' : State) (X acc : List Cell) (out : DataOut),
    ProvAt A s r X → Link L s → readAmt fuel s r n acc = (s', out) → Link L s' := by
  intro fuel
  induction fuel with
  | zero =>
    intro s s' X acc out p h hr
    cases hr
    exact h
  | succ fuel ih =>
    intro s s' X acc out p h hr
    unfold readAmt at hr
    generalize hrr : rawRead s r (some n) = res at hr
    obtain ⟨s1, o⟩ := res
    have h1 := rawRead_link p h hrr
    cases o with
    | exc e => cases hr; exact h1
    | data d =>
      dsimp only at hr
      split at hr
      · cases hr
        exact h1
      · exact ih s1 s' (X ++ d) (acc ++ d) out ((rawRead_post p hrr).1 d rfl) h1 hr

theorem respRead_link {s s' : State} {r : Nat} {amt : Option Nat} {out : DataOut}
    (p : Prov A s) (h : Link L s) (hr : respRead s r amt = (s', out)) : Link L s' := by
  have pf := p.at r
  have fin : ∀ s1 o, Link L s1 → (match (s1, o) with
      | (s, DataOut.data d) => (deliver s r d, DataOut.data d)
      | (s, DataOut.exc e) => (s, DataOut.exc e)) = (s', out) → Link L s' := by
    intro s1 o h1 e
    cases o <;> cases e
    · exact deliver_linkx r _ h1
    · exact h1
  unfold respRead at hr
  cases amt with
  | none => exact fin _ _ (rawRead_link pf h rfl) hr
  | some n => exact fin _ _ (readAmt_link (n + 1) s _ _ [] _ pf h rfl) hr

theorem drainConn_link {s : State} {r : Nat} (p : Prov A s) (h : Link L s) :
    Link L (drainConn s r).1 := by
  rw [drainConn_fst]
  rcases hrr : rawRead s r none with ⟨s1, o⟩
  exact rawRead_link (p.at r) h hrr

theorem updateChunkLength_link {s s' : State} {r k : Nat} {oe : Option Exc}
    (h : LinkX L (some r) s) (si : SockInj s) (hrd : ChunkedOn r k s) (hu : updateChunkLength s r k = (s', oe)) :
    SockInj s' ∧ (oe = none → LinkX L (some r) s' ∧ ChunkedOn r k s') ∧
    (∀ e, oe = some e → Link L s' ∨ LinkX L (some r) s') := by
  obtain ⟨⟨s1, d1, e⟩, hok⟩ := updateChunkLength_spec hu
  have h1 := dirty_linkx h d1 hrd.openK
  have si1 : SockInj s1 := sockInj_conns d1.conns si
  rcases e with rfl | ⟨hne, rfl⟩
  · exact ⟨si1, fun he => ⟨h1, let ⟨_, relp, _⟩ := hok he; hrd.relP relp⟩, fun _ _ => Or.inr h1⟩
  · exact ⟨(safe_pooling.respClose s1 r).sockInj si1, fun he => absurd he hne, fun _ _ => Or.inl (respClose_exempt h1 si1)⟩

theorem chunkLoop_link {r k amt : Nat} : ∀ (fuel : Nat) (s s' : State) (acc : List Cell) (out : DataOut),
    LinkX L (some r) s → SockInj s → ChunkedOn r k s → chunkLoop fuel s r k amt acc = (s', out) →
    SockInj s' ∧ (∀ d, out = .data d → LinkX L (some r) s' ∧ ChunkedOn r k s') ∧
    (∀ e, out = .exc e → Link L s' ∨ LinkX L (some r) s') := by
  intro fuel
  induction fuel with
  | zero =>
    intro s s' acc out h si hrd hl
    cases hl
    exact ⟨si, nofun, fun _ _ => Or.inr h⟩
  | succ fuel ih =>
    intro s s' acc out h si hrd hl
    unfold chunkLoop at hl
    generalize hu : updateChunkLength s r k = res at hl
    obtain ⟨s1, oe⟩ := res
    obtain ⟨si1, q1, q2⟩ := updateChunkLength_link h si hrd hu
    cases oe with
    | some e => cases hl; exact ⟨si1, nofun, fun _ _ => q2 e rfl⟩
    | none =>
      obtain ⟨h1, hrd1⟩ := q1 rfl
      dsimp only at hl
      split at hl
      · cases hl; exact ⟨si1, fun _ _ => ⟨h1, hrd1⟩, nofun⟩
      · have d2 := handleChunk_dirty s1 r k amt
        generalize hh : handleChunk s1 r k amt = res at hl d2
        obtain ⟨s2, o⟩ := res
        have h2 := dirty_linkx h1 d2 hrd1.openK
        have si2 : SockInj s2 := sockInj_conns d2.conns si1
        cases o with
        | exc e => cases hl; exact ⟨si2, nofun, fun _ _ => Or.inr h2⟩
        | data d =>
          obtain ⟨m, relp, _⟩ := (handleChunk_spec hh).2 d rfl
          exact ih (deliver s2 r d) s' _ out (deliver_linkx r d h2) (sockInj_conns rfl si2) ((hrd1.relP relp).deliver d) hl

theorem readChunkedBody_link {s s' : State} {r amt : Nat} {out : DataOut}
    (p : Prov A s) (h : Link L s) (hc : respChunked s r = true) (hb : readChunkedBody s r amt = (s', out)) :
    SockInj s' ∧ Leaving L r s' out := by
  have si : SockInj s := p.sockInj
  unfold readChunkedBody at hb
  split at hb
  · cases hb; exact ⟨si, Or.inl h⟩
  · rename_i rs hrs
    have hch : rs.chunked = true := by simpa [respChunked, hrs] using hc
    split at hb
    · rename_i hhead
      cases hb
      refine ⟨sockInj_conns (closeFp_fields s r).1 si, Or.inl (closeFp_linkx h (Or.inr fun rs2 hrs2 => ?_))⟩
      rw [hrs] at hrs2
      cases hrs2
      cases hfp : rs.fp with
      | none => exact Or.inl rfl
      | some k => exact Or.inr (Or.inl (head_done (p.at r).prov ⟨hrs, hfp⟩ hhead))
    · rename_i hhead
      split at hb
      · cases hb; exact ⟨si, Or.inl h⟩
      · rename_i k hk
        dsimp only at hb
        generalize inboundLen s k + rs.buf.length + 2 = fuel at hb
        have hrd : ChunkedOn r k s := fun rs' h' => by rw [hrs] at h'; cases h'; exact ⟨hk, hch, by simpa using hhead⟩
        have hx : LinkX L (some r) s := linkx_enter h hrd.openK
        generalize hcl : chunkLoop fuel s r k amt [] = res at hb
        obtain ⟨s1, o⟩ := res
        obtain ⟨si1, q1, q2⟩ := chunkLoop_link fuel s s1 [] o hx si hrd hcl
        cases o with
        | exc e => cases hb; exact ⟨si1, (q2 e rfl).imp id fun g => ⟨g, nofun⟩⟩
        | data d =>
          obtain ⟨h1, hrd1⟩ := q1 d rfl
          dsimp only at hb
          rw [skipTrailers_eq] at hb
          generalize hst : hcDiscardTrailer fuel s1 r k = res2 at hb
          obtain ⟨s2, oe⟩ := res2
          obtain ⟨dd, post, _⟩ := hcDiscardTrailer_spec r k fuel s1 s2 oe hst
          have h2 := dirty_linkx h1 dd hrd1.openK
          have si2 : SockInj s2 := sockInj_conns dd.conns si1
          cases oe with
          | some e => cases hb; exact ⟨si2, Or.inr ⟨h2, nofun⟩⟩
          | none =>
            cases hb
            refine ⟨sockInj_conns (closeFp_fields s2 r).1 si2, Or.inr ⟨closeFp_linkx h2 (Or.inl rfl), fun _ _ rs3 hrs3 => Or.inr (Or.inl ?_)⟩⟩
            -- the trailer loop has seen the end of the message, or EOF
            obtain ⟨x2, hx2, e⟩ := closeFp_back hrs3
            rw [e]
            exact hrd1.done (rs' := x2) dd hx2 ((post rfl x2 hx2).imp id fun g => g.1)

theorem readChunked_link {s : State} {r amt : Nat}
    (p : Prov A s) (h : Link L s) (hc : respChunked s r = true) : Link L (readChunked s r amt).1 := by
  unfold readChunked
  generalize hb : readChunkedBody s r amt = res
  obtain ⟨s1, o⟩ := res
  obtain ⟨si1, q⟩ := readChunkedBody_link p h hc hb
  exact catcherExit_link si1 q

/-- the caller behaviours that do not release a connection whose response is unread -/
def NoEarlyHow : How → Bool
  | .release => false
  | .readKRelease _ => false
  | _ => true

theorem dispose_link {s : State} (rid : Nat) (how : How)
    (hn : NoEarlyHow how = true) (p : Prov A s) (h : Link L s) : Link L (dispose s rid how).1 :=
  (dispose_closure (keeps_pre fun s => Prov A s ∧ Link L s) rid how
    (fun _ _ _ q => ⟨respRead_prov q.1 rfl, respRead_link q.1 q.2 rfl⟩)
    (fun _ _ q => ⟨drainConn_prov q.1, drainConn_link q.1 q.2⟩)
    (fun s r q => ⟨(safe_pooling.respClose s r).prov q.1, respClose_link q.2 q.1.sockInj⟩)
    (fun _ _ _ hc q => ⟨readChunked_prov q.1 hc, readChunked_link q.1 q.2 hc⟩)
    (fun hr => by rcases hr with rfl | ⟨_, rfl⟩ <;> cases hn) s ⟨p, h⟩).2

theorem closePool_link {s : State} (h : Link L s) (si : SockInj s) : Link L (closePool s) :=
  (closePool_closure (keeps_pre fun s => Link L s ∧ SockInj s) (fun _ q => ⟨linkx_log q.1 rfl rfl, sockInj_conns rfl q.2⟩)
    (fun s c q => ⟨connClose_linkx c q.1 (Or.inl q.2), (safe_pooling.connClose s c).sockInj q.2⟩) s ⟨h, si⟩).1

/-- a successful `read()` on an open response that has no `_pool` yet (the preload read inside `_make_request`) does
not touch any connection, and leaves the response closed and read to its end (or not delimited) -/
theorem respRead_nopool {s s' : State} {r k : Nat} {rs : Resp} {d : List Cell} (p : Prov A s)
    (hrs : s.resps[r]? = some rs) (hk : rs.fp = some k) (hp : rs.hasPool = false) (hr : respRead s r none = (s', .data d)) :
    s'.conns = s.conns ∧ ∀ rs' : Resp, s'.resps[r]? = some rs' → rs'.fp = none ∧ (Done rs' ∨ ¬ Delim rs') := by
  unfold respRead at hr
  dsimp only at hr
  rw [rawRead_eq] at hr
  have k1 := httpRead_frame (keepCH_frame r) s none
  generalize hh : httpRead s r none = res at hr k1
  obtain ⟨s1, o1⟩ := res
  rw [show rawMid r none s1 o1 = (s1, o1) by cases o1 <;> rfl] at hr
  -- `_error_catcher` has nothing to release
  have e : errorCatcherExit s1 r true = (s1, none) := by
    rw [errorCatcherExit_true]
    split
    · rcases releaseConn_cases s1 r with ⟨q, _⟩ | ⟨rs1, _, hrs1, hp1, _⟩
      · exact q
      · obtain ⟨rs0, g1, g2⟩ := k1.2 rs1 hrs1
        rw [hrs] at g1
        cases g1
        rw [g2, hp] at hp1
        cases hp1
    · rfl
  unfold catcherExit at hr
  cases o1 with
  | exc e' =>
    dsimp only at hr
    generalize errorCatcherExit s1 r false = q at hr
    obtain ⟨s3, oe⟩ := q
    cases oe <;> cases hr
  | data d1 =>
    dsimp only at hr
    rw [e] at hr
    cases hr
    refine ⟨k1.1, fun rs' hrs' => ?_⟩
    obtain ⟨x, hx, rfl⟩ := modify_some hrs'
    rw [if_pos rfl]
    have pf := (p.at r).prov
    have hfp : x.fp = none := (respFpClosed_iff s1 r).mp (httpRead_none_closed hh) x hx
    exact ⟨hfp, ((httpRead_done pf ⟨hrs, hk⟩ hh x hx).1 hfp).imp id fun o => o.resolve_right fun ⟨n, hn, _⟩ => by cases hn⟩

theorem linkx_weaken {s : State} (h : LinkX none X s) : LinkX L X s :=
  ⟨h.nosock, h.bound, fun c cn k r rs h1 h2 h3 h4 =>
    let ⟨q1, q2, q3⟩ := h.pend c cn k r rs h1 h2 h3 h4
    ⟨q1, q2, fun _ => q3 nofun⟩⟩

theorem newConn_linkx {s : State} (h : LinkX L X s) : LinkX L X (newConn s).1 := by
  refine linkx_frame h (fun c cn' h1 => ?_) (fun _ _ => rfl)
  rcases append_one_some h1 with h1 | ⟨_, rfl⟩
  · exact Or.inr (Or.inl ⟨cn', h1, rfl, rfl⟩)
  · exact Or.inl rfl

theorem getConn_link {s : State} (h : LinkX L X s) (si : SockInj s) : LinkX L X (getConn s).1 := by
  unfold getConn
  split
  · exact h
  · split
    · split
      · exact h
      · exact newConn_linkx h
    · rename_i item rest _
      have hq : LinkX L X { s with queue := rest } := linkx_log h rfl rfl
      cases item with
      | none => exact newConn_linkx hq
      | some c =>
        simp only
        split
        · exact connClose_linkx c hq (Or.inl (sockInj_conns rfl si))
        · exact hq

theorem link_unlease {c : Nat} {s : State} (h : Link (some c) s)
    (hc : ∀ cn : Conn, s.conns[c]? = some cn → cn.sock = none ∨ cn.pending = none) : Link none s := by
  refine ⟨h.nosock, h.bound, fun c' cn k r rs h1 h2 h3 h4 => ?_⟩
  obtain ⟨q1, q2, q3⟩ := h.pend c' cn k r rs h1 h2 h3 h4
  refine ⟨q1, q2, fun _ => q3 fun e => ?_⟩
  cases e
  rcases hc cn h1 with e | e
  · rw [h2] at e
    cases e
  · rw [h3] at e
    cases e

/-- the `finally` clause after an unclean exit closes the connection: the end of a lease, if there still is one -/
theorem discard_link {c : Nat} {s : State} (h : Link none s ∨ (Link (some c) s ∧ SockInj s)) :
    Link none (discard s (some c)).1 := by
  refine putConn_linkx none ?_ (Or.inl rfl)
  rcases h with h | ⟨h, si⟩
  · exact connClose_linkx c h (Or.inr ⟨rfl, rfl⟩)
  · exact link_unlease (connClose_linkx c h (Or.inl si)) fun _ hcn => Or.inl (connClose_sock_none _ _ _ hcn)

theorem connect_linkx {s : State} {c : Nat} {cn : Conn} (a : Attempt) (h : LinkX L X s)
    (hc : s.conns[c]? = some cn) (hs : cn.sock = none) : LinkX L X (connect s c a).1 := by
  unfold connect
  cases a.connect <;> dsimp only
  · refine setConn_linkx c _ (linkx_log h rfl rfl) (fun x hx => Or.inl ?_)
    have hx : s.conns[c]? = some x := hx
    rw [hc] at hx
    cases hx
    exact h.nosock c cn hc hs
  · exact linkx_log h rfl rfl
  · exact linkx_log h rfl rfl
  · exact h
  · exact linkx_log h rfl rfl

theorem connRequestH_linkx {s : State} (c rid : Nat) (a : Attempt) (bad : Bool) (h : LinkX L X s) :
    LinkX L X (connRequestH s c rid a bad).1 := by
  have hF := forget_linkx c h
  cases bad with
  | true =>
    show LinkX L X (connReject s c).1
    unfold connReject
    generalize forgetClosedPending s c = sF at hF
    dsimp only
    split
    · exact hF
    · split
      · exact hF
      · exact setConn_linkx c _ hF (fun _ _ => Or.inr ⟨rfl, rfl⟩)
  | false =>
    show LinkX L X (connRequest s c rid a).1
    unfold connRequest
    generalize forgetClosedPending s c = sF at hF
    dsimp only
    split
    · exact hF
    · rename_i cn hcn
      split
      · exact hF
      · have h1 : LinkX L X (setConn sF c fun x => { x with http := .reqSent }) :=
          setConn_linkx c _ hF (fun _ _ => Or.inr ⟨rfl, rfl⟩)
        have hc1 : (setConn sF c fun x => { x with http := .reqSent }).conns[c]? = some { cn with http := .reqSent } :=
          modify_at _ hcn
        generalize (setConn sF c fun x => { x with http := .reqSent }) = s1 at h1 hc1
        cases hsock : cn.sock with
        | some k =>
          dsimp only
          cases sendExc a.send with
          | some e => exact h1
          | none => exact linkx_log h1 rfl rfl
        | none =>
          dsimp only
          have h2 := connect_linkx a h1 hc1 hsock
          generalize connect s1 c a = res at h2
          obtain ⟨s2, ek⟩ := res
          cases ek with
          | error e => exact h2
          | ok k =>
            dsimp only
            cases sendExc a.send with
            | some e => exact h2
            | none => exact linkx_log h2 rfl rfl

/-- the state during `getresponse()`, relative to the state `s0` at its start (`HP`): only the leased
connection and the new response differ, so `Link` carries over if the leased connection has no `__response`, or
the new response, delimited and reading from the connection's socket -/
theorem hp_linkx {s0 s : State} {k c : Nat} {rn : Resp} {cn' : Conn} (hp : HP k c s0 s rn cn') (h : LinkX L X s0)
    (hc : cn'.pending = none ∨ (L = some c ∧ cn'.sock = some k ∧ cn'.pending = some s0.resps.length ∧
      Delim rn ∧ ∀ k', rn.fp = some k' ∨ rn.eofAt = some k' → k' = k)) :
    LinkX L X s := by
  refine linkx_frame h (fun c' cn2 h1 => ?_) hp.rold
  by_cases hcc : c' = c
  · subst hcc
    cases hp.conn.symm.trans h1
    exact hc.imp id fun e => Or.inr ⟨e.1, k, _, e.2.1, e.2.2.1, by rw [hp.rlen]; exact Nat.lt_succ_self _,
      fun rs g => by cases hp.resp.symm.trans g; exact e.2.2.2⟩
  · exact Or.inr (Or.inl ⟨cn2, hp.cother c' hcc ▸ h1, rfl, rfl⟩)

/-- what `_make_request` knows about the response `getresponse()` returned on the leased connection `c` -/
structure NewResp (s' : State) (c r : Nat) (preload : Bool) : Prop where
  conn : ∀ cn' : Conn, s'.conns[c]? = some cn' → cn'.pending = none ∨ cn'.pending = some r
  resp : ∀ rs' : Resp, s'.resps[r]? = some rs' →
    (preload = true → rs'.fp = none ∧ (Done rs' ∨ ¬ Delim rs')) ∧
    (preload = false → rs'.fp ≠ none ∧ ∀ (c2 : Nat) (cn2 : Conn), s'.conns[c2]? = some cn2 → cn2.pending = some r → c2 = c)

theorem GetResp.link {sF t : State} {c k rid : Nat} {isHead : Bool} {o : RespOut} (g : GetResp sF c k rid isHead t o)
    (hF : Link none sF) (hk : ∀ cn : Conn, sF.conns[c]? = some cn → cn.sock = some k) :
    match (generalizing := false) o with
    | .exc _ => Link none t
    | .resp r => Link (some c) t ∧ NewResp t c r false ∧ ∃ rs : Resp, t.resps[r]? = some rs ∧ rs.fp = some k ∧ rs.hasPool = false := by
  rcases g.hp with ⟨rfl, e, rfl⟩ | ⟨cn, cn', rn, hcn, hpend, hp, q⟩
  · exact hF
  cases o with
  | exc e => exact hp_linkx hp hF (.inl q.2.1)
  | resp r =>
    obtain ⟨rfl, hd, ⟨b, rfl⟩, hct, -⟩ := q
    refine ⟨hp_linkx hp (linkx_weaken hF) (hct.imp And.right fun e => ⟨rfl, e.2.1.trans (hk cn hcn), e.2.2, ?_,
        fun k' hk' => by rcases hk' with e | e <;> cases e; rfl⟩),
      ⟨fun cn2 g => by cases hp.conn.symm.trans g; exact hct.imp And.right fun e => e.2.2,
        fun rs' g => ⟨nofun, fun _ => ⟨?_, fun c2 cn2 g1 g2 => ?_⟩⟩⟩,
      _, hp.resp, rfl, rfl⟩
    · cases hl : initLength hd isHead with
      | none =>
        rw [hl] at e
        simp at e
        exact .inr e.1.2
      | some l => exact .inl rfl
    · cases hp.resp.symm.trans g
      nofun
    · -- nobody else has the new response as `__response`
      apply Classical.byContradiction
      intro hcc
      rw [hp.cother c2 hcc] at g1
      exact absurd (hF.bound c2 cn2 _ g1 g2) (Nat.lt_irrefl _)

theorem getResponse_link {s s' : State} {c k rid : Nat} {rc : ReqCfg} {a : Attempt} {out : RespOut}
    (p : Prov A s) (h : Link none s) (w : Awaits s c k rid a) (hA : A rid a) (hgr : getResponse s c k rid rc = (s', out)) :
    (∀ r, out = .resp r → Link (some c) s' ∧ NewResp s' c r rc.preload) ∧
    (∀ e, out = .exc e → Link none s' ∨ (Link (some c) s' ∧
      ∀ u rt m, handleError u rt m (translateRecv e).cls ≠ .noCleanup)) := by
  obtain ⟨s5, o5, g, e⟩ := getResponse_cases s c k rid rc
  have p5 := g.prov ((forget_safe p c).prov p) w.forget hA
  have n5 := g.link (forget_linkx c h) fun _ => w.forget.sock
  rw [hgr] at e
  cases o5 with
  | exc e' => cases e; exact ⟨nofun, fun _ _ => Or.inl n5⟩
  | resp r =>
    obtain ⟨l5, nr, rs5, hr5, hfp5, hpool5⟩ := n5
    dsimp only at e
    cases hpre : rc.preload with
    | false =>
      simp only [hpre, Bool.false_eq_true, if_false] at e
      cases e
      exact ⟨fun r' hr' => by cases hr'; exact ⟨l5, nr⟩, nofun⟩
    | true =>
      simp only [hpre, if_true] at e
      generalize hrr : respRead s5 r none = res at e
      obtain ⟨s6, o6⟩ := res
      have l6 := respRead_link p5 l5 hrr
      cases o6 <;> cases e
      · obtain ⟨hcon, post⟩ := respRead_nopool p5 hr5 hfp5 hpool5 hrr
        exact ⟨fun r' hr' => by cases hr'; exact ⟨l6, by rw [hcon]; exact nr.conn, fun rs6 hr6 => ⟨fun _ => post rs6 hr6, nofun⟩⟩, nofun⟩
      · exact ⟨nofun, fun e' he' => by cases he'; exact Or.inr ⟨l6, rawRead_not_noCleanup (respRead_none_exc hrr)⟩⟩

/-- `response._connection = response_conn; response._pool = self` ends the lease -/
theorem attach_link {s : State} {c r : Nat} {preload : Bool} {v : Option Nat} (h : Link (some c) s)
    (n : NewResp s c r preload) (hv : preload = true ∨ v = some c) :
    Link none (setResp s r fun x => { x with conn := v, hasPool := true }) := by
  refine ⟨h.nosock, by simpa [setResp] using h.bound, fun c2 cn2 k2 r2 rs2 h1 h2 h3 h4 => ?_⟩
  have h1 : s.conns[c2]? = some cn2 := h1
  obtain ⟨x, hx, rfl⟩ := modify_some h4
  obtain ⟨q1, q2, q3⟩ := h.pend c2 cn2 k2 r2 x h1 h2 h3 hx
  simp only [reduceCtorEq, if_false] at q3 ⊢
  by_cases hrr : r = r2
  · subst hrr
    rw [if_pos rfl]
    obtain ⟨np, nn⟩ := n.resp x hx
    refine ⟨q1, q2, fun _ => ?_⟩
    cases preload with
    | true => exact ⟨fun _ => (np rfl).2.resolve_right fun o => o q1, fun hne => absurd (np rfl).1 hne⟩
    | false =>
      -- only the leased connection has the new response as `__response`; the response holds it from now on
      cases (nn rfl).2 c2 cn2 h1 h3
      exact ⟨fun hn => absurd hn (nn rfl).1, fun _ => by rw [hv.resolve_left nofun]⟩
  · rw [if_neg hrr]
    refine ⟨q1, q2, fun _ => q3 fun e => ?_⟩
    cases e
    rcases n.conn cn2 h1 with e | e <;> rw [h3] at e <;> cases e
    exact hrr rfl

/-- `getresponse()` on the connection the request went out on, and the end of the lease -/
theorem makeTail_link {s s' : State} {c k rid : Nat} {a : Attempt} {rc : ReqCfg}
    {out : RespOut} (p : Prov A s) (h : Link none s) (hA : A rid a) (hne : rc.release = false ∨ rc.preload = true)
    (w : Awaits s c k rid a) (ht : makeTail s c rid rc (.ok k) = (s', out)) :
    Link none s' ∨ ∃ e, out = .exc e ∧ Link (some c) s' ∧ SockInj s' ∧ ∀ u rt m, handleError u rt m e.cls ≠ .noCleanup := by
  unfold makeTail at ht
  dsimp only at ht
  generalize hgr : getResponse s c k rid rc = res at ht
  obtain ⟨s2, o⟩ := res
  obtain ⟨n2, e2⟩ := getResponse_link p h w hA hgr
  have p2 := getResponse_prov p w hA hgr
  cases o with
  | exc e =>
    cases ht
    exact (e2 e rfl).imp id fun q => ⟨_, rfl, q.1, p2.sockInj, q.2⟩
  | resp r =>
    dsimp only at ht
    obtain ⟨l2, nr⟩ := n2 r rfl
    unfold attachResp at ht
    generalize ht3 : (setResp s2 r fun x => { x with conn := if rc.release then none else some c, hasPool := true }) = t at ht
    have l3 : Link none t := by rw [← ht3]; exact attach_link l2 nr (hne.symm.imp id fun e => by simp [e])
    have si3 : SockInj t := sockInj_conns (by rw [← ht3]; rfl) p2.sockInj
    dsimp only at ht
    split at ht
    · rename_i hcond
      have l4 := releaseConn_linkx l3 si3 (by simpa using (Bool.and_eq_true_iff.mp hcond).2) nofun
      generalize releaseConn t r = q at ht l4
      obtain ⟨t2, o2⟩ := q
      cases o2 <;> cases ht <;> exact Or.inl l4
    · cases ht
      exact Or.inl l3

theorem makeRequest_link {s s' : State} {c rid : Nat} {a : Attempt} {rc : ReqCfg} {out : RespOut}
    (p : Prov A s) (hl : Lease s c) (hA : A rid a) (h : Link none s) (hne : rc.release = false ∨ rc.preload = true)
    (hm : makeRequest s c rid a rc = (s', out)) :
    Link none s' ∨ ∃ e, out = .exc e ∧ Link (some c) s' ∧ SockInj s' ∧ ∀ u rt m, handleError u rt m e.cls ≠ .noCleanup := by
  rw [makeRequest_eq] at hm
  have hcl := connRequestH_linkx c rid a rc.badHeader h
  generalize hcr : connRequestH s c rid a rc.badHeader = res at hm hcl
  obtain ⟨s1, ek⟩ := res
  rcases connRequestH_next p hl hcr with ⟨p1, ⟨e, he⟩ | ⟨k, hk, w⟩⟩ | ⟨k, cn, rfl, hst, hc, hp, _⟩
  · rw [he] at hm
    cases hm
    exact Or.inl hcl
  · rw [hk] at hm
    exact makeTail_link p1 hcl hA hne w hm
  · -- the connection still has an unread `__response`: `ResponseNotReady`
    unfold sendFix makeTail at hm
    dsimp only at hm
    rw [getResponse_notReady hst hc hp] at hm
    cases hm
    exact Or.inl hcl

/-- the requests that do not hand a connection back while its response is unread:
`release_conn=True` only together with `preload_content=True` -/
def NoEarlyCfg (rc : ReqCfg) : Prop := rc.release = false ∨ rc.preload = true

theorem request_link (rid : Nat) : ∀ (script : List Attempt) (s : State) (rc : ReqCfg) (retries : Retry),
    Prov A s → Link none s → (∀ a ∈ script, A rid a) → NoEarlyCfg rc → Link none (request s rid rc retries script).1 := by
  intro script
  induction script with
  | nil => intro s rc retries p h _ _; exact h
  | cons a rest ih =>
    intro s rc retries p h hA hne
    have again : ∀ (t : State) (rc' : ReqCfg) (rt : Retry), Prov A t → Link none t → NoEarlyCfg rc' →
        Link none (request t rid rc' rt rest).1 :=
      fun t rc' rt pt lt => ih t rc' rt pt lt fun a' h => hA a' (List.mem_cons_of_mem _ h)
    cases hpf : preflight rc a with
    | some e => rw [request_early (.inl hpf)]; exact h
    | none =>
    rcases hg : getConnT s rc.badPoolTimeout with ⟨s1, e | c⟩
    · rw [request_early (.inr ⟨hpf, _, hg⟩)]; exact h
    have hg' := getConnT_ok hg
    have p1 := fst_of_eq (P := (Prov A ·)) hg' ((safe_pooling.getConn s).prov p)
    have l1 := fst_of_eq (P := (Link none ·)) hg' (getConn_link h p.sockInj)
    rcases hm : makeRequest s1 c rid a rc with ⟨s2, r | e⟩
    all_goals
      obtain ⟨okr, oke⟩ := makeRequest_spec p1 (getConn_lease hg') (hA a (List.mem_cons_self ..)) hm
      have lk := makeRequest_link p1 (getConn_lease hg') (hA a (List.mem_cons_self ..)) l1 hne hm
    · -- clean exit; `finally`: the connection goes back if `release_conn`
      have l2 : Link none s2 := lk.resolve_right fun ⟨_, he, _⟩ => nomatch he
      obtain ⟨pp, lp⟩ : Prov A (putBack rc c s2).1 ∧ Link none (putBack rc c s2).1 := by
        unfold putBack
        split
        · exact ⟨(safe_pooling.putConn s2 (some c)).prov (okr r rfl), putConn_linkx (some c) l2 (Or.inr (okr r rfl).sockInj)⟩
        · exact ⟨okr r rfl, l2⟩
      have pd := drainConn_prov (r := r) pp
      have ld := drainConn_link (r := r) pp lp
      exact request_clean (Q := fun x => Link none x.1) hpf hg hm (fun _ _ => lp)
        (setResp_linkx r _ lp (fun _ => rfl) (fun _ _ d => d) (fun _ _ => Or.inl id) (fun _ _ => Or.inl rfl)) (fun _ _ => ld)
        fun _ _ hr => again _ _ _ pd ld (by rcases hr with rfl | rfl <;> exact hne)
    · -- unclean exit; `finally`: the connection is closed and a `None` takes its slot
      have pp := discard_some_prov (oke e rfl).1
      have pd : Link none (discard s2 (some c)).1 := discard_link (lk.imp id fun ⟨_, _, q⟩ => ⟨q.1, q.2.1⟩)
      exact request_unclean (Q := fun x => Link none x.1) hpf hg hm
        (fun hh => lk.resolve_right fun ⟨_, he, q⟩ => by cases he; exact q.2.2 _ _ _ hh) (fun _ _ => pd)
        fun _ _ => again _ _ _ pp pd hne

/-- histories without early release -/
def NoEarlyOp : Op → Prop
  | .request _ rc _ _ => NoEarlyCfg rc
  | .dispose _ how => NoEarlyHow how = true
  | .closePool => True

theorem step_link {s : State} (op : Op) (p : Prov A s) (h : Link none s)
    (hA : ∀ rid rc rt script, op = .request rid rc rt script → ∀ a ∈ script, A rid a) (hn : NoEarlyOp op) :
    Link none (step s op).1 := by
  cases op with
  | request rid rc rt script => exact request_link rid script s rc rt p h (hA rid rc rt script rfl) hn
  | dispose rid how => exact dispose_link rid how hn p h
  | closePool => exact closePool_link h p.sockInj

theorem init_link (n : Nat) (b pr : Bool) : Link none (init n b pr) := by
  refine ⟨?_, ?_, ?_⟩ <;> simp [init]

theorem run_link_gen (ops : List Op) (s : State) (p : Prov A s) (h : Link none s)
    (hA : ∀ op ∈ ops, ∀ rid rc rt script, op = Op.request rid rc rt script → ∀ a ∈ script, A rid a)
    (hn : ∀ op ∈ ops, NoEarlyOp op) : Link none (run s ops) :=
  (run_closure (P := fun s => Prov A s ∧ Link none s) ops s
    (fun op hm _ q => ⟨step_prov op q.1 (hA op hm), step_link op q.1 q.2 (hA op hm) (hn op hm)⟩) ⟨p, h⟩).2

theorem run_link (ops : List Op) (n : Nat) (b pr : Bool) (hn : ∀ op ∈ ops, NoEarlyOp op) :
    Link none (run (init n b pr) ops) := by
  refine run_link_gen (A := Scripted ops) ops _ (init_prov _ n b pr) (init_link n b pr) ?_ hn
  intro op hm rid rc rt script he a ha
  exact ⟨rc, rt, script, he ▸ hm, ha⟩

/-! ### a request rejected between `putrequest()` and `endheaders()` (`ReqCfg.badHeader`) -/

theorem connReject_out (s : State) (c : Nat) : ∃ e, (connReject s c).2 = .error e ∧ sendSwallowed e = false := by
  unfold connReject
  generalize forgetClosedPending s c = t
  dsimp only
  split
  · exact ⟨_, rfl, by decide⟩
  · split
    · exact ⟨_, rfl, by decide⟩
    · exact ⟨_, rfl, by decide⟩

/-- on an idle connection object it is `putheader`'s `ValueError` -/
theorem connReject_idle (s : State) (c : Nat) (cn : Conn) (hc : (forgetClosedPending s c).conns[c]? = some cn)
    (hi : cn.http = .idle) : (connReject s c).2 = .error (exc Gen.cValueError) := by
  unfold connReject
  dsimp only
  rw [hc]
  dsimp only
  rw [hi]
  rfl

theorem makeRequest_rejected_eq (s : State) (c rid : Nat) (a : Attempt) (rc : ReqCfg) (hb : rc.badHeader = true)
    (e : Exc) (he : (connReject s c).2 = .error e) (hsw : sendSwallowed e = false) :
    makeRequest s c rid a rc = ((connReject s c).1, .exc e) := by
  rw [makeRequest_eq, hb]
  have e0 : connRequestH s c rid a true = connReject s c := rfl
  rw [e0, he]
  simp [sendFix, makeTail, hsw]

/-- a `urlopen` call with such a header never returns a response — whatever the script, the retry budget and the
state of the pool (a retried `CannotSendRequest` meets the same header again) -/
theorem request_rejected (rid : Nat) : ∀ (script : List Attempt) (s : State) (rc : ReqCfg) (retries : Retry),
    rc.badHeader = true → ∀ r, (request s rid rc retries script).2 ≠ .resp r := by
  intro script
  induction script with
  | nil => intro s rc retries _ r h; cases h
  | cons a rest ih =>
    intro s rc retries hb r
    cases hpf : preflight rc a with
    | some e => rw [request_early (.inl hpf)]; exact fun h => nomatch h
    | none =>
    rcases hg : getConnT s rc.badPoolTimeout with ⟨s1, e | c⟩
    · rw [request_early (.inr ⟨hpf, _, hg⟩)]; exact fun h => nomatch h
    -- `_make_request` raises, whatever the state
    obtain ⟨e, he, hsw⟩ := connReject_out s1 c
    exact request_unclean (Q := fun x => x.2 ≠ .resp r) hpf hg (makeRequest_rejected_eq s1 c rid a rc hb e he hsw)
      (fun _ h => nomatch h) (fun _ _ h => nomatch h) fun _ _ => ih _ rc.hop _ hb r

end U3.Pool
