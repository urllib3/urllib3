import U3.Model.Multipart
import U3.Lemmas.Str
/-! For C20: the delimiter search on text in which the delimiter is written (`cut_append`), UTF-8 and escaping
facts, and the strict parser run on the encoder's output (`serialize`, `parseParts_spec`, `encodeFields_eq`,
`parseDisposition_spec`). -/
namespace U3.Multipart
open U3

/-- a delimiter whose first element does not recur in it cannot straddle the end of `a`: if it does
not occur inside `a`, its first occurrence in `a ++ d ++ b` is the one written, and `cut` splits there -/
theorem cut_append {d : List Nat} {x : Nat} (hd : d.head? = some x) (hx : x ∉ d.tail) (a b : List Nat)
    (h : ¬ d <:+: a) : cut d (a ++ d ++ b) = some (a, b) := by
  obtain ⟨t, rfl⟩ : ∃ t, d = x :: t := by cases d <;> simp_all
  induction a with
  | nil => simp [cut]
  | cons y a ih =>
    have hnp : (x :: t).isPrefixOf (y :: a ++ (x :: t) ++ b) = false := by
      rw [Bool.eq_false_iff, Ne, List.isPrefixOf_iff_prefix]
      intro hp
      simp only [List.cons_append, List.cons_prefix_cons] at hp
      obtain ⟨rfl, hp⟩ := hp
      have ha : a <+: a ++ (x :: t ++ b) := List.prefix_append _ _
      rw [List.append_assoc] at hp
      by_cases hl : t.length ≤ a.length
      · exact h ((List.cons_prefix_cons.2 ⟨rfl, List.prefix_of_prefix_length_le hp ha hl⟩).isInfix)
      · have : a ++ [x] <+: t :=
          List.prefix_of_prefix_length_le (by simp) hp (by simp; omega)
        exact hx (this.subset (by simp))
    have ih' := ih (fun hi => h (hi.trans (List.suffix_cons y a).isInfix))
    simp only [List.cons_append, List.append_assoc] at hnp ih' ⊢
    simp [cut, hnp, ih']

theorem cut_append_of_not_mem {d : List Nat} {x : Nat} (hd : d.head? = some x) (hx : x ∉ d.tail) (a b : List Nat)
    (h : x ∉ a) : cut d (a ++ d ++ b) = some (a, b) :=
  cut_append hd hx a b fun hi => h (hi.subset (List.mem_of_mem_head? hd))

theorem not_isPrefixOf_of_cut {d s a b : List Nat} (h : cut d s = some (a, b)) (ha : a ≠ []) :
    d.isPrefixOf s = false := by
  cases s with
  | nil => cases d <;> simp_all [cut]
  | cons x xs =>
    cases hp : d.isPrefixOf (x :: xs) with
    | false => rfl
    | true => simp_all [cut]

theorem stripPrefix_append (p s : List Nat) : stripPrefix p (p ++ s) = some s := by
  simp [stripPrefix]

theorem allSome_eq_some {α : Type} (l : List (Option α)) (r : List α) : allSome l = some r ↔ l = r.map some := by
  induction l generalizing r with
  | nil => cases r <;> simp [allSome]
  | cons a t ih => cases a <;> cases h : allSome t <;> cases r <;> simp_all [allSome]

theorem allSome_mem {α β : Type} (f : α → Option β) (l : List α) (r : List β)
    (h : allSome (l.map f) = some r) (y : β) (hy : y ∈ r) : ∃ x ∈ l, f x = some y := by
  have : some y ∈ l.map f := (allSome_eq_some _ _).1 h ▸ List.mem_map_of_mem hy
  simpa using this

/-- what the property needs of the escape table: `"`, CR, LF have an entry and no replacement text
contains one of them -/
def tableSafe (t : List (Nat × Str)) : Bool :=
  t.all (fun p => !p.2.contains 34 && !p.2.contains 13 && !p.2.contains 10) &&
  [10, 13, 34].all (fun k => (t.lookup k).isSome)

/-- Stated through `r` so that `escChar c`, which unfolds to this `match` on the generated table, is an
instance by `rfl` (`escChar_safe`). -/
theorem escChar_safe_of_table (t : List (Nat × Str)) (ht : tableSafe t = true) (c : Nat) :
    ∀ r, (match t.lookup c with | some r => r | none => [c]) = r → 34 ∉ r ∧ 13 ∉ r ∧ 10 ∉ r := by
  simp only [tableSafe, Bool.and_eq_true, List.all_eq_true] at ht
  cases hl : t.lookup c with
  | some r =>
    obtain ⟨l₁, l₂, rfl, -⟩ := List.lookup_eq_some_iff.1 hl
    simpa [and_assoc] using ht.1 (c, r) (by simp)
  | none =>
    rintro r rfl
    have hc : c ∉ [10, 13, 34] := fun hm => absurd (ht.2 c hm) (by simp [hl])
    simp at hc ⊢
    omega

theorem tableSafe_gen : tableSafe Gen.escapeTable = true := by decide

theorem escChar_safe (c : Nat) : 34 ∉ escChar c ∧ 13 ∉ escChar c ∧ 10 ∉ escChar c :=
  escChar_safe_of_table Gen.escapeTable tableSafe_gen c (escChar c) rfl

theorem escape_safe (v : Str) : 34 ∉ escape v ∧ 13 ∉ escape v ∧ 10 ∉ escape v := by
  simp only [escape, List.mem_flatMap, not_exists, not_and]
  exact ⟨fun c _ => (escChar_safe c).1, fun c _ => (escChar_safe c).2.1, fun c _ => (escChar_safe c).2.2⟩

theorem utf8_append (a b : Str) : utf8 (a ++ b) = (utf8 a).bind fun x => (utf8 b).map (x ++ ·) := by
  induction a with
  | nil => cases h : utf8 b <;> simp [utf8, h]
  | cons c t ih =>
    simp only [List.cons_append, utf8, ih]
    cases utf8Char c <;> cases utf8 t <;> cases utf8 b <;> simp

theorem utf8_append_some (a b : Str) (x y : Bytes) (ha : utf8 a = some x) (hb : utf8 b = some y) :
    utf8 (a ++ b) = some (x ++ y) := by
  simp [utf8_append, ha, hb]

theorem utf8_append_inv (a b : Str) (z : Bytes) (h : utf8 (a ++ b) = some z) :
    ∃ x y, utf8 a = some x ∧ utf8 b = some y ∧ z = x ++ y := by
  rw [utf8_append] at h
  cases ha : utf8 a <;> cases hb : utf8 b <;> simp [ha, hb] at h
  exact ⟨_, _, rfl, rfl, h.symm⟩

/-- an ASCII byte in the encoding of a code point is that code point: every byte of a multi-byte
encoding is ≥ 0x80 -/
theorem utf8Char_ascii (c : Nat) (bs : Bytes) (h : utf8Char c = some bs) (x : Nat) (hx : x ∈ bs)
    (hlt : x < 128) : x = c := by
  grind [utf8Char]

theorem utf8_not_mem_ascii {s : Str} {b : Bytes} {x : Nat} (h : utf8 s = some b) (hlt : x < 128) (hx : x ∉ s) :
    x ∉ b := by
  induction s generalizing b with
  | nil => simp_all [utf8]
  | cons c t ih =>
    obtain ⟨bc, bt, hc, ht, rfl⟩ : ∃ bc bt, utf8Char c = some bc ∧ utf8 t = some bt ∧ b = bc ++ bt := by
      cases hc : utf8Char c <;> cases ht : utf8 t <;> simp_all [utf8]
    simp only [List.mem_cons, not_or, List.mem_append] at hx ⊢
    exact ⟨fun h1 => hx.1 (utf8Char_ascii c _ hc x h1 hlt), ih ht hx.2⟩

theorem utf8_ascii (s : Str) (h : ∀ c ∈ s, c < 128) : utf8 s = some s := by
  induction s with
  | nil => rfl
  | cons c t ih => simp_all [utf8, utf8Char]

/-- the wire form of one header line: what `partBytes` writes for each header (`partBytes_eq`) -/
def lineBytes (kv : Bytes × Bytes) : Bytes := kv.1 ++ colonSp ++ kv.2 ++ crlf

theorem partBytes_eq (p : Part) : partBytes p = p.headers.flatMap lineBytes ++ crlf ++ p.data := rfl

theorem renderHeaders_eq (f : RequestField) :
    renderHeaders f = (headerLines f).flatMap (fun kv => headerLine kv ++ crlf) ++ crlf := by
  simp [renderHeaders, joinWith_dropLast, List.flatMap_def, Function.comp_def]

theorem utf8_lines (ls : List (Str × Str)) :
    utf8 (ls.flatMap (fun kv => headerLine kv ++ crlf)) =
      (allSome (ls.map utf8Pair)).map (fun hs => hs.flatMap lineBytes) := by
  induction ls with
  | nil => rfl
  | cons kv t ih =>
    rw [List.flatMap_cons, utf8_append, ih]
    simp only [List.map_cons, allSome, utf8_append, headerLine, utf8Pair, utf8_ascii crlf (by decide),
      utf8_ascii colonSp (by decide)]
    cases utf8 kv.1 <;> cases utf8 kv.2 <;> cases allSome (t.map utf8Pair) <;> simp [lineBytes]

theorem encodeField_eq (b : Bytes) (f : RequestField) :
    encodeField b f = (partOf f).map fun p => dashdash ++ b ++ crlf ++ partBytes p ++ crlf := by
  unfold encodeField partOf
  rw [renderHeaders_eq, utf8_append, utf8_lines, utf8_ascii crlf (by decide)]
  cases allSome ((headerLines f).map utf8Pair) <;> cases dataBytes f.data <;> simp [partBytes_eq]

/-- header lines that the strict parser reads back: no `:` in a name, no CR in a name or a value.
`FieldSafe f` below is `LinesOK (headerLines f)`: the same demand on the lines before UTF-8 encoding. -/
def LinesOK (hs : List (Bytes × Bytes)) : Prop := ∀ kv ∈ hs, 58 ∉ kv.1 ∧ 13 ∉ kv.1 ∧ 13 ∉ kv.2

/-- one header line: it ends at the first CRLF, its name at the first `: ` -/
theorem parseHeaders_line (n : Nat) (k v rest : Bytes) (hk58 : 58 ∉ k) (hk13 : 13 ∉ k) (hv13 : 13 ∉ v) :
    parseHeaders (n + 1) (lineBytes (k, v) ++ rest) =
      (parseHeaders n rest).map fun r => ((k, v) :: r.1, r.2) := by
  have e : lineBytes (k, v) ++ rest = (k ++ colonSp ++ v) ++ crlf ++ rest := by simp [lineBytes]
  have c1 := cut_append_of_not_mem (d := crlf) rfl (by decide) (k ++ colonSp ++ v) rest
    (by simp [colonSp, hk13, hv13])
  have c2 := cut_append_of_not_mem (d := colonSp) rfl (by decide) k v hk58
  rw [e, parseHeaders, not_isPrefixOf_of_cut c1 (by simp [colonSp]), c1]
  simp only [Bool.false_eq_true, if_false, c2]
  cases parseHeaders n rest <;> rfl

theorem parseHeaders_spec (hs : List (Bytes × Bytes)) (data : Bytes)
    (hok : LinesOK hs) (fuel : Nat)
    (hf : (hs.flatMap lineBytes ++ crlf ++ data).length < fuel) :
    parseHeaders fuel (hs.flatMap lineBytes ++ crlf ++ data) = some (hs, data) := by
  obtain ⟨n, rfl⟩ := Nat.exists_eq_add_one.2 (Nat.zero_lt_of_lt hf)
  induction hs generalizing n with
  | nil => simp [parseHeaders, crlf]
  | cons kv t ih =>
    obtain ⟨h58, h13, h13'⟩ := hok kv (by simp)
    have hcrlf : crlf.length = 2 := rfl
    simp only [List.flatMap_cons, lineBytes, List.length_append] at hf ih
    obtain ⟨m, rfl⟩ := Nat.exists_eq_add_one.2 (show 0 < n by omega)
    rw [List.flatMap_cons, List.append_assoc, List.append_assoc, ← List.append_assoc _ crlf,
      parseHeaders_line _ kv.1 kv.2 _ h58 h13 h13', ih (fun kv h => hok kv (by simp [h])) m (by omega)]
    rfl

theorem parsePart_spec (p : Part) (hok : LinesOK p.headers) : parsePart (partBytes p) = some p := by
  rw [parsePart, partBytes_eq, parseHeaders_spec p.headers p.data hok _ (Nat.lt_succ_self _)]
  rfl

/-- the caller-written header text of a field is benign: no `:` in a header name, no CR in a header
name or value (as rendered) -/
def FieldSafe (f : RequestField) : Prop := ∀ kv ∈ headerLines f, 58 ∉ kv.1 ∧ 13 ∉ kv.1 ∧ 13 ∉ kv.2

theorem partOf_linesOK (f : RequestField) (p : Part) (hs : FieldSafe f) (hp : partOf f = some p) :
    LinesOK p.headers := by
  unfold partOf at hp
  cases hl : allSome ((headerLines f).map utf8Pair) <;> cases hd : dataBytes f.data <;>
    simp [hl, hd] at hp
  subst hp
  intro kv hkv
  obtain ⟨kv0, hmem, hu⟩ := allSome_mem utf8Pair _ _ hl kv hkv
  obtain ⟨h58, h13, h13'⟩ := hs kv0 hmem
  unfold utf8Pair at hu
  cases hk : utf8 kv0.1 <;> cases hv : utf8 kv0.2 <;> simp [hk, hv] at hu
  subst hu
  exact ⟨utf8_not_mem_ascii hk (by omega) h58, utf8_not_mem_ascii hk (by omega) h13,
    utf8_not_mem_ascii hv (by omega) h13'⟩

/-- `CRLF--boundary`: the delimiter `parseMultipart` looks for between and after the parts -/
def delim (b : Bytes) : Bytes := crlf ++ dashdash ++ b

/-- what follows the first dash-boundary in the wire form of a list of parts -/
def serTail (b : Bytes) : List Part → Bytes
  | [] => dashdash ++ crlf
  | p :: t => crlf ++ (partBytes p ++ delim b ++ serTail b t)

/-- the wire form of a list of parts -/
def serialize (b : Bytes) (ps : List Part) : Bytes := dashdash ++ b ++ serTail b ps

theorem parseParts_spec (b : Bytes) (hb : 13 ∉ b) (ps : List Part)
    (hok : ∀ p ∈ ps, LinesOK p.headers ∧ ¬ delim b <:+: partBytes p) (fuel : Nat)
    (hf : (serTail b ps).length < fuel) :
    parseParts (delim b) fuel (serTail b ps) = some ps := by
  obtain ⟨n, rfl⟩ := Nat.exists_eq_add_one.2 (Nat.zero_lt_of_lt hf)
  induction ps generalizing n with
  | nil => simp [parseParts, serTail]
  | cons p t ih =>
    obtain ⟨hpok, hni⟩ := hok p (by simp)
    have hcrlf : crlf.length = 2 := rfl
    simp only [serTail, List.length_append] at hf ih
    obtain ⟨m, rfl⟩ := Nat.exists_eq_add_one.2 (show 0 < n by omega)
    rw [serTail, parseParts, if_neg (by simp [crlf, dashdash]), stripPrefix_append]
    simp only [cut_append (x := 13) rfl (by simp [delim, crlf, dashdash, hb]) _ _ hni, parsePart_spec p hpok,
      ih (fun q h => hok q (by simp [h])) m (by omega)]

theorem parseMultipart_serialize (b : Bytes) (hb : 13 ∉ b) (ps : List Part)
    (hok : ∀ p ∈ ps, LinesOK p.headers ∧ ¬ delim b <:+: partBytes p) :
    parseMultipart b (serialize b ps) = some ps := by
  rw [parseMultipart, serialize, stripPrefix_append]
  exact parseParts_spec b hb ps hok _ (Nat.lt_succ_self _)

theorem encodeFields_eq (b : Bytes) (fs : List RequestField) :
    (encodeFields b fs).map (· ++ dashdash ++ b ++ dashdash ++ crlf) =
      (allSome (fs.map partOf)).map (serialize b) := by
  induction fs with
  | nil => simp [encodeFields, allSome, serialize, serTail]
  | cons f t ih =>
    simp only [encodeFields, encodeField_eq, List.map_cons, allSome]
    cases partOf f with
    | none => rfl
    | some p =>
      cases ht : encodeFields b t <;> cases hp : allSome (t.map partOf) <;> simp_all [serialize, serTail, delim]

def paramBytes (kv : Bytes × Bytes) : Bytes := kv.1 ++ [61, 34] ++ kv.2 ++ [34]

def ParamOK (kv : Bytes × Bytes) : Prop :=
  isToken kv.1 = true ∧ 61 ∉ kv.1 ∧ 34 ∉ kv.2 ∧ 13 ∉ kv.2 ∧ 10 ∉ kv.2

/-- one parameter: its name ends at the first `="`, its value at the next `"` -/
theorem parseParams_param (n : Nat) (kv : Bytes × Bytes) (hok : ParamOK kv) (r2 : Bytes) :
    parseParams (n + 1) (paramBytes kv ++ r2) =
      if r2.isEmpty then some [kv]
      else (stripPrefix semiSp r2).bind fun r3 => (parseParams n r3).map (kv :: ·) := by
  obtain ⟨htok, h61, h34, h13, h10⟩ := hok
  have e : paramBytes kv ++ r2 = kv.1 ++ [61, 34] ++ (kv.2 ++ [34] ++ r2) := by simp [paramBytes]
  have c1 := cut_append_of_not_mem (d := [61, 34]) rfl (by decide) kv.1 (kv.2 ++ [34] ++ r2) h61
  have c2 := cut_append_of_not_mem (d := [34]) rfl (by decide) kv.2 r2 h34
  rw [e, parseParams]
  simp only [c1, c2]
  cases stripPrefix semiSp r2 <;> simp [htok, h13, h10]

theorem parseParams_spec (ps : List (Bytes × Bytes)) (hne : ps ≠ []) (hok : ∀ kv ∈ ps, ParamOK kv)
    (fuel : Nat) (hf : (joinWith semiSp (ps.map paramBytes)).length < fuel) :
    parseParams fuel (joinWith semiSp (ps.map paramBytes)) = some ps := by
  obtain ⟨n, rfl⟩ := Nat.exists_eq_add_one.2 (Nat.zero_lt_of_lt hf)
  induction ps generalizing n with
  | nil => exact absurd rfl hne
  | cons kv t ih =>
    cases t with
    | nil => simpa [joinWith] using parseParams_param n kv (hok kv (by simp)) []
    | cons kv2 t2 =>
      have hsemi : semiSp.length = 2 := rfl
      simp only [List.map_cons, joinWith, List.length_append] at hf ih
      obtain ⟨m, rfl⟩ := Nat.exists_eq_add_one.2 (show 0 < n by omega)
      rw [List.map_cons, List.map_cons, joinWith, List.append_assoc,
        parseParams_param _ kv (hok kv (by simp)), stripPrefix_append]
      simp [ih (by simp) (fun q h => hok q (by simp [h])) m (by omega), show semiSp ≠ [] by decide]

theorem parseDisposition_spec (ty : Bytes) (htok : isToken ty = true) (h59 : 59 ∉ ty)
    (ps : List (Bytes × Bytes)) (hne : ps ≠ []) (hok : ∀ kv ∈ ps, ParamOK kv) :
    parseDisposition (ty ++ semiSp ++ joinWith semiSp (ps.map paramBytes)) = some (ty, ps) := by
  rw [parseDisposition, cut_append_of_not_mem (x := 59) rfl (by decide) _ _ h59]
  simp only [htok, if_true, parseParams_spec ps hne hok _ (Nat.lt_succ_self _)]
  rfl

/-- the parameters `make_multipart` renders: `name`, then `filename` if there is one -/
def dispParams (n : Str) (fn : Option Str) : List (Str × Str) := (nameKey, n) :: fn.toList.map (filenameKey, ·)

theorem dispositionValue_eq (cd : Option Str) (n : Str) (fn : Option Str) :
    dispositionValue cd n fn = strOr cd formData ++ semiSp ++
      joinWith semiSp ((dispParams n fn).map fun kv => formatParam kv.1 kv.2) := by
  cases fn <;> simp [dispositionValue, renderParts, joinWith, dispParams]

theorem strOr_cases (a : Option Str) (d : Str) : strOr a d = d ∨ a = some (strOr a d) := by
  cases a with
  | none => exact Or.inl rfl
  | some s => by_cases h : s.isEmpty <;> simp [strOr, h]

theorem truthy_some (o : Option Str) (c : Str) (h : truthy o = some c) : o = some c := by
  cases o with
  | none => simp [truthy] at h
  | some s =>
    simp only [truthy] at h
    split at h <;> simp_all

theorem headerLines_fresh (n : Str) (fn : Option Str) (d : Data) (cd ct cl : Option Str) :
    headerLines (makeMultipart ⟨n, fn, d, []⟩ cd ct cl) =
      (cdName, dispositionValue cd n fn) ::
        ((truthy ct).toList.map (ctName, ·) ++ (truthy cl).toList.map (clName, ·)) := by
  have hdv : truthy (some (dispositionValue cd n fn)) = some (dispositionValue cd n fn) := by
    simp [truthy, dispositionValue_eq, semiSp]
  have hne : cdName ≠ ctName ∧ cdName ≠ clName ∧ ctName ≠ clName := by decide
  have hne' : (ctName == cdName) = false ∧ (clName == cdName) = false ∧ (clName == ctName) = false := by decide
  have hsk : Gen.sortKeys = [cdName, ctName, clName] := rfl
  cases htc : truthy ct <;> cases htl : truthy cl <;>
    simp [headerLines, makeMultipart, dictSet, hsk, List.lookup, hne, hne', hdv, htc, htl]

theorem dispositionValue_safe (cd : Option Str) (n : Str) (fn : Option Str) (c : Nat)
    (hc : c = 13 ∨ c = 10) (hcd : ∀ s, cd = some s → c ∉ s) : c ∉ dispositionValue cd n fn := by
  have hconst : c ∉ formData ∧ c ∉ semiSp ∧ c ∉ nameKey ∧ c ∉ filenameKey ∧ c ≠ 61 ∧ c ≠ 34 := by
    rcases hc with rfl | rfl <;> decide
  have hesc : ∀ v, c ∉ escape v := fun v => by rcases hc with rfl | rfl <;> simp [escape_safe v]
  have h1 : c ∉ strOr cd formData := by
    rcases strOr_cases cd formData with h | h
    · rw [h]
      exact hconst.1
    · exact hcd _ h
  rw [dispositionValue_eq]
  cases fn <;> simp [dispParams, joinWith, formatParam, h1, hesc, hconst]

theorem fieldSafe_fresh (n : Str) (fn : Option Str) (d : Data) (cd ct cl : Option Str)
    (hcd : ∀ s, cd = some s → 13 ∉ s) (hct : ∀ s, ct = some s → 13 ∉ s)
    (hcl : ∀ s, cl = some s → 13 ∉ s) :
    FieldSafe (makeMultipart ⟨n, fn, d, []⟩ cd ct cl) := by
  intro kv hkv
  simp only [headerLines_fresh, List.mem_cons, List.mem_append, List.mem_map, Option.mem_toList] at hkv
  rcases hkv with rfl | ⟨c, hc, rfl⟩ | ⟨c, hc, rfl⟩
  · exact show 58 ∉ cdName ∧ 13 ∉ cdName ∧ _ from
      ⟨by decide, by decide, dispositionValue_safe cd n fn 13 (Or.inl rfl) hcd⟩
  · exact show 58 ∉ ctName ∧ 13 ∉ ctName ∧ _ from ⟨by decide, by decide, hct c (truthy_some _ _ hc)⟩
  · exact show 58 ∉ clName ∧ 13 ∉ clName ∧ _ from ⟨by decide, by decide, hcl c (truthy_some _ _ hc)⟩

theorem guessContentType_safe (mt : Str → Option Str) (hmt : ∀ fn t, mt fn = some t → 13 ∉ t)
    (fn : Option Str) : 13 ∉ guessContentType mt fn := by
  unfold guessContentType
  split
  · split
    · decide
    · rcases strOr_cases (mt _) octetStream with h | h
      · rw [h]
        decide
      · exact hmt _ _ h
  · decide

/-- the content type a tuple value specifies -/
def TupleValue.contentType (mt : Str → Option Str) : TupleValue → Option Str
  | .plain _ => none
  | .file2 fn _ => some (guessContentType mt fn)
  | .file3 _ _ ct => ct

def TupleValue.filename : TupleValue → Option Str
  | .plain _ => none
  | .file2 fn _ => fn
  | .file3 fn _ _ => fn

def TupleValue.data : TupleValue → Data
  | .plain d => d
  | .file2 _ d => d
  | .file3 _ d _ => d

theorem fromTuples_eq (mt : Str → Option Str) (n : Str) (v : TupleValue) :
    fromTuples mt n v = makeMultipart ⟨n, v.filename, v.data, []⟩ none (v.contentType mt) none := by
  cases v <;> rfl

theorem utf8_formatParam (k : Str) (htok : isToken k = true) (hk : ∀ c ∈ k, c < 128) (h61 : 61 ∉ k) (v : Str)
    (b : Bytes) :
    utf8 (formatParam k v) = some b ↔
      ∃ ev, utf8 (escape v) = some ev ∧ ParamOK (k, ev) ∧ b = paramBytes (k, ev) := by
  have hs := escape_safe v
  simp only [formatParam, utf8_append, utf8_ascii k hk, utf8_ascii [61, 34] (by decide), utf8_ascii [34] (by decide)]
  cases he : utf8 (escape v) with
  | none => simp
  | some ev =>
    have hok : ParamOK (k, ev) := ⟨htok, h61, utf8_not_mem_ascii he (by omega) hs.1,
      utf8_not_mem_ascii he (by omega) hs.2.1, utf8_not_mem_ascii he (by omega) hs.2.2⟩
    simp [paramBytes, hok, eq_comm]

theorem latin1_eq (s : Str) (b : Bytes) (h : latin1 s = some b) : b = s := by
  unfold latin1 at h
  split at h <;> simp_all

theorem encodeMultipart_ok (fs : List RequestField) (boundary : Str) (body : Bytes) (ct : Str)
    (henc : encodeMultipart fs boundary = .ok (body, ct)) :
    ∃ ps, allSome (fs.map partOf) = some ps ∧ body = serialize boundary ps ∧ ct = ctPrefix ++ boundary ∧
      (dashdash ++ boundary ++ dashdash ++ crlf) <:+ body := by
  unfold encodeMultipart at henc
  cases hl : latin1 boundary with
  | none => simp [hl] at henc
  | some b =>
    obtain rfl := latin1_eq _ _ hl
    have hser := encodeFields_eq b fs
    cases he : encodeFields b fs with
    | none => simp [hl, he] at henc
    | some x =>
      simp only [hl, he, Except.ok.injEq, Prod.mk.injEq] at henc
      cases hps : allSome (fs.map partOf) <;> simp [he, hps] at hser
      exact ⟨_, rfl, by simp [← henc.1, ← hser], henc.2.symm, x, by simp [← henc.1]⟩

/-- what injectivity needs of the table (checked on the table read from the source): the three
replacement texts have the same length, start with `%` and are pairwise different — their exact
spelling (e.g. hex case) does not matter -/
theorem escTable_shape :
    ∀ k ∈ [10, 13, 34], (escChar k).length = 3 ∧ (escChar k).head? = some 37 ∧
      ∀ k' ∈ [10, 13, 34], escChar k = escChar k' → k = k' := by
  decide

theorem escChar_other (c : Nat) (h : c ∉ [10, 13, 34]) : escChar c = [c] := by
  simp only [List.mem_cons, List.not_mem_nil, or_false, not_or] at h
  simp [escChar, Gen.escapeTable, List.lookup, beq_false_of_ne h.1, beq_false_of_ne h.2.1, beq_false_of_ne h.2.2]

theorem escChar_append_inj {c c' : Nat} {r r' : Str} (hc : c ≠ 37) (hc' : c' ≠ 37)
    (h : escChar c ++ r = escChar c' ++ r') : c = c' ∧ r = r' := by
  have hh := congrArg List.head? h
  by_cases hs : c ∈ [10, 13, 34] <;> by_cases hs' : c' ∈ [10, 13, 34]
  · obtain ⟨l, -, inj⟩ := escTable_shape c hs
    obtain ⟨l', -, -⟩ := escTable_shape c' hs'
    obtain ⟨h1, h2⟩ := List.append_inj h (by omega)
    exact ⟨inj c' hs' h1, h2⟩
  · simp [List.head?_append, (escTable_shape c hs).2.1, escChar_other c' hs'] at hh
    exact absurd hh.symm hc'
  · simp [List.head?_append, (escTable_shape c' hs').2.1, escChar_other c hs] at hh
    exact absurd hh hc
  · simpa [escChar_other c hs, escChar_other c' hs'] using h

theorem escape_eq_nil {a : Str} (h : escape a = []) : a = [] := by
  cases a with
  | nil => rfl
  | cons c t =>
    by_cases hs : c ∈ [10, 13, 34]
    · have := (escTable_shape c hs).1
      simp_all [escape]
    · simp [escape, escChar_other c hs] at h

end U3.Multipart
