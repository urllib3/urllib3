import U3.Lemmas.RespGzip
/-! The stored-block gzip encoder and its round trip through the `GzipDecoder` semantics, for EVERY
payload: `gzMember p` (10-byte header, one final stored block, CRC-32, ISIZE) for `|p| ≤ 65535`, and
`gzStream ps` = the concatenation of the members of a list of payloads.  `GzG_gzStream` ties the relation
`GzG` of Lemmas/RespGzip (and with it the read invariant `Inv` of Lemmas/RespRead) to concrete wire bytes
for all payloads, not only for evaluated examples. -/
namespace U3.Resp
open U3

def le16 (n : Nat) : Bytes := [n % 256, n / 256 % 256]
def le32 (n : Nat) : Bytes := [n % 256, n / 256 % 256, n / 65536 % 256, n / 16777216 % 256]
def gzHeader : Bytes := [31, 139, 8, 0, 0, 0, 0, 0, 0, 255]
/-- the inflate state inside the one (final) stored block of a member whose header has no optional
field; `h` is the header CRC, which nothing reads when FHCRC is not set -/
def mkS (h : Nat) (ph : IPh) (cnt crc : Nat) (adler : Nat × Nat) (total : Nat) : Inf :=
  { wrap := .gzip, ph := ph, acc := [], flags := 0, hcrc := h, cnt := cnt, last := true, crc := crc,
    adler := adler, total := total }

/-- the 10-byte header and the block header `BFINAL=1, BTYPE=00` -/
theorem feed_hdr : ∃ h, feedLoop gzipO gzipO.init (gzHeader ++ [1]) [] =
    .ok (mkS h .storedLen 0 0xFFFFFFFF (1, 0) 0, [], []) :=
  ⟨_, rfl⟩

/-- `le (le16 n) = n`, with `le16` unfolded as the proofs below meet it -/
theorem le_le16 (n : Nat) (h : n < 65536) : le [n % 256, n / 256 % 256] = n := by
  simp [le]; omega

theorem le_le32 (n : Nat) (h : n < 4294967296) :
    le [n % 256, n / 256 % 256, n / 65536 % 256, n / 16777216 % 256] = n := by
  simp [le]; omega

/-! The segments of a member after the block header (`LEN`/`NLEN`, the block's bytes, the trailer).
With `feedLoop`, `infStep` and `mkS` unfolded by `simp`, each proof below is symbolic execution of
`infStep` over the listed bytes. -/

section
variable (h c : Nat) (a : Nat × Nat) (t : Nat)
attribute [local simp] feedLoop gzipO inflateObj infStep mkS

theorem feed_len (len : Nat) (hl : 0 < len) (hle : len ≤ 65535) :
    feedLoop gzipO (mkS h .storedLen 0 c a t) (le16 len ++ le16 (65535 - len)) [] =
      .ok (mkS h .stored len c a t, [], []) := by
  have h1 := le_le16 len (by omega)
  have h2 := le_le16 (65535 - len) (by omega)
  have h3 : len + (65535 - len) = 65535 := by omega
  have h4 : len ≠ 0 := by omega
  simp [le16, h1, h2, h3, h4]

theorem feed_len0 :
    feedLoop gzipO (mkS h .storedLen 0 c a t) (le16 0 ++ le16 65535) [] = .ok (mkS h .gzCrc 0 c a t, [], []) := by
  simp [le16, le, Inf.afterBlock]

theorem feed_data (data : Bytes) (hne : data ≠ []) :
    feedLoop gzipO (mkS h .stored data.length c a t) data [] =
      .ok (mkS h .gzCrc 0 (data.foldl crcStep c) (data.foldl adlerStep a) (t + data.length), data, []) := by
  induction data generalizing c a t with
  | nil => exact absurd rfl hne
  | cons b rest ih =>
    cases rest with
    | nil => simp [Inf.afterBlock]
    | cons b2 rest2 =>
      rw [feedLoop_step_ok gzipO rfl (s1 := mkS h .stored (b2 :: rest2).length (crcStep c b) (adlerStep a b) (t + 1))
        (o := [b]) (by simp), ih _ _ _ (List.cons_ne_nil _ _)]
      simp [Except.map, Nat.add_assoc, Nat.add_comm 1]

theorem feed_trailer (hc : c ^^^ 0xFFFFFFFF < 4294967296) (ht : t < 4294967296) :
    feedLoop gzipO (mkS h .gzCrc 0 c a t) (le32 (c ^^^ 0xFFFFFFFF) ++ le32 t) [] = .ok (mkS h .done 0 c a t, [], []) := by
  have h1 := le_le32 _ hc
  have h2 := le_le32 _ ht
  have h3 : t % 4294967296 = t := Nat.mod_eq_of_lt ht
  simp [le32, h1, h2, h3]

end

theorem crcByteLoop_lt (k c : Nat) (h : c < 4294967296) : crcByteLoop k c < 4294967296 := by
  induction k generalizing c with
  | zero => exact h
  | succ k ih =>
    have h1 : c >>> 1 < 4294967296 := by rw [Nat.shiftRight_eq_div_pow]; omega
    rw [crcByteLoop]
    apply ih
    split
    · exact Nat.xor_lt_two_pow (n := 32) h1 (by decide)
    · exact h1

theorem crcFold_lt (data : Bytes) (c : Nat) (h : c < 4294967296) (hb : ∀ b ∈ data, b < 256) :
    data.foldl crcStep c < 4294967296 := by
  induction data generalizing c with
  | nil => exact h
  | cons b t ih =>
    have hb0 := hb b (by simp)
    rw [List.foldl_cons]
    exact ih _ (crcByteLoop_lt 8 _ (Nat.xor_lt_two_pow (n := 32) h (by omega))) fun x hx => hb x (by simp [hx])

theorem crc32_lt (data : Bytes) (hb : ∀ b ∈ data, b < 256) : crc32 data < 4294967296 := by
  unfold crc32
  exact Nat.xor_lt_two_pow (n := 32) (crcFold_lt data _ (by decide) hb) (by decide)

/-- a gzip member holding `p` in one final stored block -/
def gzMember (p : Bytes) : Bytes :=
  gzHeader ++ ([1] ++ (le16 p.length ++ le16 (65535 - p.length) ++ (p ++ (le32 (crc32 p) ++ le32 p.length))))

theorem feed_gzMember (p : Bytes) (hlen : p.length ≤ 65535) (hb : ∀ b ∈ p, b < 256) :
    ∃ s, feedLoop gzipO gzipO.init (gzMember p) [] = .ok (s, p, []) ∧ gzipO.eof s = true := by
  obtain ⟨h, hhdr⟩ := feed_hdr
  have htrail := feed_trailer h _ (p.foldl adlerStep (1, 0)) p.length (crc32_lt p hb) (by omega)
  refine ⟨mkS h .done 0 (p.foldl crcStep 0xFFFFFFFF) (p.foldl adlerStep (1, 0)) p.length, ?_, rfl⟩
  by_cases hp : p = []
  · subst hp
    simpa [gzMember, crc32] using feedLoop_then hhdr (feedLoop_then (feed_len0 h 0xFFFFFFFF (1, 0) 0) htrail)
  · have hd := feed_data h 0xFFFFFFFF (1, 0) 0 p hp
    rw [Nat.zero_add] at hd
    simpa [gzMember, crc32] using feedLoop_then hhdr (feedLoop_then
      (feed_len h 0xFFFFFFFF (1, 0) 0 p.length (List.length_pos_iff.mpr hp) hlen) (feedLoop_then hd htrail))

def gzStream (ps : List Bytes) : Bytes := (ps.map gzMember).flatten

theorem gzRun_gzStream (ps : List Bytes) (hps : ∀ p ∈ ps, p.length ≤ 65535 ∧ ∀ b ∈ p, b < 256)
    (gs : GzState) (d : Bool) (hgs : gs ≠ .swallowData) :
    ∃ s2 gs2 d2, gzRun gzipO gzipO.init gs d (gzStream ps) = some (s2, gs2, d2, ps.flatten) := by
  induction ps generalizing gs d with
  | nil => exact ⟨_, gs, d, gzRun_nil gzipO _ _ _⟩
  | cons p t ih =>
    obtain ⟨hlen, hb⟩ := hps p (by simp)
    obtain ⟨sd, hfeed, heof⟩ := feed_gzMember p hlen hb
    have hstream : gzStream (p :: t) = gzMember p ++ gzStream t := by simp [gzStream]
    rw [hstream, gzRun_feeds gzipO hgs (.of_feedLoop hfeed)]
    -- the member leaves the object at `eof`: then nothing more, or a restart for the next member
    cases t with
    | nil => exact ⟨sd, gs, d || !p.isEmpty, by simp [gzStream, gzRun_nil]⟩
    | cons q t =>
      obtain ⟨tl, htl⟩ : ∃ tl, gzStream (q :: t) = 31 :: tl := ⟨_, rfl⟩
      obtain ⟨s2, gs2, d2, h2⟩ := ih (fun x hx => hps x (by simp [hx])) .otherMembers false (by decide)
      refine ⟨s2, gs2, d2, ?_⟩
      rw [htl, gzRun_eof gzipO hgs heof, if_neg (by decide), ← htl, h2]
      rfl

/-- every list of payloads (each at most 65535 bytes), gzip-encoded member by member, is decoded to
their concatenation by a fresh `GzipDecoder` — in the sense of `GzG`, i.e. under every segmentation
of the stream -/
theorem GzG_gzStream (ps : List Bytes) (hps : ∀ p ∈ ps, p.length ≤ 65535 ∧ ∀ b ∈ p, b < 256) :
    GzG gzipO (Gz.new gzipO) (gzStream ps) ps.flatten :=
  ⟨rfl, false, gzRun_gzStream ps hps .firstMember false (by decide)⟩

end U3.Resp
