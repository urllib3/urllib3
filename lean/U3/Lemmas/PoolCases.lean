import U3.Model.Pool
import U3.Lemmas.Pool
import U3.Lemmas.PoolSafe
import U3.Lemmas.PoolRead
/-!
# The ways an operation of the pool model can go

The operations through which several invariants are carried (`PoolProv`, `PoolLink`, `PoolInv`) are taken apart here,
once: which steps they make, in which order, with which outcome.  `getresponse()` as an inductive relation (`GetResp`); one
invocation of `urlopen` as rules about `request` with the ends as hypotheses (`request_early`, `request_unclean`,
`request_clean`); `_make_request` and `_raw_read` as equations that name their stages (`makeRequest_eq`: `conn.request()`,
`sendFix`, `makeTail`; `rawRead_eq`: `http.client`'s `read`, `rawMid`, the exit of `_error_catcher`) with what each stage
can come to (`rawMid_spec`, `catcherExit_cases`).
-/
namespace U3.Pool

/-- `getresponse()` up to the construction of the response object, from the state `sF` in which a closed `__response`
has been forgotten: the state check fails (`notReady` does not record why), or a reader `sF.resps.length` is opened on
socket `k` and `begin()` (`readHead`) raises (`failed`) or returns a head (`ok`: the connection is closed if `will_close`) -/
inductive GetResp (sF : State) (c k rid : Nat) (isHead : Bool) : State → RespOut → Prop
  | noConn : sF.conns[c]? = none → GetResp sF c k rid isHead sF (.exc (exc Gen.cAttributeError))
  | notReady : GetResp sF c k rid isHead sF (.exc (exc Gen.cResponseNotReady))
  | failed {cn : Conn} {fuel : Nat} {s2 : State} {e : Exc} : sF.conns[c]? = some cn → cn.pending = none →
      readHead fuel { sF with resps := sF.resps ++ [{ rid := rid, fp := some k, isHead := isHead }] } sF.resps.length k = (s2, .exc e) →
      GetResp sF c k rid isHead
        (closeFp (if isSub e.cls Gen.cConnectionError = true then
            setConn (connClose s2 c) c fun x => { x with proxyConnected := cn.proxyConnected } else s2) sF.resps.length)
        (.exc e)
  | ok {cn : Conn} {fuel : Nat} {s2 : State} {h : Head} : sF.conns[c]? = some cn → cn.pending = none →
      readHead fuel { sF with resps := sF.resps ++ [{ rid := rid, fp := some k, isHead := isHead }] } sF.resps.length k = (s2, .ok h) →
      GetResp sF c k rid isHead
        (if (h.close || ((initLength h isHead).isNone && !h.chunked)) = true then
          connClose (setConn (setResp s2 sF.resps.length fun x =>
            { x with length := initLength h isHead, status := h.status, chunked := h.chunked }) c fun x => { x with http := .idle }) c
         else setConn (setConn (setResp s2 sF.resps.length fun x =>
            { x with length := initLength h isHead, status := h.status, chunked := h.chunked }) c fun x => { x with http := .idle }) c
              fun x => { x with pending := some sF.resps.length })
        (.resp sF.resps.length)

theorem getResponse_cases (s : State) (c k rid : Nat) (rc : ReqCfg) :
    ∃ s5 o, GetResp (forgetClosedPending s c) c k rid rc.isHead s5 o ∧
      getResponse s c k rid rc = match o with
        | .exc e => (s5, .exc e)
        | .resp r =>
          if rc.preload then
            match respRead s5 r none with
            | (s, .exc e) => (s, .exc e)
            | (s, .data _) => (s, .resp r)
          else (s5, .resp r) := by
  unfold getResponse
  generalize forgetClosedPending s c = sF
  dsimp only
  cases hcn : sF.conns[c]? with
  | none => exact ⟨_, _, .noConn hcn, rfl⟩
  | some cn =>
    dsimp only
    by_cases hcheck : (cn.http != .reqSent || cn.pending.isSome) = true
    · rw [if_pos hcheck]
      exact ⟨_, _, .notReady, rfl⟩
    · rw [if_neg hcheck]
      have hp : cn.pending = none := by
        cases hpp : cn.pending with
        | none => rfl
        | some x => simp [hpp] at hcheck
      rcases hrh : readHead _ _ _ k with ⟨s2, hd | e⟩
      · exact ⟨_, _, .ok hcn hp hrh, rfl⟩
      · exact ⟨_, _, .failed hcn hp hrh, rfl⟩

/-! One invocation of `urlopen` ends in one of three ways: before anything is taken from the pool (`request_early`), by the
unclean exit (`request_unclean`), by the clean exit (`request_clean`).  A property `Q` of what the call returns is shown
by giving it for the ends each way has.  On the way there are steps that may themselves raise (`_put_conn` in a `finally`
clause, `drain_conn`, the wait between two attempts): `orRaise` / `orWait` are the two ways out of such a step. -/

theorem orRaise {Q : State × Result → Prop} {x : State × Option Exc} {K : State → State × Result}
    (hx : ∀ e, x.2 = some e → Q (x.1, .raised e)) (hK : x.2 = none → Q (K x.1)) :
    Q (match (generalizing := false) x with
      | (s, some e) => (s, Result.raised e)
      | (s, none) => K s) := by
  obtain ⟨t, o⟩ := x
  cases o with
  | some e => exact hx e rfl
  | none => exact hK rfl

theorem orWait {Q : State × Result → Prop} {t : State} {w : Option Exc} {y : State × Result}
    (hw : ∀ e, w = some e → Q (t, .raised e)) (hy : w = none → Q y) :
    Q (match (generalizing := false) w with
      | some e => (t, Result.raised e)
      | none => y) := by
  cases w with
  | some e => exact hw e rfl
  | none => exact hy rfl

/-- the `finally` clause of a clean exit: `if release_this_conn: self._put_conn(conn)` -/
def putBack (rc : ReqCfg) (c : Nat) (s : State) : State × Option Exc := if rc.release then putConn s (some c) else (s, none)

theorem request_early {s : State} {rid : Nat} {rc : ReqCfg} {rt : Retry} {a : Attempt} {rest : List Attempt} {e : Exc}
    (h : preflight rc a = some e ∨ (preflight rc a = none ∧ ∃ s', getConnT s rc.badPoolTimeout = (s', .error e))) :
    request s rid rc rt (a :: rest) = (s, .raised e) := by
  rcases h with h | ⟨hp, s', hg⟩
  · rw [request, h]
  · exact request_checkout_error hp hg

theorem request_unclean {Q : State × Result → Prop} {s s1 s2 : State} {rid c : Nat} {rc : ReqCfg} {rt : Retry} {a : Attempt}
    {rest : List Attempt} {e : Exc} (hpf : preflight rc a = none) (hg : getConnT s rc.badPoolTimeout = (s1, .ok c))
    (hm : makeRequest s1 c rid a rc = (s2, .exc e))
    (noCleanup : handleError (unconnectedProxy s2 c) rt rc.methodRetryable e.cls = .noCleanup → Q (s2, .raised e))
    (raised : ∀ e', ((discard s2 (some c)).2 = some e' ∨
      (handleError (unconnectedProxy s2 c) rt rc.methodRetryable e.cls = .propagate ∧ e' = e) ∨
      handleError (unconnectedProxy s2 c) rt rc.methodRetryable e.cls = .raise e') → Q ((discard s2 (some c)).1, .raised e'))
    (again : ∀ rt', handleError (unconnectedProxy s2 c) rt rc.methodRetryable e.cls = .retry rt' →
      Q (request (discard s2 (some c)).1 rid rc.hop rt' rest)) :
    Q (request s rid rc rt (a :: rest)) := by
  rw [request, hpf]
  dsimp -zeta only
  rw [hg]
  dsimp -zeta only
  rw [hm]
  dsimp -zeta only
  split <;> rename_i hh
  · exact noCleanup hh
  · exact orRaise (fun _ he => raised _ (.inl he)) fun _ => raised _ (.inr (.inl ⟨hh, rfl⟩))
  · exact orRaise (fun _ he => raised _ (.inl he)) fun _ => raised _ (.inr (.inr hh))
  · exact orRaise (fun _ he => raised _ (.inl he)) fun _ => again _ hh

theorem request_clean {Q : State × Result → Prop} {s s1 s2 : State} {rid c r : Nat} {rc : ReqCfg} {rt : Retry} {a : Attempt}
    {rest : List Attempt} (hpf : preflight rc a = none) (hg : getConnT s rc.badPoolTimeout = (s1, .ok c))
    (hm : makeRequest s1 c rid a rc = (s2, .resp r))
    (putFailed : ∀ e, (putBack rc c s2).2 = some e → Q ((putBack rc c s2).1, .raised e))
    (ret : Q (markReturned (putBack rc c s2).1 r, .resp r))
    (raised : ∀ e, ((drainConn (putBack rc c s2).1 r).2 = some e ∨ e = exc Gen.cU3MaxRetryError ∨
      ∃ ra, waitExc ra a.wait = some e) → Q ((drainConn (putBack rc c s2).1 r).1, .raised e))
    (again : ∀ rc' rt', (rc' = rc.hop ∨ rc' = rc.seeOther) → Q (request (drainConn (putBack rc c s2).1 r).1 rid rc' rt' rest)) :
    Q (request s rid rc rt (a :: rest)) := by
  rw [request, hpf]
  dsimp -zeta only
  rw [hg]
  dsimp -zeta only
  rw [hm]
  dsimp -zeta only
  refine orRaise (x := putBack rc c s2) putFailed fun _ => ?_
  extract_lets hd status rc'
  have dr := fun e he => raised e (.inl he)
  split
  · split
    · split
      · exact orRaise dr fun _ => raised _ (.inr (.inl rfl))
      · exact ret
    · exact orRaise dr fun _ => orWait (fun e he => raised e (.inr (.inr ⟨_, he⟩))) fun _ =>
        again rc' _ (by unfold rc'; split <;> simp)
  · split
    · split
      · exact orRaise dr fun _ => raised _ (.inr (.inl rfl))
      · exact orRaise dr fun _ => orWait (fun e he => raised e (.inr (.inr ⟨_, he⟩))) fun _ => again rc.hop _ (.inl rfl)
    · exact ret

/-! `_make_request` is `conn.request()`, whose swallowed send errors `sendFix` sorts out, followed by `makeTail`:
`getresponse()` and the hand-over of the connection to the response. -/

/-- a swallowed send error leaves the socket where it was -/
def sendFix (s : State) (c : Nat) (ek : Except Exc Nat) : Except Exc Nat :=
  match ek with
  | .ok k => .ok k
  | .error e =>
    if sendSwallowed e then
      match s.conns[c]? with
      | some cn => match cn.sock with
        | some k => .ok k
        | none => .error (exc Gen.cAttributeError)
      | none => .error (exc Gen.cAttributeError)
    else .error e

/-- `getresponse()` and what follows it in `_make_request` -/
def makeTail (s : State) (c rid : Nat) (rc : ReqCfg) (ek : Except Exc Nat) : State × RespOut :=
  match ek with
  | .error e => (s, .exc e)
  | .ok k =>
    match getResponse s c k rid rc with
    | (s, .exc e) => (s, .exc (translateRecv e))
    | (s, .resp r) => attachResp s c r rc

theorem makeRequest_eq (s : State) (c rid : Nat) (a : Attempt) (rc : ReqCfg) :
    makeRequest s c rid a rc =
      makeTail (connRequestH s c rid a rc.badHeader).1 c rid rc
        (sendFix (connRequestH s c rid a rc.badHeader).1 c (connRequestH s c rid a rc.badHeader).2) := by
  unfold makeRequest
  rcases connRequestH s c rid a rc.badHeader with ⟨s1, ek⟩
  rfl

/-! `_raw_read` is `http.client`'s `read`, the `IncompleteRead` test (`rawMid`) and the exit of `_error_catcher`. -/

/-- the `IncompleteRead` test of `_raw_read` -/
def rawMid (r : Nat) (amt : Option Nat) (s : State) (out : DataOut) : State × DataOut :=
  match out, amt with
  | .data d, some n =>
    if n != 0 && d.isEmpty then
      let s := closeFp s r
      match s.resps[r]? with
      | some rs => match rs.length with
        | some l => if l != 0 then (s, DataOut.exc (exc Gen.cU3IncompleteRead)) else (s, out)
        | none => (s, out)
      | none => (s, out)
    else (s, out)
  | _, _ => (s, out)

theorem rawRead_eq (s : State) (r : Nat) (amt : Option Nat) :
    rawRead s r amt = catcherExit (rawMid r amt (httpRead s r amt).1 (httpRead s r amt).2).1 r
      (rawMid r amt (httpRead s r amt).1 (httpRead s r amt).2).2 := by
  unfold rawRead
  rcases httpRead s r amt with ⟨s1, o⟩
  rfl

/-- nothing happens, or — nothing came although something was asked for — the reader is closed, and if `length`
is not used up the outcome is `IncompleteRead` -/
theorem rawMid_spec (r : Nat) (amt : Option Nat) (s : State) (out : DataOut) :
    (rawMid r amt s out = (s, out) ∧ ∀ n, amt = some n → n ≠ 0 → out ≠ .data []) ∨
    (out = .data [] ∧ (∃ n, amt = some n ∧ n ≠ 0) ∧
      (rawMid r amt s out = (closeFp s r, .exc (exc Gen.cU3IncompleteRead)) ∨
       (rawMid r amt s out = (closeFp s r, .data []) ∧
        ∀ rs : Resp, (closeFp s r).resps[r]? = some rs → rs.length = none ∨ rs.length = some 0))) := by
  unfold rawMid
  split
  · rename_i d n
    split
    · rename_i hcond
      simp at hcond
      obtain ⟨hn0, rfl⟩ := hcond
      refine Or.inr ⟨rfl, ⟨n, rfl, hn0⟩, ?_⟩
      dsimp only
      split
      · rename_i rs hrs
        split
        · rename_i l hl
          split
          · exact Or.inl rfl
          · rename_i hl0
            refine Or.inr ⟨rfl, fun rs' h' => ?_⟩
            rw [hrs] at h'
            cases h'
            simp at hl0
            exact Or.inr (by rw [hl, hl0])
        · rename_i hl
          exact Or.inr ⟨rfl, fun rs' h' => by rw [hrs] at h'; cases h'; exact Or.inl hl⟩
      · rename_i hn
        exact Or.inr ⟨rfl, fun rs' h' => by rw [hn] at h'; cases h'⟩
    · rename_i hcond
      exact Or.inl ⟨rfl, fun n' hn' hn0 he => by cases hn'; cases he; exact hcond (by simp [hn0])⟩
  · rename_i hno
    exact Or.inl ⟨rfl, fun n hn _ he => hno _ n he hn⟩

theorem errorCatcherExit_true_raise {s : State} {r : Nat} {e : Exc} (h : (errorCatcherExit s r true).2 = some e) :
    respFpClosed s r = true := by
  rw [errorCatcherExit_true] at h
  by_cases hc : respFpClosed s r = true
  · exact hc
  · simp [hc] at h

/-- leaving `_error_catcher` moves no bytes; data comes out only if data went in, and if an exception comes out nothing
has happened that could not happen with the reader closed: the handler closes it first after a failed body, and after a
successful one only `release_conn()` can raise, which is called with the reader closed -/
theorem catcherExit_cases (s : State) (r : Nat) (out : DataOut) :
    Safe s (catcherExit s r out).1 ∧ (∀ d, (catcherExit s r out).2 = .data d → out = .data d) ∧
    (∀ e, (catcherExit s r out).2 = .exc e → Safe (closeFp s r) (catcherExit s r out).1) := by
  unfold catcherExit
  cases out with
  | exc e =>
    have st := safe_pooling.errorCatcherExit safe_pooling.releaseConn s r false
    have sc := (respClose_after s r).trans (safe_pooling.errorCatcherExit safe_pooling.releaseConn (respClose s r) r true)
    rw [← errorCatcherExit_false] at sc
    generalize errorCatcherExit s r false = res at st sc
    obtain ⟨t, oe⟩ := res
    cases oe <;> exact ⟨st, (fun _ h => nomatch h), fun _ _ => sc⟩
  | data d =>
    have st := safe_pooling.errorCatcherExit safe_pooling.releaseConn s r true
    have hr := @errorCatcherExit_true_raise s r
    generalize errorCatcherExit s r true = res at st hr
    obtain ⟨t, oe⟩ := res
    cases oe with
    | none => exact ⟨st, fun _ h => h, fun _ h => nomatch h⟩
    | some e => exact ⟨st, (fun _ h => nomatch h), fun _ _ => by rw [closeFp_of_closed (hr rfl)]; exact st⟩

end U3.Pool
