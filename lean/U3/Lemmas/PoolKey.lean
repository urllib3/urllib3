import U3.Model.PoolKey
/-! The pool-key normaliser step by step (`Maps`) and as a whole (`normalizeWith_eq`, `normalizeWith_ok_iff`),
injectivity (`injective_with`), `_merge_pool_kwargs`, case / default-port normalisation of
`connection_from_host`: these serve C18.  From `keyOf` on the file serves `U3.Lemmas.Route` (C15): the key of a
request context as a function (`keyOf`), over manager defaults on which the normaliser cannot fail (`Fine`).
`hostCtx`, `schemeOr`, `portOr` and `unstrict` name what `requestContext` and `fromContext` write inline. -/
namespace U3.PoolKey
open U3

variable {c c' c'' : Ctx} {k x : Str} {v : Val} {f : Val → Val}

@[simp] theorem get_nil (k : Str) : get [] k = none := rfl

theorem get_cons (p : Str × Val) (c : Ctx) (k : Str) :
    get (p :: c) k = if k = p.1 then some p.2 else get c k := rfl

theorem mem_keys : k ∈ keys c ↔ has c k = true := by
  induction c with
  | nil => simp [keys, has]
  | cons p t ih =>
    simp only [keys, List.map_cons, List.mem_cons, has, get_cons] at *
    by_cases h : k = p.1 <;> simp [h, ih]

theorem get_eq_none : get c k = none ↔ k ∉ keys c := by
  rw [mem_keys, has]
  cases get c k <;> simp

theorem has_of_get (h : get c k = some v) : has c k = true := by
  simp [has, h]

theorem get_append (a b : Ctx) (k : Str) :
    get (a ++ b) k = match get a k with | some v => some v | none => get b k := by
  induction a with
  | nil => simp
  | cons p t ih =>
    simp only [List.cons_append, get_cons]
    by_cases h : k = p.1 <;> simp [h, ih]

theorem keys_append (a b : Ctx) : keys (a ++ b) = keys a ++ keys b := List.map_append

/-- overwrite the value of a present key (the `has` branch of `set`) -/
def upd (k : Str) (v : Val) (c : Ctx) : Ctx := c.map (fun p => if p.1 = k then (p.1, v) else p)

theorem set_of_has (v : Val) (h : has c k = true) : set c k v = upd k v c := by
  unfold set upd
  simp [h]

theorem keys_upd (k : Str) (v : Val) (c : Ctx) : keys (upd k v c) = keys c := by
  unfold upd keys
  rw [List.map_map]
  refine List.map_congr_left fun p _ => ?_
  by_cases hp : p.1 = k <;> simp [hp]

theorem keys_set (c : Ctx) (k : Str) (v : Val) :
    keys (set c k v) = if has c k then keys c else keys c ++ [k] := by
  by_cases h : has c k = true
  · rw [if_pos h, set_of_has v h, keys_upd]
  · simp [set, h, keys]

theorem has_upd (k : Str) (v : Val) (c : Ctx) (x : Str) : has (upd k v c) x = has c x :=
  Bool.eq_iff_iff.mpr (by rw [← mem_keys, ← mem_keys, keys_upd])

theorem get_upd (c : Ctx) (k x : Str) (v : Val) :
    get (upd k v c) x = if x = k then (if has c k then some v else none) else get c x := by
  induction c with
  | nil => simp [upd, has]
  | cons p t ih =>
    simp only [upd, List.map_cons, get_cons, has] at *
    grind

theorem get_set (c : Ctx) (k x : Str) (v : Val) :
    get (set c k v) x = if x = k then some v else get c x := by
  cases hk : get c k with
  | some w =>
    rw [set_of_has v (has_of_get hk), get_upd, has_of_get hk]
    rfl
  | none =>
    simp only [set, has, hk, Option.isSome_none, Bool.false_eq_true, if_false, get_append, get_cons, get_nil]
    by_cases hx : x = k
    · simp [hx, hk]
    · cases get c x <;> simp [hx]

theorem get_erase (c : Ctx) (k x : Str) :
    get (erase c k) x = if x = k then none else get c x := by
  induction c with
  | nil => simp [erase]
  | cons p t ih =>
    unfold erase at ih ⊢
    simp only [List.filter_cons, get_cons, ne_eq, decide_not, Bool.not_eq_true',
      decide_eq_false_iff_not] at ih ⊢
    grind [get_cons]

theorem has_set (c : Ctx) (k x : Str) (v : Val) :
    has (set c k v) x = (decide (x = k) || has c x) := by
  simp only [has, get_set]
  by_cases h : x = k <;> simp [h]

theorem upd_set (k : Str) (v : Val) (c : Ctx) (k' : Str) (v' : Val) :
    upd k v (set c k' v') = set (upd k v c) k' (if k' = k then v else v') := by
  unfold set
  rw [has_upd]
  by_cases h : has c k' = true
  · simp only [h, if_true]
    unfold upd
    simp only [List.map_map]
    apply List.map_congr_left
    intro p _
    simp only [Function.comp]
    grind
  · simp only [h, Bool.false_eq_true, if_false]
    unfold upd
    simp only [List.map_append, List.map_cons, List.map_nil]
    grind

theorem strCmp_eq : ∀ {a b : Str}, strCmp a b = .eq → a = b
  | [], [], _ => rfl
  | [], _ :: _, h => by simp [strCmp] at h
  | _ :: _, [], h => by simp [strCmp] at h
  | a :: as, b :: bs, h => by
    simp only [strCmp] at h
    split at h
    · cases h
    · split at h
      · cases h
      · rw [show a = b by omega, strCmp_eq h]

theorem pairCmp_eq {p q : Str × Str} (h : pairCmp p q = .eq) : p = q := by
  unfold pairCmp at h
  cases h1 : strCmp p.1 q.1 <;> simp [h1] at h
  exact Prod.ext (strCmp_eq h1) (strCmp_eq h)

theorem mem_insertSet (p x : Str × Str) (l : List (Str × Str)) :
    x ∈ insertSet p l ↔ x = p ∨ x ∈ l := by
  induction l with
  | nil => simp [insertSet]
  | cons q t ih =>
    simp only [insertSet]
    cases h : pairCmp p q
    · simp
    · have := pairCmp_eq h
      subst this
      simp
    · simp only [List.mem_cons, ih]
      exact or_left_comm

theorem mem_toSet (x : Str × Str) (d : List (Str × Str)) : x ∈ toSet d ↔ x ∈ d := by
  induction d with
  | nil => simp [toSet]
  | cons p t ih =>
    simp only [toSet, List.foldr_cons] at *
    rw [mem_insertSet, ih]
    simp

def lowerV : Val → Val
  | .str s => .str (lower s)
  | v => v
def freezeV : Val → Val
  | .dict d => .dict (toSet d)
  | v => v
def sockV (v : Val) : Val :=
  match asSeq v with
  | some l => .list l
  | none => v

theorem sockV_none : sockV .none = .none := rfl

/-- what `freezeKey` accepts under its keyword: absent, `None` or a dict -/
def FrozenOk (o : Option Val) : Prop := o = none ∨ o = some .none ∨ ∃ d, o = some (.dict d)
/-- what `freezeSockOpts` accepts: absent, `None` or an iterable -/
def SockOk (o : Option Val) : Prop := o = none ∨ o = some .none ∨ ∃ v l, o = some v ∧ asSeq v = some l

/-- a table of value maps: row `(k, f)` sends the value of keyword `k` through `f`, rows apply in order -/
abbrev Rows := List (Str × (Val → Val))

def onKey (k : Str) (f : Val → Val) (x : Str) : Val → Val := if x = k then f else id

def steps (l : Rows) (x : Str) (v : Val) : Val :=
  l.foldl (fun v s => onKey s.1 s.2 x v) v

theorem steps_of_notMem {l : Rows} (h : x ∉ l.map (·.1)) (v : Val) :
    steps l x v = v := by
  induction l generalizing v with
  | nil => rfl
  | cons s t ih =>
    simp only [List.map_cons, List.mem_cons, not_or] at h
    simp only [steps, List.foldl_cons, onKey, if_neg h.1]
    exact ih h.2 v

theorem steps_of_mem {l : Rows} {f : Val → Val}
    (hn : (l.map (·.1)).Nodup) (hm : (k, f) ∈ l) (v : Val) : steps l k v = f v := by
  induction l generalizing v with
  | nil => cases hm
  | cons s t ih =>
    obtain ⟨hs, hn⟩ := List.nodup_cons.mp hn
    simp only [steps, List.foldl_cons]
    rcases List.mem_cons.mp hm with rfl | hm
    · simp only [onKey, if_true]
      exact steps_of_notMem hs _
    · have : k ≠ s.1 := fun e => hs (List.mem_map.mpr ⟨_, hm, e⟩)
      simp only [onKey, if_neg this]
      exact ih hn hm v

theorem steps_none {l : Rows} (h : ∀ s ∈ l, s.2 .none = .none) (x : Str) :
    steps l x .none = .none := by
  induction l with
  | nil => rfl
  | cons s t ih =>
    simp only [List.mem_cons, forall_eq_or_imp] at h
    simp only [steps, List.foldl_cons, onKey]
    split
    · rw [h.1]
      exact ih h.2
    · exact ih h.2

/-- `c'` is `c` with every value replaced by its image under the rows of `l` for its keyword:
what a successful step of `pre` does (one row), and so `pre` -/
def Maps (l : Rows) (c c' : Ctx) : Prop :=
  keys c' = keys c ∧ ∀ x, get c' x = (get c x).map (steps l x)

theorem Maps.set (f : Val → Val) (h : get c k = some v) :
    Maps [(k, f)] c (set c k (f v)) := by
  refine ⟨by rw [keys_set, if_pos (has_of_get h)], fun x => ?_⟩
  rw [get_set]
  show _ = (get c x).map (onKey k f x)
  unfold onKey
  by_cases hx : x = k
  · simp [hx, h]
  · simp [hx]

theorem Maps.same (h : (get c k).map f = get c k) :
    Maps [(k, f)] c c := by
  refine ⟨rfl, fun x => ?_⟩
  show _ = (get c x).map (onKey k f x)
  unfold onKey
  by_cases hx : x = k
  · simp [hx, h]
  · simp [hx]

theorem Maps.trans {l l' : Rows} (m : Maps l c c')
    (m' : Maps l' c' c'') : Maps (l ++ l') c c'' := by
  refine ⟨m'.1.trans m.1, fun x => ?_⟩
  rw [m'.2, m.2, Option.map_map]
  exact congrArg (Option.map · _) (funext fun v => (List.foldl_append ..).symm)

theorem Maps.get_eq {l : Rows} (m : Maps l c c') {x : Str}
    (h : x ∉ l.map (·.1)) : get c' x = get c x := by
  rw [m.2, funext (steps_of_notMem h)]
  exact Option.map_id'

theorem lowerKey_spec (h : lowerKey c k = .ok c') :
    (∃ s, get c k = some (.str s)) ∧ Maps [(k, lowerV)] c c' := by
  unfold lowerKey at h
  split at h
  · cases h
  · rename_i s hs
    cases h
    exact ⟨⟨s, hs⟩, .set lowerV hs⟩
  · cases h

theorem freezeKey_spec (h : freezeKey c k = .ok c') :
    FrozenOk (get c k) ∧ Maps [(k, freezeV)] c c' := by
  unfold freezeKey at h
  split at h
  · rename_i hs
    cases h
    exact ⟨.inl hs, .same (by rw [hs]; rfl)⟩
  · rename_i hs
    cases h
    exact ⟨.inr (.inl hs), .same (by rw [hs]; rfl)⟩
  · rename_i d hs
    cases h
    exact ⟨.inr (.inr ⟨d, hs⟩), .set freezeV hs⟩
  · cases h

theorem freezeSock_spec (h : freezeSockOpts c = .ok c') :
    SockOk (get c kSocketOptions) ∧ Maps [(kSocketOptions, sockV)] c c' := by
  unfold freezeSockOpts at h
  split at h
  · rename_i hs
    cases h
    exact ⟨.inl hs, .same (by rw [hs]; rfl)⟩
  · rename_i hs
    cases h
    exact ⟨.inr (.inl hs), .same (by rw [hs]; rfl)⟩
  · rename_i v _ hs
    split at h
    · rename_i l hl
      cases h
      have hv : Val.list l = sockV v := by simp [sockV, hl]
      exact ⟨.inr (.inr ⟨v, l, hs, hl⟩), hv ▸ .set sockV hs⟩
    · cases h

def preSteps : Rows :=
  [(kScheme, lowerV), (kHost, lowerV), (kHeaders, freezeV), (kProxyHeaders, freezeV),
   (kSocksOptions, freezeV), (kSocketOptions, sockV)]

def keySteps : Rows := preSteps ++ [(kBlocksize, blockOf)]

theorem keySteps_nodup : (keySteps.map (·.1)).Nodup := by decide +kernel

/-- each step of `pre` looks at a keyword that the steps before it left alone -/
theorem preSteps_prefix {l l' : Rows} (h : preSteps = l ++ (k, f) :: l') : k ∉ l.map (·.1) := by
  have nd := keySteps_nodup
  rw [keySteps, h, List.map_append, List.map_append, List.nodup_append, List.nodup_append] at nd
  exact fun hk => nd.1.2.2 k hk k List.mem_cons_self rfl

/-- the contexts on which `pre` succeeds (`pre_spec`, `pre_ok`) -/
structure Good (c : Ctx) : Prop where
  scheme : ∃ s, get c kScheme = some (.str s)
  host : ∃ s, get c kHost = some (.str s)
  headers : FrozenOk (get c kHeaders)
  proxyHeaders : FrozenOk (get c kProxyHeaders)
  socksOptions : FrozenOk (get c kSocksOptions)
  socketOptions : SockOk (get c kSocketOptions)

theorem pre_spec {c0 c6 : Ctx} (h : pre c0 = .ok c6) : Maps preSteps c0 c6 ∧ Good c0 := by
  unfold pre at h
  split at h
  · cases h
  rename_i c1 h1
  split at h
  · cases h
  rename_i c2 h2
  split at h
  · cases h
  rename_i c3 h3
  split at h
  · cases h
  rename_i c4 h4
  split at h
  · cases h
  rename_i c5 h5
  obtain ⟨g1, m1⟩ := lowerKey_spec h1
  obtain ⟨g2, m2⟩ := lowerKey_spec h2
  obtain ⟨g3, m3⟩ := freezeKey_spec h3
  obtain ⟨g4, m4⟩ := freezeKey_spec h4
  obtain ⟨g5, m5⟩ := freezeKey_spec h5
  obtain ⟨g6, m6⟩ := freezeSock_spec h
  have m2 := m1.trans m2
  have m3 := m2.trans m3
  have m4 := m3.trans m4
  have m5 := m4.trans m5
  rw [m1.get_eq (preSteps_prefix rfl)] at g2
  rw [m2.get_eq (preSteps_prefix rfl)] at g3
  rw [m3.get_eq (preSteps_prefix rfl)] at g4
  rw [m4.get_eq (preSteps_prefix rfl)] at g5
  rw [m5.get_eq (preSteps_prefix rfl)] at g6
  exact ⟨m5.trans m6, g1, g2, g3, g4, g5, g6⟩

theorem lowerKey_str {s : Str} (h : get c k = some (.str s)) :
    lowerKey c k = .ok (upd k (.str (lower s)) c) := by
  unfold lowerKey
  rw [h]
  simp only
  rw [set_of_has _ (has_of_get h)]

theorem lowerKey_ok (h : ∃ s, get c k = some (.str s)) : ∃ c', lowerKey c k = .ok c' := by
  obtain ⟨s, hs⟩ := h
  exact ⟨_, lowerKey_str hs⟩

theorem freezeKey_ok (h : FrozenOk (get c k)) : ∃ c', freezeKey c k = .ok c' := by
  rcases h with h | h | ⟨d, h⟩ <;> exact ⟨_, by unfold freezeKey; rw [h]⟩

theorem freezeSock_ok (h : SockOk (get c kSocketOptions)) : ∃ c', freezeSockOpts c = .ok c' := by
  rcases h with h | h | ⟨v, l, h, hl⟩
  · exact ⟨_, by unfold freezeSockOpts; rw [h]⟩
  · exact ⟨_, by unfold freezeSockOpts; rw [h]⟩
  · cases v <;> exact ⟨_, by unfold freezeSockOpts; simp only [h, hl]; rfl⟩

theorem pre_ok (g : Good c) : ∃ c6, pre c = .ok c6 := by
  obtain ⟨c1, h1⟩ := lowerKey_ok g.scheme
  have m1 := (lowerKey_spec h1).2
  obtain ⟨c2, h2⟩ := lowerKey_ok (c := c1) (by rw [m1.get_eq (x := kHost) (preSteps_prefix rfl)]; exact g.host)
  have m2 := m1.trans (lowerKey_spec h2).2
  obtain ⟨c3, h3⟩ := freezeKey_ok (c := c2)
    (by rw [m2.get_eq (x := kHeaders) (preSteps_prefix rfl)]; exact g.headers)
  have m3 := m2.trans (freezeKey_spec h3).2
  obtain ⟨c4, h4⟩ := freezeKey_ok (c := c3)
    (by rw [m3.get_eq (x := kProxyHeaders) (preSteps_prefix rfl)]; exact g.proxyHeaders)
  have m4 := m3.trans (freezeKey_spec h4).2
  obtain ⟨c5, h5⟩ := freezeKey_ok (c := c4)
    (by rw [m4.get_eq (x := kSocksOptions) (preSteps_prefix rfl)]; exact g.socksOptions)
  have m5 := m4.trans (freezeKey_spec h5).2
  obtain ⟨c6, h6⟩ := freezeSock_ok (c := c5)
    (by rw [m5.get_eq (x := kSocketOptions) (preSteps_prefix rfl)]; exact g.socketOptions)
  exact ⟨c6, by simp only [pre, h1, h2, h3, h4, h5, h6]⟩

/-- every keyword renamed to `"key_" + kw` -/
def renamed (c : Ctx) : Ctx := c.map fun p => (keyPrefix ++ p.1, p.2)

theorem keys_renamed (c : Ctx) : keys (renamed c) = (keys c).map (keyPrefix ++ ·) := by
  simp [keys, renamed]

theorem get_renamed (c : Ctx) (kw : Str) : get (renamed c) (keyPrefix ++ kw) = get c kw := by
  induction c with
  | nil => rfl
  | cons p t ih =>
    simp only [renamed, List.map_cons, get_cons, List.append_cancel_left_eq] at ih ⊢
    rw [ih]

/-- after the keywords of `a` have been moved to the end under their new names, the loop over the rest
`b` of a dict without clashes ends with all of them renamed, in order -/
theorem renameLoop_append (b a : Ctx) (hd : IsDict (a ++ b)) (hc : NoClash (a ++ b)) :
    renameLoop (keys b) (b ++ renamed a) = .ok (renamed (a ++ b)) := by
  induction b generalizing a with
  | nil => simp [keys, renameLoop]
  | cons p t ih =>
    have e : a ++ p :: t = (a ++ [p]) ++ t := by simp
    have hk : ∀ x, x ∈ keys (a ++ p :: t) ↔ x ∈ keys a ∨ x = p.1 ∨ x ∈ keys t := by simp [keys]
    have hd' : p.1 ∉ keys a ∧ p.1 ∉ keys t := by
      have := hd
      simp only [IsDict, keys, List.map_append, List.map_cons, List.nodup_append, List.nodup_cons] at this
      exact ⟨fun h => this.2.2 _ h _ List.mem_cons_self rfl, this.2.1.1⟩
    have hclash (x) (hx : x ∈ keys a ∨ x = p.1 ∨ x ∈ keys t) (y) (hy : y ∈ keys a ∨ y = p.1 ∨ y ∈ keys t) :
        keyPrefix ++ x ≠ y := fun h => hc x ((hk x).mpr hx) (h ▸ (hk y).mpr hy)
    -- the entry is the only one under its keyword, and nothing is called `"key_" +` that keyword yet
    have h1 : erase (p :: (t ++ renamed a)) p.1 = t ++ renamed a := by
      simp only [erase, List.filter_cons, ne_eq, not_true_eq_false, decide_false, Bool.false_eq_true, if_false,
        List.filter_eq_self, List.mem_append, decide_eq_true_eq]
      rintro q (hq | hq) h
      · exact hd'.2 (h ▸ List.mem_map_of_mem hq)
      · obtain ⟨x, hx, rfl⟩ := List.mem_map.mp hq
        exact hclash x.1 (.inl (List.mem_map_of_mem hx)) p.1 (.inr (.inl rfl)) h
    have h2 : has (t ++ renamed a) (keyPrefix ++ p.1) = false := by
      rw [Bool.eq_false_iff, Ne, ← mem_keys, keys_append, List.mem_append, keys_renamed, List.mem_map]
      rintro (h | ⟨x, hx, h⟩)
      · exact hclash p.1 (.inr (.inl rfl)) _ (.inr (.inr h)) rfl
      · exact hd'.1 (List.append_cancel_left h ▸ hx)
    have h3 := ih (a ++ [p]) (e ▸ hd) (e ▸ hc)
    simp only [keys, List.map_cons, List.cons_append, renameLoop, get_cons, if_true, h1, set, h2,
      Bool.false_eq_true, if_false]
    rw [e, ← h3]
    simp [renamed, keys]

theorem renameLoop_eq (hd : IsDict c) (hc : NoClash c) : renameLoop (keys c) c = .ok (renamed c) := by
  simpa [renamed] using renameLoop_append c [] hd hc

theorem get_fillMissing (F : List Str) (c : Ctx) (x : Str) :
    get (fillMissing F c) x = if has c x then get c x else if x ∈ F then some .none else none := by
  induction F generalizing c with
  | nil => cases h : get c x <;> simp [fillMissing, has, h]
  | cons f fs ih =>
    simp only [fillMissing, ih, List.mem_cons]
    split
    · rename_i hf
      by_cases hx : has c x = true
      · simp [hx]
      · simp [hx, show x ≠ f from fun e => hx (e ▸ hf)]
    · rename_i hf
      by_cases hxf : x = f
      · subst hxf
        simp [has_set, get_set, hf]
      · simp [has_set, get_set, hxf]

theorem has_fillMissing (F : List Str) (c : Ctx) (x : Str) :
    has (fillMissing F c) x = (has c x || decide (x ∈ F)) := by
  simp only [has, get_fillMissing]
  by_cases h : (get c x).isSome = true
  · simp [h]
  · by_cases hx : x ∈ F <;> simp [h, hx]

theorem optV_map (hf : f .none = .none) (o : Option Val) :
    optV (o.map f) = f (optV o) := by
  cases o <;> simp [optV, hf]

theorem optV_fillMissing (F : List Str) (c : Ctx) (x : Str) :
    optV (get (fillMissing F c) x) = optV (get c x) := by
  rw [get_fillMissing]
  by_cases h : has c x = true
  · simp [h]
  · have : get c x = none := by
      simp only [has] at h
      cases hg : get c x <;> simp_all
    simp only [h, Bool.false_eq_true, if_false, this]
    by_cases hx : x ∈ F <;> simp [hx, optV]

theorem blockOf_of_ne (h : v ≠ .none) : blockOf v = v := by
  cases v <;> simp_all [blockOf]

theorem optV_defaultBlock (c : Ctx) (x : Str) :
    optV (get (defaultBlock c) x) =
      if x = kKeyBlocksize then blockOf (optV (get c x)) else optV (get c x) := by
  unfold defaultBlock
  by_cases hx : x = kKeyBlocksize
  · subst hx
    cases hg : get c kKeyBlocksize with
    | none => simp [get_set, optV, blockOf]
    | some w => cases w <;> simp [get_set, hg, optV, blockOf]
  · cases hg : get c kKeyBlocksize with
    | none => simp [get_set, hx]
    | some w => cases w <;> simp [get_set, hx]

theorem has_defaultBlock (c : Ctx) (x : Str) :
    has (defaultBlock c) x = (has c x || decide (x = kKeyBlocksize)) := by
  unfold defaultBlock
  split
  · simp [has_set, Bool.or_comm]
  · simp [has_set, Bool.or_comm]
  · by_cases hx : x = kKeyBlocksize
    · simp [has, *]
    · simp [hx]

theorem collect_eq (F : List Str) (c : Ctx) :
    collect F c = if F.all (has c) then .ok (F.map fun f => optV (get c f)) else .error .typeError := by
  induction F with
  | nil => rfl
  | cons f fs ih =>
    cases hv : get c f with
    | none => simp [collect, has, hv]
    | some v => by_cases ha : fs.all (has c) = true <;> simp [collect, has, hv, ih, ha, optV]

/-- the field of the key for keyword `kw` whose value in the context is `v` (absent ≡ `None`) -/
def keyV (kw : Str) (v : Val) : Val := steps keySteps kw v

/-- the value of field `f` (`"key_" + kw`) in the key of context `c` -/
def fieldOf (c : Ctx) (f : Str) : Val :=
  keyV (f.drop keyPrefix.length) (optV (get c (f.drop keyPrefix.length)))

theorem fieldOf_key (c : Ctx) (kw : Str) : fieldOf c (keyPrefix ++ kw) = keyV kw (optV (get c kw)) := by
  rw [fieldOf, List.drop_left]

/-- the field `"key_" + kw` of the context the constructor gets, read off the context given -/
theorem built_field (F : List Str) {c6 : Ctx} (m : Maps preSteps c c6) (kw : Str) :
    optV (get (defaultBlock (fillMissing F (renamed c6))) (keyPrefix ++ kw)) = fieldOf c (keyPrefix ++ kw) := by
  have hn : steps preSteps kw .none = .none :=
    steps_none (by simp [preSteps, lowerV, freezeV, sockV_none]) kw
  rw [optV_defaultBlock, optV_fillMissing, get_renamed, m.2, optV_map hn, fieldOf_key]
  simp only [keyV, keySteps, steps, List.foldl_append, List.foldl_cons, List.foldl_nil, onKey,
    kKeyBlocksize, List.append_right_inj]
  split <;> rfl

/-- `_default_key_normalizer` on a dict without clashes (`hF`: every field is `"key_" +` a keyword): past the
pre-processing only the constructor can fail, and it does exactly when some keyword, or `blocksize`, has no field -/
theorem normalizeWith_eq {F : List Str} (hF : ∀ f ∈ F, f = keyPrefix ++ f.drop keyPrefix.length)
    (hd : IsDict c) (hc : NoClash c) :
    normalizeWith F c =
      match pre c with
      | .error e => .error e
      | .ok _ =>
        if (∀ kw ∈ keys c, keyPrefix ++ kw ∈ F) ∧ kKeyBlocksize ∈ F then .ok (F.map (fieldOf c))
        else .error .typeError := by
  unfold normalizeWith
  cases h6 : pre c with
  | error e => rfl
  | ok c6 =>
    have m := (pre_spec h6).1
    have hk6 := m.1
    have hhas (x) : has (defaultBlock (fillMissing F (renamed c6))) x = true ↔
        (∃ kw ∈ keys c, x = keyPrefix ++ kw) ∨ x ∈ F ∨ x = kKeyBlocksize := by
      rw [has_defaultBlock, has_fillMissing, Bool.or_eq_true, Bool.or_eq_true, decide_eq_true_eq, decide_eq_true_eq,
        ← mem_keys, keys_renamed, List.mem_map, hk6, or_assoc]
      exact or_congr_left ⟨fun ⟨kw, h, e⟩ => ⟨kw, h, e.symm⟩, fun ⟨kw, h, e⟩ => ⟨kw, h, e.symm⟩⟩
    simp only [renameLoop_eq (c := c6) (by rw [IsDict, hk6]; exact hd) (by rw [NoClash, hk6]; exact hc), construct,
      collect_eq]
    rw [if_pos (List.all_eq_true.mpr fun f hf => (hhas f).mpr (.inr (.inl hf)))]
    have hall : ((keys (defaultBlock (fillMissing F (renamed c6)))).all fun k => decide (k ∈ F)) = true ↔
        (∀ kw ∈ keys c, keyPrefix ++ kw ∈ F) ∧ kKeyBlocksize ∈ F := by
      simp only [List.all_eq_true, decide_eq_true_eq, mem_keys, hhas]
      constructor
      · exact fun h => ⟨fun kw hkw => h _ (.inl ⟨kw, hkw, rfl⟩), h _ (.inr (.inr rfl))⟩
      · rintro ⟨h1, h2⟩ x (⟨kw, hkw, rfl⟩ | hx | rfl)
        · exact h1 kw hkw
        · exact hx
        · exact h2
    by_cases hA : (∀ kw ∈ keys c, keyPrefix ++ kw ∈ F) ∧ kKeyBlocksize ∈ F
    · rw [if_pos hA, if_pos (hall.mpr hA)]
      exact congrArg Except.ok (List.map_congr_left fun f hf => by rw [hF f hf]; exact built_field F m _)
    · rw [if_neg hA, if_neg (mt hall.mp hA)]

theorem normalizeWith_ok_iff {F : List Str} (hF : ∀ f ∈ F, f = keyPrefix ++ f.drop keyPrefix.length)
    (hd : IsDict c) (hc : NoClash c) {key : Key} :
    normalizeWith F c = .ok key ↔
      Good c ∧ ((∀ kw ∈ keys c, keyPrefix ++ kw ∈ F) ∧ kKeyBlocksize ∈ F) ∧ key = F.map (fieldOf c) := by
  rw [normalizeWith_eq hF hd hc]
  constructor
  · intro h
    cases h6 : pre c with
    | error e =>
      rw [h6] at h
      cases h
    | ok c6 =>
      simp only [h6] at h
      split at h
      · rename_i hA
        cases h
        exact ⟨(pre_spec h6).2, hA, rfl⟩
      · cases h
  · rintro ⟨g, hA, rfl⟩
    obtain ⟨c6, h6⟩ := pre_ok g
    rw [h6]
    exact if_pos hA

/-- `keyV` with the case distinction of `FieldEquiv` -/
theorem keyV_eq (kw : Str) (v : Val) :
    keyV kw v =
      if kw = kScheme ∨ kw = kHost then lowerV v
      else if kw = kHeaders ∨ kw = kProxyHeaders ∨ kw = kSocksOptions then freezeV v
      else if kw = kSocketOptions then sockV v
      else if kw = kBlocksize then blockOf v
      else v := by
  have rows : ∀ s ∈ keySteps, keyV s.1 v = s.2 v := fun s h => steps_of_mem keySteps_nodup h v
  simp only [keySteps, preSteps, List.cons_append, List.nil_append, List.forall_mem_cons] at rows
  obtain ⟨hs, hh, hhd, hph, hso, hsk, hb, -⟩ := rows
  by_cases c1 : kw = kScheme ∨ kw = kHost
  · rw [if_pos c1]
    rcases c1 with rfl | rfl
    · exact hs
    · exact hh
  rw [if_neg c1]
  by_cases c2 : kw = kHeaders ∨ kw = kProxyHeaders ∨ kw = kSocksOptions
  · rw [if_pos c2]
    rcases c2 with rfl | rfl | rfl
    · exact hhd
    · exact hph
    · exact hso
  rw [if_neg c2]
  by_cases c3 : kw = kSocketOptions
  · rw [if_pos c3, c3]
    exact hsk
  rw [if_neg c3]
  by_cases c4 : kw = kBlocksize
  · rw [if_pos c4, c4]
    exact hb
  rw [if_neg c4]
  exact steps_of_notMem (by simp [keySteps, preSteps, *]) v

/-- what a successful normalisation tells about the value `v` of keyword `kw` (absent ≡ `None`) -/
def WellTyped (kw : Str) (v : Val) : Prop :=
  ((kw = kScheme ∨ kw = kHost) → ∃ s, v = .str s) ∧
  ((kw = kHeaders ∨ kw = kProxyHeaders ∨ kw = kSocksOptions) → v = .none ∨ ∃ d, v = .dict d) ∧
  (kw = kSocketOptions → v = .none ∨ ∃ l, asSeq v = some l)

theorem FrozenOk.optV {o : Option Val} (h : FrozenOk o) :
    PoolKey.optV o = .none ∨ ∃ d, PoolKey.optV o = .dict d := by
  rcases h with rfl | rfl | ⟨d, rfl⟩
  · exact .inl rfl
  · exact .inl rfl
  · exact .inr ⟨d, rfl⟩

theorem SockOk.optV {o : Option Val} (h : SockOk o) :
    PoolKey.optV o = .none ∨ ∃ l, asSeq (PoolKey.optV o) = some l := by
  rcases h with rfl | rfl | ⟨v, l, rfl, hl⟩
  · exact .inl rfl
  · exact .inl rfl
  · exact .inr ⟨l, hl⟩

theorem Good.wellTyped (g : Good c) (kw : Str) : WellTyped kw (optV (get c kw)) := by
  refine ⟨?_, ?_, ?_⟩
  · rintro (rfl | rfl)
    · obtain ⟨s, hs⟩ := g.scheme
      exact ⟨s, by rw [hs]; rfl⟩
    · obtain ⟨s, hs⟩ := g.host
      exact ⟨s, by rw [hs]; rfl⟩
  · rintro (rfl | rfl | rfl)
    · exact g.headers.optV
    · exact g.proxyHeaders.optV
    · exact g.socksOptions.optV
  · rintro rfl
    exact g.socketOptions.optV

theorem fieldEquiv_of_eq {kw : Str} {a b : Val} (ha : WellTyped kw a) (hb : WellTyped kw b)
    (h : keyV kw a = keyV kw b) : FieldEquiv kw a b := by
  unfold FieldEquiv
  rw [keyV_eq, keyV_eq] at h
  by_cases c1 : kw = kScheme ∨ kw = kHost
  · simp only [if_pos c1] at h ⊢
    obtain ⟨s, rfl⟩ := ha.1 c1
    obtain ⟨t, rfl⟩ := hb.1 c1
    exact ⟨s, t, rfl, rfl, by simpa [lowerV] using h⟩
  simp only [if_neg c1] at h ⊢
  by_cases c2 : kw = kHeaders ∨ kw = kProxyHeaders ∨ kw = kSocksOptions
  · simp only [if_pos c2] at h ⊢
    rcases ha.2.1 c2 with rfl | ⟨d, rfl⟩ <;> rcases hb.2.1 c2 with rfl | ⟨e, rfl⟩
    · exact .inl ⟨rfl, rfl⟩
    · cases h
    · cases h
    · refine .inr ⟨d, e, rfl, rfl, fun p => ?_⟩
      have h' : toSet d = toSet e := by simpa [freezeV] using h
      rw [← mem_toSet p d, ← mem_toSet p e, h']
  simp only [if_neg c2] at h ⊢
  by_cases c3 : kw = kSocketOptions
  · simp only [if_pos c3] at h ⊢
    rcases ha.2.2 c3 with rfl | ⟨l, hl⟩ <;> rcases hb.2.2 c3 with rfl | ⟨m, hm⟩
    · exact .inl ⟨rfl, rfl⟩
    · rw [sockV_none] at h
      simp [sockV, hm] at h
    · rw [sockV_none] at h
      simp [sockV, hl] at h
    · have h' : l = m := by simpa [sockV, hl, hm] using h
      exact .inr ⟨l, hl, h' ▸ hm⟩
  simp only [if_neg c3] at h ⊢
  by_cases c4 : kw = kBlocksize
  · simp only [if_pos c4] at h ⊢
    exact h
  · simp only [if_neg c4] at h ⊢
    exact h

theorem injective_with {F : List Str} {c1 c2 : Ctx} {k : Key}
    (hF : ∀ f ∈ F, f = keyPrefix ++ f.drop keyPrefix.length)
    (d1 : IsDict c1) (d2 : IsDict c2) (n1 : NoClash c1) (n2 : NoClash c2)
    (h1 : normalizeWith F c1 = .ok k) (h2 : normalizeWith F c2 = .ok k) : CtxEquiv c1 c2 := by
  obtain ⟨g1, ⟨m1, -⟩, e1⟩ := (normalizeWith_ok_iff hF d1 n1).mp h1
  obtain ⟨g2, ⟨m2, -⟩, e2⟩ := (normalizeWith_ok_iff hF d2 n2).mp h2
  intro kw
  refine fieldEquiv_of_eq (g1.wellTyped kw) (g2.wellTyped kw) ?_
  by_cases hk : keyPrefix ++ kw ∈ F
  · rw [← fieldOf_key, ← fieldOf_key]
    exact List.map_inj_left.mp (e1 ▸ e2) _ hk
  · -- a keyword outside the field list is in neither context
    rw [get_eq_none.mpr fun hm => hk (m1 kw hm), get_eq_none.mpr fun hm => hk (m2 kw hm)]

theorem fieldEquiv_absent {kw : Str} (hs : kw ≠ kScheme) (hh : kw ≠ kHost) :
    FieldEquiv kw .none .none :=
  have ok : WellTyped kw .none := ⟨fun c => (c.elim hs hh).elim, fun _ => .inl rfl, fun _ => .inl rfl⟩
  fieldEquiv_of_eq ok ok rfl

/-- the keywords whose values `FieldEquiv` compares up to something coarser than equality -/
def specialKeywords : List Str :=
  [kScheme, kHost, kHeaders, kProxyHeaders, kSocksOptions, kSocketOptions, kBlocksize]

theorem fieldEquiv_plain {kw : Str} {a b : Val} (h : kw ∉ specialKeywords) :
    FieldEquiv kw a b ↔ a = b := by
  simp only [specialKeywords, List.mem_cons, List.not_mem_nil, or_false, not_or] at h
  unfold FieldEquiv
  simp [h]

theorem not_ctxEquiv_of_plain {c₁ c₂ : Ctx} {kw : Str} (hp : kw ∉ specialKeywords)
    (hne : optV (get c₁ kw) ≠ optV (get c₂ kw)) : ¬ CtxEquiv c₁ c₂ :=
  fun h => hne ((fieldEquiv_plain hp).mp (h kw))

theorem get_mergeStep (b : Ctx) (kv : Str × Val) (x : Str) :
    get (mergeStep b kv) x =
      if x = kv.1 then (if kv.2 = .none then none else some kv.2) else get b x := by
  unfold mergeStep
  split
  · rename_i h
    rw [get_erase]
    simp [h]
  · rename_i h
    rw [get_set]
    by_cases hx : x = kv.1
    · have : kv.2 ≠ .none := h
      simp [hx, this]
    · simp [hx]

theorem get_foldl_merge (o : Ctx) (hd : IsDict o) (d : Ctx) (x : Str) :
    get (o.foldl mergeStep d) x =
      match get o x with
      | none => get d x
      | some .none => none
      | some v => some v := by
  induction o generalizing d with
  | nil => simp
  | cons p t ih =>
    have hnd := List.nodup_cons.mp hd
    simp only [List.foldl_cons]
    rw [ih hnd.2, get_cons]
    by_cases hx : x = p.1
    · have : get t x = none := get_eq_none.mpr (hx ▸ hnd.1)
      rw [this]
      simp only [hx, if_true, get_mergeStep]
      cases hv : p.2 <;> simp
    · simp only [hx, if_false, get_mergeStep]

theorem hostKeys_nodup : [kScheme, kHost, kPort].Nodup := by decide +kernel

theorem kScheme_ne_kHost : kScheme ≠ kHost := by grind [hostKeys_nodup]
theorem kScheme_ne_kPort : kScheme ≠ kPort := by grind [hostKeys_nodup]
theorem kHost_ne_kPort : kHost ≠ kPort := by grind [hostKeys_nodup]

/-- the context `connection_from_host` builds on top of the merged keyword arguments `m` -/
def hostCtx (m : Ctx) (s : Str) (p : Val) (h : Str) : Ctx :=
  set (set (set m kScheme (.str s)) kPort p) kHost (.str h)

/-- `scheme or "http"` -/
def schemeOr (s : Str) : Str := if s.isEmpty then kHttp else s

/-- `if not port: port = port_by_scheme.get(scheme.lower(), 80)` -/
def portOr (p : Val) (sch : Str) : Val :=
  if p.truthy then p else .int ((List.lookup (lower sch) Gen.portByScheme).getD 80)

theorem requestContext_eq (d : Ctx) (h : Str) (p : Val) (s : Str) (kw : Option Ctx) :
    requestContext d (some h) p (some s) kw =
      if h.isEmpty then .error .locationValueError
      else .ok (hostCtx (merge d kw) (schemeOr s) (portOr p (schemeOr s)) h) := rfl

theorem get_hostCtx (d : Ctx) (s : Str) (p : Val) (h x : Str) :
    get (hostCtx d s p h) x =
      if x = kHost then some (.str h) else if x = kPort then some p else if x = kScheme then some (.str s)
      else get d x := by
  simp only [hostCtx, get_set]

theorem get_hostCtx_keys (d : Ctx) (s : Str) (p : Val) (h : Str) :
    get (hostCtx d s p h) kScheme = some (.str s) ∧ get (hostCtx d s p h) kHost = some (.str h) ∧
      get (hostCtx d s p h) kPort = some p := by
  simp [get_hostCtx, kScheme_ne_kHost, kScheme_ne_kPort, kHost_ne_kPort.symm]

theorem lower_hostCtx (m : Ctx) (s : Str) (p : Val) (h : Str) :
    lowerKey (hostCtx m s p h) kScheme = .ok (hostCtx (upd kScheme (.str (lower s)) m) (lower s) p h) ∧
    lowerKey (hostCtx m s p h) kHost = .ok (hostCtx (upd kHost (.str (lower h)) m) s p (lower h)) := by
  obtain ⟨hs, hh, -⟩ := get_hostCtx_keys m s p h
  rw [lowerKey_str hs, lowerKey_str hh]
  unfold hostCtx
  rw [upd_set, upd_set, upd_set, upd_set, upd_set, upd_set]
  simp [kScheme_ne_kHost, kScheme_ne_kHost.symm, kScheme_ne_kPort.symm, kHost_ne_kPort.symm]

theorem lower_schemeOr {s₁ s₂ : Str} (hs : lower s₁ = lower s₂) :
    lower (schemeOr s₁) = lower (schemeOr s₂) := by
  unfold schemeOr
  have hl : s₁.length = s₂.length := by rw [← lower_length s₁, hs, lower_length]
  cases s₁ <;> cases s₂ <;> simp_all

theorem normalize_hostCtx_case (m : Ctx) (p : Val) {s₁ s₂ h₁ h₂ : Str}
    (hs : lower s₁ = lower s₂) (hh : lower h₁ = lower h₂) :
    normalize (hostCtx m s₁ p h₁) = normalize (hostCtx m s₂ p h₂) := by
  unfold normalize normalizeWith pre
  simp only [(lower_hostCtx _ _ _ _).1, (lower_hostCtx _ _ _ _).2, hs, hh]

/-- the pool key of a context the normaliser accepts -/
def keyOf (c : Ctx) : Key := Gen.poolKeyFields.map (fieldOf c)

/-- what the proofs need of the generated field list `PoolKey._fields` and of the keyword constants -/
structure FieldConsts : Prop where
  prefixed : ∀ f ∈ Gen.poolKeyFields, f = keyPrefix ++ f.drop keyPrefix.length
  blocksize : kKeyBlocksize ∈ Gen.poolKeyFields
  noStrict : keyPrefix ++ kStrict ∉ Gen.poolKeyFields
  /-- `port` is none of the keywords the normaliser rewrites -/
  port : kPort ∉ keySteps.map (·.1)

/-- the four fields as one conjunction, evaluated once: the kernel decodes the string constants anew in every
declaration -/
theorem fieldConsts : FieldConsts :=
  have h : _ ∧ _ ∧ _ ∧ _ := by decide +kernel
  ⟨h.1, h.2.1, h.2.2.1, h.2.2.2⟩

theorem normalize_eq (hd : IsDict c) (hc : NoClash c) (g : Good c)
    (hF : ∀ kw ∈ keys c, keyPrefix ++ kw ∈ Gen.poolKeyFields) : normalize c = .ok (keyOf c) :=
  (normalizeWith_ok_iff fieldConsts.prefixed hd hc).mpr ⟨g, ⟨hF, fieldConsts.blocksize⟩, rfl⟩

/-- which keywords a request context has does not depend on scheme, host and port -/
theorem keys_hostCtx (d : Ctx) (s : Str) (p : Val) (h : Str) :
    keys (hostCtx d s p h) = keys (hostCtx d [] .none []) := by
  simp only [hostCtx, keys_set, has_set]

/-- manager defaults (`connection_pool_kw`) over which every request context has a key -/
structure Fine (d : Ctx) : Prop where
  dict : IsDict (hostCtx d [] .none [])
  noClash : NoClash (hostCtx d [] .none [])
  fields : ∀ kw ∈ keys (hostCtx d [] .none []), keyPrefix ++ kw ∈ Gen.poolKeyFields
  headers : FrozenOk (get d kHeaders)
  proxyHeaders : FrozenOk (get d kProxyHeaders)
  socksOptions : FrozenOk (get d kSocksOptions)
  socketOptions : SockOk (get d kSocketOptions)

theorem Fine.good {d : Ctx} (f : Fine d) (s : Str) (p : Val) (h : Str) : Good (hostCtx d s p h) := by
  have nd := keySteps_nodup
  have np := fieldConsts.port
  simp only [keySteps, preSteps, List.cons_append, List.nil_append, List.map_cons, List.map_nil,
    List.nodup_cons, List.mem_cons, List.not_mem_nil, or_false, not_or] at nd np
  refine ⟨⟨s, (get_hostCtx_keys d s p h).1⟩, ⟨h, (get_hostCtx_keys d s p h).2.1⟩, ?_, ?_, ?_, ?_⟩
  · rw [get_hostCtx]
    simpa [nd, Ne.symm, np] using f.headers
  · rw [get_hostCtx]
    simpa [nd, Ne.symm, np] using f.proxyHeaders
  · rw [get_hostCtx]
    simpa [nd, Ne.symm, np] using f.socksOptions
  · rw [get_hostCtx]
    simpa [nd, Ne.symm, np] using f.socketOptions

theorem normalize_hostCtx {d : Ctx} (f : Fine d) (s : Str) (p : Val) (h : Str) :
    normalize (hostCtx d s p h) = .ok (keyOf (hostCtx d s p h)) :=
  normalize_eq (by rw [IsDict, keys_hostCtx]; exact f.dict) (by rw [NoClash, keys_hostCtx]; exact f.noClash)
    (f.good s p h) (by rw [keys_hostCtx]; exact f.fields)

theorem Fine.no_strict {d : Ctx} (f : Fine d) (s : Str) (p : Val) (h : Str) :
    has (hostCtx d s p h) kStrict = false := by
  rw [Bool.eq_false_iff, Ne, ← mem_keys, keys_hostCtx]
  exact fun hm => fieldConsts.noStrict (f.fields _ hm)

/-- `if "strict" in request_context: request_context.pop("strict")` of `connection_from_context`, in place: the key
function and `_new_pool` get the context without it -/
def unstrict (rc : Ctx) : Ctx := if has rc kStrict then erase rc kStrict else rc

theorem get_unstrict {rc : Ctx} {x : Str} (h : x ≠ kStrict) : get (unstrict rc) x = get rc x := by
  unfold unstrict
  split
  · rw [get_erase, if_neg h]
  · rfl

theorem hostKeys_ne_kStrict : kScheme ≠ kStrict ∧ kHost ≠ kStrict ∧ kPort ≠ kStrict := by decide +kernel

theorem fromContext_hostCtx (m : Mgr) (d : Ctx) (s : Str) (p : Val) (h : Str) :
    fromContext m (hostCtx d s p h) =
      if !(Gen.keyFnSchemes.contains (lower s)) then (m, .exc .urlSchemeUnknown) else
      match normalize (unstrict (hostCtx d s p h)) with
      | .error e => (m, .exc e)
      | .ok key =>
        match List.lookup key m.pools with
        | some id => (m, .old id)
        | none =>
          if !(Gen.poolClassSchemes.contains s) then (m, .exc .keyError) else
          ({ m with pools := m.pools ++ [(key, m.next)], next := m.next + 1 },
            .new m.next (newPoolKw s (unstrict (hostCtx d s p h)))) := by
  obtain ⟨hs, hh, hp⟩ := get_hostCtx_keys d s p h
  rw [fromContext, ← unstrict]
  simp only [get_unstrict hostKeys_ne_kStrict.1, get_unstrict hostKeys_ne_kStrict.2.1,
    get_unstrict hostKeys_ne_kStrict.2.2, hs, hh, hp]
  split
  · rfl
  · cases normalize (unstrict (hostCtx d s p h)) with
    | error e => rfl
    | ok key => cases List.lookup key m.pools <;> rfl

/-- the derived instance (`U3.Lemmas.Str`) evaluates slower on the vectors of `U3.Props.C18` -/
instance {α : Type} [DecidableEq α] : DecidableEq (Except Exc α) := fun a b =>
  match a, b with
  | .ok x, .ok y => if h : x = y then isTrue (h ▸ rfl) else isFalse (fun e => by cases e; exact h rfl)
  | .error x, .error y => if h : x = y then isTrue (h ▸ rfl) else isFalse (fun e => by cases e; exact h rfl)
  | .ok _, .error _ => isFalse (fun e => by cases e)
  | .error _, .ok _ => isFalse (fun e => by cases e)

/-- `∃ k, x = .ok k` in a form that evaluates -/
def isOk : Except Exc Key → Bool
  | .ok _ => true
  | .error _ => false

theorem exists_of_isOk {x : Except Exc Key} (h : isOk x = true) : ∃ k, x = .ok k := by
  cases x with
  | ok k => exact ⟨k, rfl⟩
  | error e => cases h

end U3.PoolKey
