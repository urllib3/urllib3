import U3.Model.Hostname
import U3.Lemmas.Str
/-! For `U3/Props/C08.lean`: the accepting shapes of `_dnsname_match` (`dnsnameMatch_true`), the SAN loop of
`match_hostname` one entry at a time (`sanStep`, `sanLoop_cons`, `sanLoop_spec`), the normal form of a pin. -/
namespace U3.Hostname
open U3

theorem sep_notin_of_mem_splitOn1 {c : Nat} {s l : List Nat} (hl : l ∈ splitOn1 c s) : c ∉ l :=
  splitOn1_no_sep c s l hl

theorem count_star_split (s : Str) :
    s.count star = ((splitOn1 dot s).map (List.count star)).sum := by
  induction s with
  | nil => simp [splitOn1]
  | cons a t ih =>
    unfold splitOn1
    split
    · rename_i h
      subst h
      rw [List.count_cons_of_ne (by decide)]
      simpa using ih
    · split
      · rename_i h
        exact absurd h (splitOn1_ne_nil dot t)
      · rename_i p ps hp
        rw [hp] at ih
        simp only [List.map_cons, List.sum_cons, List.count_cons] at ih ⊢
        omega

theorem labelsEqCI_iff {as bs : List Str} : labelsEqCI as bs = true ↔ as.map lower = bs.map lower := by
  induction as generalizing bs with
  | nil => cases bs <;> simp [labelsEqCI]
  | cons a as ih => cases bs <;> simp [labelsEqCI, ih]

/-- the first piece of the pattern `_dnsname_match` builds for a left-most label with one `*`: the `let p`
inside `dnsnameMatch`, which `dnsnameMatch_eq` reads as this by `rfl` -/
def leftPat (leftmost host : Str) : LeftPat :=
  if leftmost = [star] then .plus
  else if xnPrefix.isPrefixOf (lower leftmost) || xnPrefix.isPrefixOf (lower host) then .literal leftmost
  else .glob leftmost

theorem dnsnameMatch_eq {san host leftmost : Str} {remainder : List Str} (hne : san ≠ [])
    (hs : splitOn1 dot san = leftmost :: remainder) :
    dnsnameMatch san host =
      if leftmost.count star > 1 then .error .certificateError
      else if leftmost.count star = 0 then .ok (lower san == lower host)
      else .ok (matchPats (leftPat leftmost host) remainder host) := by
  unfold dnsnameMatch
  have : san.isEmpty = false := by cases san <;> simp_all
  simp only [this, hs]
  rfl

theorem dnsnameMatch_nil (host : Str) : dnsnameMatch [] host = .ok false := by
  simp [dnsnameMatch]

theorem dnsnameMatch_error {san host : Str} {e : Exc} (h : dnsnameMatch san host = .error e) :
    e = .certificateError := by
  by_cases hn : san = []
  · subst hn
    rw [dnsnameMatch_nil] at h
    cases h
  · obtain ⟨l, r, hsp⟩ := List.exists_cons_of_ne_nil (splitOn1_ne_nil dot san)
    rw [dnsnameMatch_eq hn hsp] at h
    split at h
    · cases h
      rfl
    · split at h <;> cases h

theorem xnPrefix_lower_iff (s : Str) : xnPrefix.isPrefixOf (lower s) = true ↔ lower (s.take 4) = xnPrefix := by
  rw [List.isPrefixOf_iff_prefix, List.prefix_iff_eq_take]
  simp only [lower, List.map_take, xnPrefix, List.length_cons, List.length_nil]
  exact eq_comm

theorem dnsnameMatch_true {san host l : Str} {r : List Str} (hs : splitOn1 dot san = l :: r)
    (h : dnsnameMatch san host = .ok true) :
    (star ∉ l ∧ lower san = lower host) ∨
    (star ∈ l ∧ ∃ h0 hs', splitOn1 dot host = h0 :: hs' ∧ matchLeft (leftPat l host) h0 = true ∧
      r.map lower = hs'.map lower) := by
  have hn : san ≠ [] := by
    rintro rfl
    rw [dnsnameMatch_nil] at h
    cases h
  rw [dnsnameMatch_eq hn hs] at h
  split at h
  · cases h
  · split at h
    · rename_i h0
      exact Or.inl ⟨List.count_eq_zero.1 h0, by simpa using h⟩
    · rename_i h0
      simp only [matchPats, Except.ok.injEq] at h
      split at h
      · cases h
      · rename_i h0' hs' hsplit
        rw [Bool.and_eq_true, labelsEqCI_iff] at h
        exact Or.inr ⟨List.count_pos_iff.1 (Nat.pos_of_ne_zero h0), h0', hs', hsplit, h⟩

inductive SanStep where
  /-- the entry matches: `return` -/
  | ret
  /-- an exception leaves the loop (`CertificateError` from `_dnsname_match` does not: it is passed over) -/
  | raise (x : Exc)
  /-- the loop goes on -/
  | next

def sanStep (host : Str) (hip : Option IpAddr) (e : Str × Str) : SanStep :=
  match hip with
  | none => if e.1 = kDNS ∧ dnsnameMatch e.2 host = .ok true then .ret else .next
  | some ip =>
    if e.1 = kIP then
      match ipaddressMatch e.2 ip with
      | .error x => .raise x
      | .ok true => .ret
      | .ok false => .next
    else .next

/-- whether the loop goes on past an entry depends on host and value; whether the value is appended to `dnsnames`
on the way only on the kind of the entry -/
theorem sanLoop_cons (host : Str) (hip : Option IpAddr) (e : Str × Str) (rest : List (Str × Str)) (names : List Str) :
    sanLoop host hip (e :: rest) names =
      match sanStep host hip e with
      | .ret => .ok none
      | .raise x => .error x
      | .next => sanLoop host hip rest (if e.1 = kDNS ∨ e.1 = kIP then names ++ [e.2] else names) := by
  obtain ⟨key, value⟩ := e
  rw [sanLoop.eq_def]
  unfold sanStep
  have hne : kIP ≠ kDNS := by decide
  cases hip with
  | none =>
    by_cases hk : key = kDNS
    · subst hk
      cases hd : dnsnameMatch value host with
      | error x =>
        cases dnsnameMatch_error hd
        simp [hd]
      | ok b => cases b <;> simp [hd]
    · by_cases hk2 : key = kIP <;> simp [hk, hk2, hne]
  | some ip =>
    by_cases hk2 : key = kIP
    · subst hk2
      cases hm : ipaddressMatch value ip with
      | error x => simp [hne, hm]
      | ok b => cases b <;> simp [hne, hm]
    · by_cases hk : key = kDNS <;> simp [hk, hk2, hne.symm]

theorem sanLoop_spec {host : Str} {hip : Option IpAddr} {san : List (Str × Str)} {names : List Str} :
    (sanLoop host hip san names = .ok none → ∃ e ∈ san, sanStep host hip e = .ret) ∧
    (∀ x, sanLoop host hip san names = .error x → ∃ e ∈ san, sanStep host hip e = .raise x) ∧
    ∀ names', sanLoop host hip san names = .ok (some names') →
      (∀ e ∈ san, sanStep host hip e = .next) ∧
      names' = names ++ (san.filter fun e => e.1 = kDNS ∨ e.1 = kIP).map (·.2) := by
  induction san generalizing names with
  | nil => simp [sanLoop, eq_comm]
  | cons e rest ih =>
    rw [sanLoop_cons]
    cases hs : sanStep host hip e with
    | ret => exact ⟨fun _ => ⟨e, List.mem_cons_self, hs⟩, (fun _ h => nomatch h), (fun _ h => nomatch h)⟩
    | raise x =>
      exact ⟨(fun h => nomatch h), fun _ h => ⟨e, List.mem_cons_self, Except.error.inj h ▸ hs⟩, (fun _ h => nomatch h)⟩
    | next =>
      obtain ⟨hret, hraise, hnext⟩ := ih (names := if e.1 = kDNS ∨ e.1 = kIP then names ++ [e.2] else names)
      have up {s : SanStep} : (∃ e' ∈ rest, sanStep host hip e' = s) → ∃ e' ∈ e :: rest, sanStep host hip e' = s :=
        Exists.imp fun _ => And.imp_left (List.mem_cons_of_mem e)
      refine ⟨fun h => up (hret h), fun x h => up (hraise x h), fun names' h => ?_⟩
      obtain ⟨hall, rfl⟩ := hnext names' h
      refine ⟨List.forall_mem_cons.2 ⟨hs, hall⟩, ?_⟩
      by_cases hk : e.1 = kDNS ∨ e.1 = kIP <;> simp [hk]

theorem sanLoop_ret_iff {host : Str} {hip : Option IpAddr} {san : List (Str × Str)} {names : List Str}
    (hnr : ∀ e ∈ san, ∀ x, sanStep host hip e ≠ .raise x) :
    (sanLoop host hip san names = .ok none ↔ ∃ e ∈ san, sanStep host hip e = .ret) ∧
    ∀ x, sanLoop host hip san names ≠ .error x := by
  obtain ⟨hret, hraise, hnext⟩ := sanLoop_spec (host := host) (hip := hip) (san := san) (names := names)
  have herr : ∀ x, sanLoop host hip san names ≠ .error x := fun x hx => by
    obtain ⟨e, he, h⟩ := hraise x hx
    exact hnr e he x h
  refine ⟨⟨hret, fun ⟨e, he, hr⟩ => ?_⟩, herr⟩
  cases hl : sanLoop host hip san names with
  | error x => exact absurd hl (herr x)
  | ok r =>
    cases r with
    | none => rfl
    | some names' =>
      have := (hnext names' hl).1 e he
      rw [hr] at this
      cases this

theorem sanLoop_recorded {host : Str} {hip : Option IpAddr} {san : List (Str × Str)} {names names' : List Str}
    (h : sanLoop host hip san names = .ok (some names')) (hk : ∃ e ∈ san, e.1 = kDNS ∨ e.1 = kIP) : names' ≠ [] := by
  obtain ⟨-, rfl⟩ := sanLoop_spec.2.2 names' h
  obtain ⟨e, he, hk⟩ := hk
  have hm : e.2 ∈ (san.filter fun e => e.1 = kDNS ∨ e.1 = kIP).map (·.2) :=
    List.mem_map_of_mem (List.mem_filter.2 ⟨he, by simpa using hk⟩)
  exact fun h0 => List.ne_nil_of_mem hm (List.append_eq_nil_iff.1 h0).2

/-- For a DNS host nothing raises: a malformed dNSName entry is passed over, iPAddress entries are not parsed. -/
theorem sanLoop_dns_host {host : Str} {san : List (Str × Str)} {names : List Str} :
    (sanLoop host none san names = .ok none ↔ ∃ e ∈ san, e.1 = kDNS ∧ dnsnameMatch e.2 host = .ok true) ∧
    ∀ x, sanLoop host none san names ≠ .error x := by
  have hret : ∀ e, sanStep host none e = .ret ↔ e.1 = kDNS ∧ dnsnameMatch e.2 host = .ok true := by
    intro e
    simp only [sanStep]
    split <;> simp [*]
  simpa only [hret] using sanLoop_ret_iff (host := host) (hip := none) (san := san) (names := names)
    (fun e _ x => by
      simp only [sanStep]
      split <;> simp)

theorem sanStep_ip_ret {host : Str} {ip : IpAddr} {e : Str × Str} :
    sanStep host (some ip) e = .ret ↔ e.1 = kIP ∧ ipaddressMatch e.2 ip = .ok true := by
  simp only [sanStep]
  by_cases hk : e.1 = kIP
  · simp only [hk, if_true, true_and]
    cases hm : ipaddressMatch e.2 ip with
    | error x => simp
    | ok b => cases b <;> simp
  · simp [hk]

theorem sanLoop_ip_host {host : Str} {ip : IpAddr} {san : List (Str × Str)} {names : List Str}
    (hp : ∀ e ∈ san, e.1 = kIP → (ipAddress (rstrip e.2)).isSome) :
    (sanLoop host (some ip) san names = .ok none ↔ ∃ e ∈ san, e.1 = kIP ∧ ipaddressMatch e.2 ip = .ok true) ∧
    ∀ x, sanLoop host (some ip) san names ≠ .error x := by
  simpa only [sanStep_ip_ret] using sanLoop_ret_iff (host := host) (hip := some ip) (san := san) (names := names) (by
    intro e he x hs
    simp only [sanStep] at hs
    split at hs
    · rename_i hk
      obtain ⟨a, ha⟩ := Option.isSome_iff_exists.1 (hp e he hk)
      simp only [ipaddressMatch, ha] at hs
      split at hs <;> simp_all
    · cases hs)

theorem matchHostname_ok_iff {cert : Cert} {host : Str} {cn : Bool} :
    matchHostname (some cert) host cn = .ok () ↔
      sanLoop host (hostIpOf host) cert.san [] = .ok none ∨
      (cn = true ∧ hostIpOf host = none ∧ sanLoop host (hostIpOf host) cert.san [] = .ok (some []) ∧
        cnLoop host cert.subject.flatten = .ok true) := by
  unfold matchHostname
  simp only
  cases hl : sanLoop host (hostIpOf host) cert.san [] with
  | error e => simp
  | ok r =>
    cases r with
    | none => simp
    | some names =>
      cases cn <;> cases hi : hostIpOf host <;> cases names <;> simp
      cases hc : cnLoop host cert.subject.flatten with
      | error e => simp
      | ok b => cases b <;> simp

theorem unhexlify_some_hex : ∀ {s : Str} {b : Bytes}, unhexlify s = some b → ∀ c ∈ s, (hexVal c).isSome
  | [], _, _ => by simp
  | [_], _, h => by simp [unhexlify] at h
  | a :: c :: t, _, h => by
    unfold unhexlify at h
    split at h
    · rename_i x y r hx hy hr
      have ih := unhexlify_some_hex hr
      intro d hd
      simp only [List.mem_cons] at hd
      rcases hd with h' | h' | h'
      · subst h'
        simp [hx]
      · subst h'
        simp [hy]
      · exact ih d h'
    · cases h

theorem hexVal_lt_128 {c : Nat} (h : (hexVal c).isSome) : c < 128 := by
  unfold hexVal at h
  split at h
  · omega
  · split at h
    · omega
    · split at h
      · omega
      · simp at h

theorem upperC_ne_colon {c : Nat} : (upperC c != colon) = (c != colon) := by
  have : upperC c = colon ↔ c = colon := by
    unfold upperC colon
    split <;> omega
  rw [Bool.eq_iff_iff]
  simp [this]

theorem normPin_upper (p : Str) : normPin (upper p) = normPin p := by
  induction p with
  | nil => rfl
  | cons a t ih =>
    simp only [normPin, upper, lower, List.map_cons, List.filter_cons] at ih ⊢
    rw [upperC_ne_colon]
    split
    · simp only [List.map_cons, lowerC_upperC]
      rw [ih]
    · exact ih

theorem normPin_insert_colon (a b : Str) : normPin (a ++ colon :: b) = normPin (a ++ b) := by
  simp [normPin, List.filter_append]

end U3.Hostname
