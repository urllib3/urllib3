import U3.Model.Retry
/-! Lemmas about `U3.Retry`: what `Retry.increment` does to the counters (`Incremented`; one budget equation
per counter, `Incremented.ledger`), the `urlopen` loop as one step per attempt (`run_cases`; `attempt_cases`
and `run_stop` serve statements about a single attempt), and the ledger of a whole call (`run_ledger`), of
which the budgets of `total` and of every category are instances. -/
namespace U3.Retry
open U3

namespace Retry

theorem foldl_min_lt (xs : List Int) (x : Int) :
    xs.foldl min x < 0 ↔ x < 0 ∨ ∃ y ∈ xs, y < 0 := by
  induction xs generalizing x with
  | nil => simp
  | cons y ys ih =>
    simp only [List.foldl_cons, ih, List.mem_cons, exists_eq_or_imp]
    have : min x y < 0 ↔ x < 0 ∨ y < 0 := by omega
    rw [this, or_assoc]

theorem _root_.U3.Retry.Count.dec_ne_disabled (c : Count) : c.dec ≠ .disabled := by
  cases c <;> simp [Count.dec]

theorem _root_.U3.Retry.Count.budget_dec {c c' : Count} (hc : c' = c.dec) (h : ∀ n, c' = .num n → 0 ≤ n) :
    c.budget = c'.budget.map (· + 1) := by
  subst hc
  cases c with
  | none => rfl
  | disabled => exact absurd (h (-1) rfl) (by omega)
  | num k =>
    have := h (k - 1) rfl
    simp only [Count.dec, Count.budget, Option.map_some, Option.some.injEq]
    omega

theorem _root_.U3.Retry.Count.dec_neg_budget {c : Count} {n : Int} (h : c.dec = .num n) (hn : n < 0) : c.budget = some 0 := by
  cases c with
  | none => cases h
  | disabled => rfl
  | num k =>
    simp only [Count.dec, Count.num.injEq] at h
    simp only [Count.budget, Option.some.injEq]
    omega

/-! ### `__init__`: every field is kept except `remove_headers_on_redirect` (lower-cased), `redirect`
(`False` becomes `0`, which pays for as little) and `raise_on_redirect` (only ever switched off) -/

@[simp] theorem init_fields (p : Retry) :
    (init p).total = p.total ∧ (init p).connect = p.connect ∧ (init p).read = p.read ∧
    (init p).status = p.status ∧ (init p).other = p.other ∧ (init p).allowedMethods = p.allowedMethods ∧
    (init p).statusForcelist = p.statusForcelist ∧ (init p).backoffFactor = p.backoffFactor ∧
    (init p).backoffMax = p.backoffMax ∧ (init p).raiseOnStatus = p.raiseOnStatus ∧
    (init p).respectRetryAfter = p.respectRetryAfter ∧ (init p).history = p.history := by
  simp only [init]
  split <;> simp

theorem init_redirect_eq (p : Retry) (h : p.total ≠ .disabled) (h' : p.redirect ≠ .disabled) :
    (init p).redirect = p.redirect := by
  simp only [init, h, h', or_self, if_false]

theorem init_redirect_budget (p : Retry) (h : p.total ≠ .disabled) :
    (init p).redirect.budget = p.redirect.budget := by
  simp only [init, h, or_false]
  split
  · rename_i hc
    rw [hc]
    rfl
  · rfl

theorem init_raiseOnRedirect (p : Retry) (h : (init p).raiseOnRedirect = true) : p.raiseOnRedirect = true := by
  simp only [init] at h
  split at h
  · cases h
  · exact h

/-- the fields no retry operation touches -/
structure SameConfig (a b : Retry) : Prop where
  allowedMethods : b.allowedMethods = a.allowedMethods
  statusForcelist : b.statusForcelist = a.statusForcelist
  backoffFactor : b.backoffFactor = a.backoffFactor
  backoffMax : b.backoffMax = a.backoffMax
  raiseOnStatus : b.raiseOnStatus = a.raiseOnStatus
  respectRetryAfter : b.respectRetryAfter = a.respectRetryAfter

theorem SameConfig.refl (a : Retry) : SameConfig a a := ⟨rfl, rfl, rfl, rfl, rfl, rfl⟩

theorem SameConfig.trans {a b c : Retry} (h₁ : SameConfig a b) (h₂ : SameConfig b c) : SameConfig a c :=
  ⟨h₂.1.trans h₁.1, h₂.2.trans h₁.2, h₂.3.trans h₁.3, h₂.4.trans h₁.4, h₂.5.trans h₁.5, h₂.6.trans h₁.6⟩

theorem isMethodRetryable_congr {a b : Retry} (h : SameConfig a b) (m : Str) :
    b.isMethodRetryable m = a.isMethodRetryable m := by
  simp [isMethodRetryable, h.allowedMethods]

theorem mem_retryCounts {r : Retry} {n : Int} :
    n ∈ r.retryCounts ↔ Count.num n ∈ r.counters ∧ n ≠ 0 := by
  unfold retryCounts
  simp only [List.mem_filterMap]
  constructor
  · rintro ⟨c, hc, h⟩
    cases c <;> simp at h
    obtain ⟨h0, rfl⟩ := h
    exact ⟨hc, h0⟩
  · rintro ⟨hc, h0⟩
    exact ⟨_, hc, by simp [h0]⟩

theorem isExhausted_iff (r : Retry) :
    r.isExhausted = true ↔ ∃ n : Int, Count.num n ∈ r.counters ∧ n < 0 := by
  have h : r.isExhausted = true ↔ ∃ n ∈ r.retryCounts, n < 0 := by
    unfold isExhausted
    split <;> simp [*, foldl_min_lt]
  rw [h]
  constructor
  · rintro ⟨n, hn, hlt⟩
    exact ⟨n, (mem_retryCounts.1 hn).1, hlt⟩
  · rintro ⟨n, hn, hlt⟩
    exact ⟨n, mem_retryCounts.2 ⟨hn, by omega⟩, hlt⟩

theorem nonneg_of_not_exhausted {r : Retry} (h : r.isExhausted = false) {c : Count} (hc : c ∈ r.counters)
    (n : Int) (hn : c = .num n) : 0 ≤ n := by
  by_cases h0 : 0 ≤ n
  · exact h0
  · have : r.isExhausted = true := (isExhausted_iff r).2 ⟨n, hn ▸ hc, by omega⟩
    simp [h] at this

theorem finish_ok {r : Retry} {t c rd rdr s o : Count} {h : Hist} {reason : Cause} {r' : Retry}
    (hf : finish r t c rd rdr s o h reason = .ok r') :
    r' = r.new t c rd rdr s o (r.history ++ [h]) ∧ r'.isExhausted = false := by
  unfold finish at hf
  dsimp only at hf
  split at hf
  · cases hf
  · rename_i hx
    cases hf
    exact ⟨rfl, by simpa using hx⟩

theorem finish_error {r : Retry} {t c rd rdr s o : Count} {h : Hist} {reason : Cause} {x : Raise}
    (hf : finish r t c rd rdr s o h reason = .error x) : x = .maxRetry reason := by
  unfold finish at hf
  dsimp only at hf
  split at hf
  · cases hf
    rfl
  · cases hf

end Retry

/-- the per-category budgets of the property (`redirect`: C05's budget, charged by the pool-level
redirect branch and by a status retry of a reply that carries a redirect location) -/
inductive Cat where
  | connect | read | status | other | redirect
  deriving DecidableEq, Repr

def Retry.counter (r : Retry) : Cat → Count
  | .connect => r.connect
  | .read => r.read
  | .status => r.status
  | .other => r.other
  | .redirect => r.redirect

/-- the counter behind a budget: `none` stands for `total` -/
def Retry.counterOrTotal (r : Retry) : Option Cat → Count
  | none => r.total
  | some c => r.counter c

/-- the branch of `increment` an error takes -/
def errCat (e : Err) : Cat :=
  if isConnectionError e then .connect else if isReadError e then .read else .other

/-- the counter an event is charged to (besides `total`) -/
def Event.cat : Event → Option Cat
  | .error e => some (errCat e)
  | .status st => if st != 0 then some .status else none
  | .redirect _ => some .redirect
  | .nothing => none

/-- is the event charged to this counter (`total`: every event is) -/
def Event.charges (ev : Event) : Option Cat → Bool
  | none => true
  | some c => ev.cat = some c

namespace Retry

theorem counter_mem (r : Retry) (c : Cat) : r.counter c ∈ r.counters := by
  cases c <;> simp [counter, counters]

/-- counter `c` after `increment` has counted `ev` -/
def counterAfter (r : Retry) (ev : Event) (c : Cat) : Count :=
  if ev.cat = some c then (r.counter c).dec else r.counter c

/-- the tests under which `increment` re-raises an error instead of counting it -/
def reraises (r : Retry) (m : Option Str) (e : Err) : Bool :=
  r.total = .disabled ||
    match errCat e with
    | .connect => r.connect = .disabled
    | .read => r.read = .disabled || m.isNone || !r.isMethodRetryable (m.getD [])
    | _ => false

/-- what `increment` raises: the error itself, or `MaxRetryError` whose reason is the error / the
`ResponseError` for the response it was given -/
def Event.reason : Event → Cause
  | .error e => .error e
  | .redirect _ => .response .tooManyRedirects
  | .status st => if st != 0 then .response (.specific st) else .response .generic
  | .nothing => .response .generic

/-- `increment` is a guard in front of one call of `finish` -/
theorem increment_cases (r : Retry) (m : Option Str) (ev : Event) :
    (∃ e, ev = .error e ∧ r.reraises m e = true ∧ r.increment m ev = .error (.reraise e)) ∨
    ((∀ e, ev = .error e → r.reraises m e = false) ∧
      ∃ h, r.increment m ev = finish r r.total.dec (r.counterAfter ev .connect) (r.counterAfter ev .read)
        (r.counterAfter ev .redirect) (r.counterAfter ev .status) (r.counterAfter ev .other) h (Event.reason ev)) := by
  cases ev with
  | error e =>
    unfold increment
    by_cases ht : r.total = .disabled
    · simp [reraises, ht]
    · by_cases hc : isConnectionError e = true
      · by_cases hd : r.connect = .disabled
        · simp [reraises, errCat, ht, hc, hd]
        · simp [reraises, errCat, ht, hc, hd, counterAfter, Event.cat, counter, Event.reason]
          exact ⟨_, rfl⟩
      · by_cases hr : isReadError e = true
        · by_cases hg : (r.read = .disabled || m.isNone || !r.isMethodRetryable (m.getD [])) = true
          · simp [reraises, errCat, ht, hc, hr, hg]
          · simp [reraises, errCat, ht, hc, hr, hg, counterAfter, Event.cat, counter, Event.reason]
            exact ⟨_, rfl⟩
        · simp [reraises, errCat, ht, hc, hr, counterAfter, Event.cat, counter, Event.reason]
          exact ⟨_, rfl⟩
  | redirect st => exact Or.inr ⟨nofun, _, rfl⟩
  | status st =>
    refine Or.inr ⟨nofun, ?_⟩
    by_cases hst : (st != 0) = true
    · simp [increment, hst, counterAfter, Event.cat, counter, Event.reason]
      exact ⟨_, rfl⟩
    · simp [increment, hst, counterAfter, Event.cat, counter, Event.reason]
      exact ⟨_, rfl⟩
  | nothing => exact Or.inr ⟨nofun, _, rfl⟩

/-- everything `increment` does when it returns -/
structure Incremented (r : Retry) (ev : Event) (r' : Retry) : Prop where
  total : r'.total = r.total.dec
  notExhausted : r'.isExhausted = false
  sameConfig : SameConfig r r'
  charged : ∀ c, ev.cat = some c → r'.counter c = (r.counter c).dec
  spared : ∀ c, ev.cat ≠ some c → (r'.counter c).budget = (r.counter c).budget
  history : ∃ e, r'.history = r.history ++ [e]
  raiseOnRedirect : r'.raiseOnRedirect = true → r.raiseOnRedirect = true

theorem increment_ok {r : Retry} {m : Option Str} {ev : Event} {r' : Retry}
    (h : r.increment m ev = .ok r') : Incremented r ev r' := by
  rcases increment_cases r m ev with ⟨e, -, -, he⟩ | ⟨-, hh, he⟩
  · rw [he] at h
    cases h
  · rw [he] at h
    obtain ⟨rfl, hex⟩ := finish_ok h
    have hd := Count.dec_ne_disabled
    refine ⟨by simp [new], hex, by constructor <;> simp [new], fun c hc => ?_, fun c hc => ?_, ⟨hh, by simp [new]⟩,
      init_raiseOnRedirect _⟩
    · cases c <;> simp [counter, new, counterAfter, hc, init_redirect_eq, hd]
    · cases c <;> simp [counter, new, counterAfter, hc, init_redirect_budget, hd]

/-- a charged counter pays exactly one unit: the new policy is not exhausted, so none went below zero -/
theorem Incremented.ledger {r r' : Retry} {ev : Event} (h : Incremented r ev r') (k : Option Cat) :
    (r.counterOrTotal k).budget = (r'.counterOrTotal k).budget.map (· + if ev.charges k then 1 else 0) := by
  have hnn := @nonneg_of_not_exhausted r' h.notExhausted
  cases k with
  | none => exact Count.budget_dec h.total (hnn (by simp [counters, counterOrTotal]))
  | some c =>
    by_cases hc : ev.cat = some c
    · simpa [Event.charges, hc, counterOrTotal] using Count.budget_dec (h.charged c hc) (hnn (counter_mem r' c))
    · simpa [Event.charges, hc, counterOrTotal] using (h.spared c hc).symm

theorem increment_reraises {r : Retry} {m : Option Str} {e : Err} (h : r.reraises m e = true) :
    r.increment m (.error e) = .error (.reraise e) := by
  rcases increment_cases r m (.error e) with ⟨e', he, -, h'⟩ | ⟨hg, -⟩
  · cases he
    exact h'
  · rw [hg e rfl] at h
    cases h

theorem increment_error {r : Retry} {m : Option Str} {ev : Event} {x : Raise}
    (h : r.increment m ev = .error x) :
    x = .maxRetry (Event.reason ev) ∨ (∃ e, ev = .error e ∧ x = .reraise e) := by
  rcases increment_cases r m ev with ⟨e, hev, -, he⟩ | ⟨-, hh, he⟩
  · rw [he] at h
    cases h
    exact Or.inr ⟨e, hev, rfl⟩
  · rw [he] at h
    exact Or.inl (finish_error h)
end Retry

theorem isRetry_true {r : Retry} {m : Str} {st : Nat} {h : Bool} (hr : r.isRetry m st h = true) :
    r.isMethodRetryable m = true ∧
    (st ∈ r.statusForcelist ∨
      (st ∈ Gen.retryAfterStatusCodes ∧ h = true ∧ r.respectRetryAfter = true ∧ r.total.truthy = true)) := by
  unfold Retry.isRetry at hr
  split at hr
  · cases hr
  · rename_i hm
    refine ⟨by simpa using hm, ?_⟩
    split at hr
    · rename_i hf
      simp only [Bool.and_eq_true, List.contains_iff_mem] at hf
      exact Or.inl (by simpa using hf.2)
    · simp only [Bool.and_eq_true, List.contains_iff_mem] at hr
      exact Or.inr ⟨by simpa using hr.2, hr.1.2, hr.1.1.2, hr.1.1.1⟩

theorem sleepBackoff_bound {r : Retry} {t : Int} (h : r.sleepBackoff = some t) :
    0 < t ∧ t ≤ r.backoffMax := by
  have hle : r.getBackoffTime ≤ max 0 r.backoffMax := by
    unfold Retry.getBackoffTime
    dsimp only
    split <;> omega
  unfold Retry.sleepBackoff at h
  dsimp only at h
  split at h
  · cases h
  · cases h
    omega

theorem sleepForRetry_eq_some {rs : Resp} {t : Int} (h : Retry.sleepForRetry rs = some t) :
    ∃ n, rs.retryAfter = some n ∧ n ≠ 0 ∧ t = ticks * n := by
  unfold Retry.sleepForRetry at h
  split at h
  · rename_i n hn
    split at h
    · rename_i h0
      cases h
      exact ⟨n, hn, by simpa using h0, rfl⟩
    · cases h
  · cases h

/-! ### the `urlopen` loop in normal form -/

/-- the reply of an attempt as `Retry` sees it -/
def respOf : Outcome → Option Resp
  | .response st ra => some ⟨st, ra⟩
  | .located st ra => some ⟨st, ra⟩
  | _ => none

/-- what `urlopen` hands to `increment` after the attempt (`increment` asks the response itself
whether it is a redirect — the `redirect=` argument of `urlopen` plays no role here) -/
def eventOf (cfg : Cfg) (o : Outcome) : Event :=
  match respOf o with
  | some rs => if o.redirectLocation then .redirect rs.status else .status rs.status
  | none => .error (translate cfg o)

/-- `redirect and response.get_redirect_location()`: the pool-level redirect branch is taken -/
def follows (redirect : Bool) (o : Outcome) : Bool := redirect && o.redirectLocation

/-- does `urlopen` ask `Retry` for another attempt (always after an error; after a reply when the
redirect branch is taken or `is_retry` says so) -/
def wants (r : Retry) (redirect : Bool) (m : Str) (o : Outcome) : Bool :=
  follows redirect o ||
    match respOf o with
    | some rs => r.isRetry m rs.status rs.retryAfter.isSome
    | none => true

/-- the request of the next `urlopen` entry -/
def nextRq (redirect : Bool) (q : Rq) (i : Nat) (o : Outcome) : Rq :=
  match respOf o with
  | some rs => if follows redirect o then redirected q i rs.status else q
  | none => q

/-- the `time.sleep` between this attempt and the next: `sleep_for_retry` in the redirect branch,
`sleep(response)` / `sleep()` otherwise -/
def stepSleep (redirect : Bool) (r' : Retry) (o : Outcome) : Option Int :=
  match respOf o with
  | some rs => if follows redirect o then Retry.sleepForRetry rs else r'.sleep (some rs)
  | none => r'.sleep none

/-- the counter an attempt is charged to by the code -/
def chargedTo (cfg : Cfg) (o : Outcome) : Option Cat := (eventOf cfg o).cat

/-- what `urlopen` does with an exception from `increment` (attempt number `i`) -/
def stopResult (r : Retry) (redirect : Bool) (i : Nat) (o : Outcome) : Raise → Result
  | .reraise e => .reraised e
  | .maxRetry c =>
    match respOf o with
    | some rs =>
      if (if follows redirect o then r.raiseOnRedirect else r.raiseOnStatus) then .maxRetry c
      else .response i rs.status
    | none => .maxRetry c

theorem stepSleep_cases {rd : Bool} {r : Retry} {o : Outcome} {t : Int} (h : stepSleep rd r o = some t) :
    r.sleepBackoff = some t ∨
    ((r.respectRetryAfter = true ∨ follows rd o = true) ∧
      ∃ rs, respOf o = some rs ∧ Retry.sleepForRetry rs = some t) := by
  simp only [stepSleep, Retry.sleep] at h
  split at h
  · rename_i rs ho
    split at h
    · exact Or.inr ⟨Or.inr ‹_›, rs, ho, h⟩
    · split at h
      · split at h
        · cases h
          exact Or.inr ⟨Or.inl ‹_›, rs, ho, ‹_›⟩
        · exact Or.inl h
      · exact Or.inl h
  · exact Or.inl h

theorem isError_eq (o : Outcome) : o.isError = (respOf o).isNone := by
  cases o <;> rfl

theorem eventOf_eq_error {cfg : Cfg} {o : Outcome} {e : Err} (h : eventOf cfg o = .error e) :
    o.isError = true ∧ e = translate cfg o := by
  unfold eventOf at h
  cases ho : respOf o with
  | some rs =>
    rw [ho] at h
    dsimp only at h
    split at h <;> cases h
  | none =>
    rw [ho] at h
    cases h
    exact ⟨by rw [isError_eq, ho]; rfl, rfl⟩

theorem stopResult_ne_out (r : Retry) (rd : Bool) (i : Nat) (o : Outcome) (x : Raise) :
    stopResult r rd i o x ≠ .outOfScript := by
  unfold stopResult
  repeat' split
  all_goals nofun

/-- followed or not -/
theorem chargedTo_redirect (cfg : Cfg) {o : Outcome} (h : o.redirectLocation = true) :
    chargedTo cfg o = some .redirect := by
  cases o <;> simp_all [Outcome.redirectLocation, chargedTo, eventOf, respOf, Event.cat]

/-! What follows up to `not_follows_of_reached` is vocabulary of the statements of C04, not of the loop. -/

/-- `"POST"` as code points -/
def POST : Str := [80, 79, 83, 84]
/-- `"GET"` as code points -/
def GET : Str := [71, 69, 84]

/-- the hypothesis of `C04_nonidempotent_not_resent`: the request may have reached the server and the attempt did not end in a redirect that
`urlopen` follows (a followed redirect is a new request by design): a send or read error, or a reply outside
the redirect branch; a failure while the request was being written counts as well (what had been
written may have arrived) -/
def reachedServer (redirect : Bool) (o : Outcome) : Bool :=
  match o with
  | .sendError _ => true
  | .readError _ => true
  | .response _ _ => true
  | .located _ _ => !follows redirect o
  | _ => false

/-- on every kind of pool: the socket is open by then, so nothing is wrapped as `ProxyError` -/
theorem errCat_translate_reached (cfg : Cfg) {rd : Bool} {o : Outcome} (h : reachedServer rd o = true)
    (hr : respOf o = none) : errCat (translate cfg o) = .read := by
  obtain ⟨p⟩ := cfg
  cases o with
  | sendError k => cases p <;> cases k <;> rfl
  | readError k => cases p <;> cases k <;> rfl
  | _ => simp_all [reachedServer, respOf]

theorem not_follows_of_reached {rd : Bool} {o : Outcome} (h : reachedServer rd o = true) :
    follows rd o = false := by
  cases o with
  | located st ra => simpa [reachedServer] using h
  | _ => simp [follows, Outcome.redirectLocation]

theorem nextRq_of_not_follows {rd : Bool} {o : Outcome} (h : follows rd o = false) (q : Rq) (i : Nat) :
    nextRq rd q i o = q := by
  unfold nextRq
  split <;> simp [h]

section
variable (cfg : Cfg) (r : Retry) (rd : Bool) (q : Rq) (i : Nat)

/-- the two ways an attempt ends the call: its reply is returned, or `increment` raises -/
inductive Stops (o : Outcome) (res : Result) : Prop where
  | returned (st : Nat) (ra : Option Nat) (ho : respOf o = some ⟨st, ra⟩) (hw : wants r rd q.method o = false)
      (hres : res = .response i st)
  | raised (x : Raise) (hw : wants r rd q.method o = true)
      (hi : r.increment (some (nextRq rd q i o).method) (eventOf cfg o) = .error x)
      (hres : res = stopResult r rd i o x)

variable {cfg r rd q i} in
theorem Stops.ne_out {o : Outcome} {res : Result} (h : Stops cfg r rd q i o res) : res ≠ .outOfScript := by
  cases h with
  | returned _ _ _ _ hres =>
    rw [hres]
    nofun
  | raised x _ _ hres =>
    rw [hres]
    exact stopResult_ne_out r rd i o x

inductive StepCase (o : Outcome) (rest : List Outcome) : Prop where
  | stopped (res : Result) (hs : Stops cfg r rd q i o res)
      (h : runAttempts cfg r rd q i (o :: rest) = .stop q o res)
  | again (r' : Retry) (hw : wants r rd q.method o = true)
      (hi : r.increment (some (nextRq rd q i o).method) (eventOf cfg o) = .ok r')
      (h : runAttempts cfg r rd q i (o :: rest) =
        .cons q o (stepSleep rd r' o) (runAttempts cfg r' rd (nextRq rd q i o) (i + 1) rest))

variable {cfg r rd q i} in
/-- each of the three places where `urlopen` calls `increment` does the same with the answer -/
theorem StepCase.of_increment {o : Outcome} {rest : List Outcome} {q' : Rq} {ev : Event}
    (hw : wants r rd q.method o = true) (hq : nextRq rd q i o = q') (hev : eventOf cfg o = ev)
    (hrun : runAttempts cfg r rd q i (o :: rest) =
      match r.increment (some q'.method) ev with
      | .error x => .stop q o (stopResult r rd i o x)
      | .ok r' => .cons q o (stepSleep rd r' o) (runAttempts cfg r' rd q' (i + 1) rest)) :
    StepCase cfg r rd q i o rest := by
  subst hq hev
  cases hi : r.increment (some (nextRq rd q i o).method) (eventOf cfg o) with
  | error x => exact .stopped _ (.raised x hw hi rfl) (by rw [hrun, hi])
  | ok r' => exact .again r' hw hi (by rw [hrun, hi])

theorem run_error_cases (o : Outcome) (rest : List Outcome) (ho : respOf o = none)
    (hrun : runAttempts cfg r rd q i (o :: rest) =
      onError r q o (translate cfg o) (fun r' q' => runAttempts cfg r' rd q' (i + 1) rest)) :
    StepCase cfg r rd q i o rest := by
  refine .of_increment (q' := q) (ev := .error (translate cfg o))
    (by simp [wants, ho]) (by simp [nextRq, ho]) (by simp [eventOf, ho]) ?_
  rw [hrun, onError]
  generalize r.increment _ _ = x
  rcases x with (_ | _) | _ <;> simp [stopResult, stepSleep, ho]

theorem run_reply_cases (o : Outcome) (rest : List Outcome) (st : Nat) (ra : Option Nat)
    (ho : respOf o = some ⟨st, ra⟩)
    (hrun : runAttempts cfg r rd q i (o :: rest) =
      onReply r rd q i o st ra (fun r' q' => runAttempts cfg r' rd q' (i + 1) rest)) :
    StepCase cfg r rd q i o rest := by
  unfold onReply at hrun
  by_cases hf : follows rd o = true
  · have hf' : (rd && o.redirectLocation) = true := hf
    refine .of_increment (q' := redirected q i st) (ev := .redirect st) (by simp [wants, hf])
      (by simp [nextRq, ho, hf]) (by simp [eventOf, ho, (Bool.and_eq_true _ _ ▸ hf').2]) ?_
    rw [hrun, if_pos hf']
    dsimp only
    generalize r.increment _ _ = x
    rcases x with (_ | _) | _ <;> simp [stopResult, stepSleep, ho, hf]
    split <;> rfl
  · have hf' : ¬(rd && o.redirectLocation) = true := hf
    rw [if_neg hf'] at hrun
    cases hr : r.isRetry q.method st ra.isSome with
    | false => exact .stopped _ (.returned st ra ho (by simp [wants, hf, ho, hr]) rfl) (by rw [hrun]; simp [hr])
    | true =>
      refine .of_increment (q' := q) (ev := if o.redirectLocation then .redirect st else .status st)
        (by simp [wants, ho, hr]) (by simp [nextRq, ho, hf]) (by simp [eventOf, ho]) ?_
      rw [hrun, if_pos hr]
      generalize r.increment _ _ = x
      rcases x with (_ | _) | _ <;> simp [stopResult, stepSleep, ho, hf]
      split <;> rfl

theorem run_cases (o : Outcome) (rest : List Outcome) :
    StepCase cfg r rd q i o rest := by
  cases o with
  | response st ra => exact run_reply_cases cfg r rd q i _ rest st ra rfl (by simp only [runAttempts])
  | located st ra => exact run_reply_cases cfg r rd q i _ rest st ra rfl (by simp only [runAttempts])
  | _ => exact run_error_cases cfg r rd q i _ rest rfl (by simp only [runAttempts])

theorem run_reraised (cfg : Cfg) {r : Retry} (rd : Bool) {q : Rq} (i : Nat) {o : Outcome} (rest : List Outcome)
    (ho : respOf o = none) (hre : r.reraises (some q.method) (translate cfg o) = true) :
    runAttempts cfg r rd q i (o :: rest) = ⟨[⟨q, o, none⟩], .reraised (translate cfg o)⟩ := by
  cases o with
  | response st ra => cases ho
  | located st ra => cases ho
  | _ => simp [runAttempts, onError, Retry.increment_reraises hre, Run.stop]

theorem run_attempts_ne_nil (script : List Outcome)
    (h : (runAttempts cfg r rd q i script).result ≠ .outOfScript) :
    (runAttempts cfg r rd q i script).attempts ≠ [] := by
  cases script with
  | nil => exact absurd rfl h
  | cons o rest =>
    cases run_cases cfg r rd q i o rest with
    | stopped res hs h => simp [h, Run.stop]
    | again r' hw hi h => simp [h, Run.cons]

theorem run_head_rq (script : List Outcome)
    (a : Attempt) (h : (runAttempts cfg r rd q i script).attempts[0]? = some a) : a.rq = q := by
  cases script with
  | nil => cases h
  | cons o rest =>
    cases run_cases cfg r rd q i o rest with
    | stopped res hs h' =>
      rw [h'] at h
      cases h
      rfl
    | again r' hw hi h' =>
      rw [h'] at h
      cases h
      rfl

/-- attempt `a`, made under the policy `r` as number `i`, is the last, and the call ends with `res` — or
it is followed by the attempts `tl` of the recursive call, whose result is the call's -/
inductive AttemptCase (a : Attempt) (tl : List Attempt) (res : Result) : Prop where
  | last (hs : a.sleep = none) (htl : tl = []) (how : Stops cfg r rd a.rq i a.outcome res)
  | more (r' : Retry) (hw : wants r rd a.rq.method a.outcome = true)
      (hi : r.increment (some (nextRq rd a.rq i a.outcome).method) (eventOf cfg a.outcome) = .ok r')
      (hs : a.sleep = stepSleep rd r' a.outcome) (rest : List Outcome)
      (hrun : runAttempts cfg r' rd (nextRq rd a.rq i a.outcome) (i + 1) rest = ⟨tl, res⟩)

/-- every attempt is made by the `urlopen` call at that depth of the recursion, under a policy with the
caller's configuration (`raise_on_redirect` can only have been switched off on the way) -/
theorem attempt_cases (script : List Outcome) {j : Nat} {a : Attempt}
    (hj : (runAttempts cfg r rd q i script).attempts[j]? = some a) :
    ∃ r', Retry.SameConfig r r' ∧ (r'.raiseOnRedirect = true → r.raiseOnRedirect = true) ∧
      script[j]? = some a.outcome ∧
      AttemptCase cfg r' rd (i + j) a ((runAttempts cfg r rd q i script).attempts.drop (j + 1))
        (runAttempts cfg r rd q i script).result := by
  induction script generalizing r q i j with
  | nil => cases hj
  | cons o rest ih =>
    cases run_cases cfg r rd q i o rest with
    | stopped res hs h =>
      rw [h] at hj ⊢
      cases j with
      | zero =>
        cases hj
        exact ⟨r, .refl r, id, rfl, .last rfl rfl hs⟩
      | succ j => cases hj
    | again r' hw hi h =>
      rw [h] at hj ⊢
      cases j with
      | zero =>
        cases hj
        exact ⟨r, .refl r, id, rfl, .more r' hw hi rfl rest rfl⟩
      | succ j =>
        obtain ⟨r'', hsame, hror, hscr, hcase⟩ := ih r' (nextRq rd q i o) (i + 1) hj
        have hinc := Retry.increment_ok hi
        rw [Nat.add_right_comm] at hcase
        exact ⟨r'', hinc.sameConfig.trans hsame, fun h => hinc.raiseOnRedirect (hror h), hscr, hcase⟩

/-- a call that ends by itself ends with its last attempt, and that attempt explains the result: its reply is
handed back (as the normal result, or on exhaustion with the `raise_on_…` flag of that branch off), or its
error was refused by `increment`, or `increment` reported exhaustion -/
theorem run_stop (script : List Outcome) {x : Run} (hx : runAttempts cfg r rd q i script = x)
    (hne : x.result ≠ .outOfScript) :
    ∃ a k, x.attempts.length = k + 1 ∧ x.attempts.getLast? = some a ∧ script[k]? = some a.outcome ∧
      ((∃ st ra, respOf a.outcome = some ⟨st, ra⟩ ∧ x.result = .response (i + k) st) ∨
       (a.outcome.isError = true ∧ x.result = .reraised (translate cfg a.outcome)) ∨
       (x.result = .maxRetry (Retry.Event.reason (eventOf cfg a.outcome)) ∧
         (a.outcome.isError = false →
           if follows rd a.outcome then r.raiseOnRedirect = true else r.raiseOnStatus = true))) := by
  subst hx
  have hnil := run_attempts_ne_nil cfg r rd q i script hne
  obtain ⟨k, hk⟩ := Nat.exists_eq_succ_of_ne_zero (mt List.eq_nil_of_length_eq_zero hnil)
  obtain ⟨a, ha⟩ : ∃ a, (runAttempts cfg r rd q i script).attempts[k]? = some a :=
    ⟨_, List.getElem?_eq_getElem (by omega)⟩
  obtain ⟨r', hsame, hror, hscr, hcase⟩ := attempt_cases cfg r rd q i script ha
  rw [List.drop_eq_nil_of_le (by omega)] at hcase
  refine ⟨a, k, hk, by rw [List.getLast?_eq_getElem?, hk]; exact ha, hscr, ?_⟩
  cases hcase with
  | more r'' hw hi hs rest hrun =>
    -- the recursive call would have made an attempt
    have := run_attempts_ne_nil cfg r'' rd _ _ rest (by rw [hrun]; exact hne)
    rw [hrun] at this
    exact absurd rfl this
  | last hs htl how =>
    cases how with
    | returned st ra ho hw hres => exact Or.inl ⟨st, ra, ho, hres⟩
    | raised x hw hi hres =>
      rw [hres]
      rcases Retry.increment_error hi with rfl | ⟨e, hev, rfl⟩
      · cases ho : respOf a.outcome with
        | none =>
          refine Or.inr (Or.inr ⟨by simp [stopResult, ho], fun he => ?_⟩)
          rw [isError_eq, ho] at he
          cases he
        | some rs =>
          by_cases hf : (if follows rd a.outcome then r'.raiseOnRedirect else r'.raiseOnStatus) = true
          · refine Or.inr (Or.inr ⟨by simp [stopResult, ho, hf], fun _ => ?_⟩)
            split at hf
            · rename_i h
              simp only [h, if_true]
              exact hror hf
            · rename_i h
              simp only [h]
              rw [← hsame.raiseOnStatus]
              exact hf
          · exact Or.inl ⟨rs.status, rs.retryAfter, rfl, by simp [stopResult, ho, hf]⟩
      · obtain ⟨he, rfl⟩ := eventOf_eq_error hev
        exact Or.inr (Or.inl ⟨he, rfl⟩)

variable {cfg r rd q i} in
theorem retried_stop {o : Outcome} {res : Result} (hs : Stops cfg r rd q i o res) :
    (Run.stop q o res).retried = [] := by
  simp [Run.retried, Run.stop, hs.ne_out]

variable {cfg r rd q i} in
/-- an attempt in front of a recursive call was retried: that call makes an attempt of its own unless the script
is used up -/
theorem retried_cons {rest : List Outcome} (q₀ : Rq) (o : Outcome) (s : Option Int) :
    (Run.cons q₀ o s (runAttempts cfg r rd q i rest)).retried =
      ⟨q₀, o, s⟩ :: (runAttempts cfg r rd q i rest).retried := by
  unfold Run.retried Run.cons
  by_cases hr : (runAttempts cfg r rd q i rest).result = .outOfScript
  · simp [hr]
  · simp only [hr, if_false]
    exact List.dropLast_cons_of_ne_nil (run_attempts_ne_nil cfg r rd q i rest hr)

/-- the ledger of a call: the attempts charged to a counter after which another attempt was made never
outnumber what that counter pays for -/
theorem run_ledger (script : List Outcome) (k : Option Cat) (b : Nat) (hb : (r.counterOrTotal k).budget = some b) :
    (runAttempts cfg r rd q i script).retried.countP (fun a => (eventOf cfg a.outcome).charges k) ≤ b := by
  induction script generalizing r b q i with
  | nil => simp [runAttempts, Run.retried]
  | cons o rest ih =>
    cases run_cases cfg r rd q i o rest with
    | stopped res hs h => simp [h, retried_stop hs]
    | again r' hw hi h =>
      rw [(Retry.increment_ok hi).ledger k] at hb
      obtain ⟨b', hb', rfl⟩ := Option.map_eq_some_iff.1 hb
      rw [h, retried_cons, List.countP_cons]
      exact Nat.add_le_add_right (ih r' (nextRq rd q i o) (i + 1) b' hb') _

/-- at `total`, which every attempt is charged to -/
theorem retried_le_total (script : List Outcome) (b : Nat) (hb : r.total.budget = some b) :
    (runAttempts cfg r rd q i script).retried.length ≤ b := by
  simpa [Event.charges] using run_ledger cfg r rd q i script none b hb

end

end U3.Retry
