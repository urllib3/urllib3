import U3.Model.Manager
/-! `is_same_host`, the origin a URL names and the pool `connection_from_host` makes for it (C06). -/
namespace U3.Manager
open U3 U3.Headers U3.Retry

/-- `scheme or "http"` -/
def schemeOr (u : PUrl) : Str := if truthyStr u.scheme then u.scheme.getD [] else sHttp

/-- the port a URL / a pool means: its own if truthy, else the default of the scheme (if any) -/
def effPort (port : Option Nat) (scheme : Str) : Option Nat :=
  if truthyPort port then port else portOf scheme

/-- the port rule of `is_same_host` is equality of effective ports (`hu`: a pool without a port must
not meet the meaningless URL port `0`) -/
theorem port_rule (pp up d : Option Nat) (hp : pp ≠ some 0) (hu : truthyPort pp = false → up ≠ some 0) :
    ((if (truthyPort pp && !truthyPort up) = true then d
        else if (!truthyPort pp && up == d) = true then none else up) = pp) ↔
    ((if truthyPort up then up else d) = (if truthyPort pp then pp else d)) := by
  cases pp with
  | none =>
    cases up with
    | none => simp [truthyPort]
    | some n =>
      have hn : n ≠ 0 := fun h => hu rfl (by rw [h])
      simp [truthyPort, hn]
  | some k =>
    have hk : k ≠ 0 := fun h => hp (by rw [h])
    cases up with
    | none => simp [truthyPort, hk]
    | some n => by_cases hn : n = 0 <;> simp [truthyPort, hk, hn]

/-- **`is_same_host` is origin equality** (for ports other than the meaningless `0`): true iff the URL
is path-only (starts with `/` but not with `//`), or scheme, normalised host and effective port agree with the pool's -/
theorem isSameHost_iff (p : PoolId) (url : Str) (pu : PUrl) (hp : p.port ≠ some 0)
    (hu : truthyPort p.port = false → pu.port ≠ some 0) :
    isSameHost p url pu = true ↔
      pathOnly url = true ∨
      (schemeOr pu = p.scheme ∧ pu.host.map (fun h => normalizeHost h (schemeOr pu)) = some p.host ∧
        effPort pu.port (schemeOr pu) = effPort p.port p.scheme) := by
  by_cases hs : pathOnly url = true
  · simp [isSameHost, hs]
  · simp only [isSameHost, hs, Bool.false_eq_true, if_false, false_or]
    rw [Bool.and_eq_true, Bool.and_eq_true, beq_iff_eq, beq_iff_eq, beq_iff_eq, and_assoc]
    refine and_congr_right fun h1 => and_congr_right fun _ => ?_
    rw [← h1]
    exact port_rule _ _ _ hp hu

/-- the origin of an absolute URL as `PoolManager.connection_from_host` reads it: `scheme or "http"`,
normalised host, `port or port_by_scheme[scheme]` — the identity of the pool made for the URL (`mkPool_origin`).
The model's `PUrl.origin` keeps the host as written: it is what a forwarding proxy is asked for. -/
def urlOrigin (u : PUrl) : Origin :=
  ⟨schemeOr u, normalizeHost (u.host.getD []) (schemeOr u),
    if truthyPort u.port then u.port.getD 0 else (portOf (schemeOr u)).getD Gen.Redirect.fallbackPort⟩

theorem portOf_http : portOf sHttp = some 80 := by decide
theorem portOf_https : portOf sHttps = some 443 := by decide
theorem lower_http : lower sHttp = sHttp := by decide
theorem lower_https : lower sHttps = sHttps := by decide

theorem pmConnectionFromHost_ok {m : Mgr} {u : PUrl} {conn : Pool}
    (h : pmConnectionFromHost m u.host u.port u.scheme = .ok conn) :
    conn = m.mkPool (schemeOr u) (u.host.getD []) (urlOrigin u).port ∧ (urlOrigin u).port ≠ 0 := by
  unfold pmConnectionFromHost at h
  split at h
  · cases h
  · have hsch : (if truthyStr u.scheme then u.scheme.getD [] else sHttp) = schemeOr u := rfl
    simp only [hsch] at h
    split at h
    · rename_i hs
      have hlow : lower (schemeOr u) = schemeOr u := by
        rcases hs with hs | hs <;> rw [hs]
        · exact lower_http
        · exact lower_https
      rw [hlow] at h
      cases h
      refine ⟨rfl, ?_⟩
      show (if truthyPort u.port then u.port.getD 0
        else (portOf (schemeOr u)).getD Gen.Redirect.fallbackPort) ≠ 0
      split
      · rename_i ht
        cases hp : u.port with
        | none =>
          rw [hp] at ht
          cases ht
        | some n =>
          rw [hp] at ht
          simpa [truthyPort] using ht
      · rcases hs with hs | hs <;> rw [hs] <;> decide
    · cases h

theorem mkPool_origin (m : Mgr) (u : PUrl) :
    (m.mkPool (schemeOr u) (u.host.getD []) (urlOrigin u).port).id.origin = urlOrigin u := by
  unfold urlOrigin
  rfl

theorem isSameHost_origin {p : PoolId} {url : Str} {pu : PUrl} {n : Nat} (hp : p.port = some n) (hn : n ≠ 0)
    (hs : pathOnly url = false) (h : isSameHost p url pu = true) : urlOrigin pu = p.origin := by
  have htp : truthyPort (some n) = true := by simpa [truthyPort] using hn
  obtain ⟨h1, h2, h3⟩ := ((isSameHost_iff p url pu (by simpa [hp] using hn) (by simp [hp, htp])).1
    h).resolve_left (by simp [hs])
  obtain ⟨x, hx, hx'⟩ := Option.map_eq_some_iff.1 h2
  simp only [effPort, hp, htp, if_true] at h3
  unfold urlOrigin PoolId.origin
  rw [hx, Option.getD_some, hx', hp]
  split at h3
  · next ht =>
    rw [if_pos ht, h3, h1]
    rfl
  · next ht =>
    rw [if_neg ht, h3, h1]
    rfl

/-- a pool made for URL `ua` judges URL `ub` "same host" only if both name the same origin -/
theorem isSameHost_pm {m : Mgr} {ua ub : PUrl} {conn : Pool} {url : Str}
    (h : pmConnectionFromHost m ua.host ua.port ua.scheme = .ok conn)
    (hs : pathOnly url = false) (hsame : isSameHost conn.id url ub = true) :
    urlOrigin ub = urlOrigin ua := by
  obtain ⟨rfl, hport⟩ := pmConnectionFromHost_ok h
  exact (isSameHost_origin rfl hport hs hsame).trans (mkPool_origin m ua)

/-- without a proxy, and for `https` URLs through one, the pool is the origin's own -/
theorem connectionFromHost_own {m : Mgr} {u : PUrl} {conn : Pool}
    (h : connectionFromHost m u.host u.port u.scheme = .ok conn)
    (hown : m.proxy = none ∨ u.scheme = some sHttps) :
    pmConnectionFromHost m u.host u.port u.scheme = .ok conn := by
  unfold connectionFromHost at h
  split at h
  · exact h
  · rename_i px hpx
    rcases hown with hn | hs
    · rw [hn] at hpx
      cases hpx
    · simp only [hs, beq_self_eq_true, if_true] at h
      rw [hs]
      exact h

end U3.Manager
