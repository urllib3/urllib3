import U3.Model.Pool
import U3.Lemmas.Pool
import U3.Lemmas.PoolSafe
/-!
# Reading, in the pool lifecycle model

What a read does to the state (`Rd`, `RdP`: exactly `m` left socket and buffer; `Dirty`: the reader moved in some way and
may have been closed) and to the provenance invariant with the reader judged by what it has collected (`read_core`;
after a failed read `dirty_safe`, `dirty_closeFp`); the buffered reader's loops (`Reads`); one specification per
function of the two chunk parsers, over `ChunkAt`.
-/
namespace U3.Pool

variable {A : Nat → Attempt → Prop}

theorem prefix_drop_of_append {m y R : List Cell} (h : m ++ y <+: R) : y <+: R.drop m.length := by
  obtain ⟨t, ht⟩ := h
  refine ⟨t, ?_⟩
  rw [← ht]
  simp

theorem prefix_of_append_prefix {m y R : List Cell} (h : m ++ y <+: R) : m <+: R := by
  obtain ⟨t, ht⟩ := h
  exact ⟨y ++ t, by rw [← ht]; simp⟩

theorem closeFp_at {s : State} {r : Nat} {rs : Resp} (h : s.resps[r]? = some rs) :
    ∃ b, (closeFp s r).resps[r]? = some { rs with fp := none, buf := b } := by
  unfold closeFp
  rw [h]
  dsimp only
  split
  · rename_i hfp
    exact ⟨rs.buf, by rw [h]; cases rs; simp_all⟩
  · exact ⟨[], by rw [(noteClose_fields _ _).2.1]; exact setResp_at _ h⟩

theorem closeFp_closed (s : State) (r : Nat) : respFpClosed (closeFp s r) r = true := by
  rw [respFpClosed_iff]
  intro rs h
  obtain ⟨b, hb⟩ := closeFp_at (List.getElem?_eq_getElem ((closeFp_fields s r).2.2.1 ▸ getElem?_lt h))
  rw [Option.some.inj (h.symm.trans hb)]

/-- the sockets of `s'` are those of `s`, except that bytes may have left socket `k` and its peer may have moved: what the
peer holds back stays, and so does a pending FIN -/
structure SocksKept (k : Nat) (s s' : State) : Prop where
  slen : s'.socks.length = s.socks.length
  sother : ∀ j, j ≠ k → s'.socks[j]? = s.socks[j]?
  hsame : ∀ sk : Sock, s.socks[k]? = some sk → ∃ sk' : Sock, s'.socks[k]? = some sk' ∧ sk'.held = sk.held ∧
    (sk.after = .fin → sk'.after = .fin)

theorem SocksKept.refl (k : Nat) (s : State) : SocksKept k s s := ⟨rfl, fun _ _ => rfl, fun sk h => ⟨sk, h, rfl, id⟩⟩

theorem SocksKept.congr {k : Nat} {s s' t : State} (h : SocksKept k s s') (e : t.socks = s'.socks) : SocksKept k s t :=
  ⟨by rw [e]; exact h.slen, by rw [e]; exact h.sother, by rw [e]; exact h.hsame⟩

theorem SocksKept.fin {k : Nat} {s s' : State} (d : SocksKept k s s') : ∀ j, FinAt s j → FinAt s' j := by
  intro j ⟨sk, h1, h2⟩
  by_cases hjk : j = k
  · subst hjk
    obtain ⟨sk', g1, _, g3⟩ := d.hsame sk h1
    exact ⟨sk', g1, g3 h2⟩
  · exact ⟨sk, by rw [d.sother j hjk]; exact h1, h2⟩

theorem SocksKept.held {k : Nat} {s s' : State} (d : SocksKept k s s') {k' : Nat} {sk' : Sock} (h1 : s'.socks[k']? = some sk') :
    ∃ sk : Sock, s.socks[k']? = some sk ∧ sk'.held = sk.held := by
  by_cases hkk : k' = k
  · subst hkk
    have h0 := List.getElem?_eq_getElem (by rw [← d.slen]; exact getElem?_lt h1)
    obtain ⟨sk2, q1, q2, _⟩ := d.hsame _ h0
    cases h1.symm.trans q1
    exact ⟨_, h0, q2⟩
  · exact ⟨sk', (d.sother k' hkk).symm.trans h1, rfl⟩

theorem SocksKept.trans {k : Nat} {s t u : State} (a : SocksKept k s t) (b : SocksKept k t u) : SocksKept k s u := by
  refine ⟨b.slen.trans a.slen, fun j hj => (b.sother j hj).trans (a.sother j hj), fun sk h => ?_⟩
  obtain ⟨sk1, g1, g2, g2'⟩ := a.hsame sk h
  obtain ⟨sk2, g3, g4, g4'⟩ := b.hsame sk1 g1
  exact ⟨sk2, g3, g4.trans g2, fun hf => g4' (g2' hf)⟩

/-- reader `r` pulled bytes out of socket `k`: together, the kernel buffer and the private buffer
lost exactly `m` at the front; nothing else changed -/
structure ReadRel (r k : Nat) (s s' : State) (m : List Cell) : Prop where
  conns : s'.conns = s.conns
  rlen : s'.resps.length = s.resps.length
  slen : s'.socks.length = s.socks.length
  rother : ∀ i, i ≠ r → s'.resps[i]? = s.resps[i]?
  sother : ∀ j, j ≠ k → s'.socks[j]? = s.socks[j]?
  rsame : ∀ rs : Resp, s.resps[r]? = some rs → ∃ b, s'.resps[r]? = some { rs with buf := b }
  stream : ∀ (rs : Resp) (sk : Sock), s.resps[r]? = some rs → s.socks[k]? = some sk →
    ∃ (rs' : Resp) (sk' : Sock), s'.resps[r]? = some rs' ∧ s'.socks[k]? = some sk' ∧
      m ++ rs'.buf ++ sk'.inbound = rs.buf ++ sk.inbound
  hsame : ∀ sk : Sock, s.socks[k]? = some sk → ∃ sk' : Sock, s'.socks[k]? = some sk' ∧ sk'.held = sk.held ∧
    (sk.after = .fin → sk'.after = .fin)

/-- like `ReadRel`, but the chunk-parser fields of reader `r` may have changed too -/
structure ReadRelP (r k : Nat) (s s' : State) (m : List Cell) : Prop where
  conns : s'.conns = s.conns
  rlen : s'.resps.length = s.resps.length
  slen : s'.socks.length = s.socks.length
  rother : ∀ i, i ≠ r → s'.resps[i]? = s.resps[i]?
  sother : ∀ j, j ≠ k → s'.socks[j]? = s.socks[j]?
  rsame : ∀ rs : Resp, s.resps[r]? = some rs → ∃ rs' : Resp, s'.resps[r]? = some rs' ∧ rs'.rid = rs.rid ∧
    rs'.delivered = rs.delivered ∧ rs'.isHead = rs.isHead ∧ rs'.fp = rs.fp ∧ rs'.status = rs.status ∧
    rs'.chunked = rs.chunked ∧ rs'.length = rs.length ∧ rs'.conn = rs.conn ∧ rs'.hasPool = rs.hasPool ∧
    rs'.eofAt = rs.eofAt
  stream : ∀ (rs : Resp) (sk : Sock), s.resps[r]? = some rs → s.socks[k]? = some sk →
    ∃ (rs' : Resp) (sk' : Sock), s'.resps[r]? = some rs' ∧ s'.socks[k]? = some sk' ∧
      m ++ rs'.buf ++ sk'.inbound = rs.buf ++ sk.inbound
  hsame : ∀ sk : Sock, s.socks[k]? = some sk → ∃ sk' : Sock, s'.socks[k]? = some sk' ∧ sk'.held = sk.held ∧
    (sk.after = .fin → sk'.after = .fin)

/-- what no read writes of the reader's own response (`fp` and `eofAt` apart: a read that fails may close the one and
set the other) -/
structure RespKept (rs rs' : Resp) : Prop where
  rid : rs'.rid = rs.rid
  delivered : rs'.delivered = rs.delivered
  isHead : rs'.isHead = rs.isHead
  status : rs'.status = rs.status
  chunked : rs'.chunked = rs.chunked
  length : rs'.length = rs.length
  conn : rs'.conn = rs.conn
  hasPool : rs'.hasPool = rs.hasPool

theorem RespKept.trans {a b c : Resp} (h : RespKept a b) (g : RespKept b c) : RespKept a c :=
  ⟨g.rid.trans h.rid, g.delivered.trans h.delivered, g.isHead.trans h.isHead, g.status.trans h.status,
    g.chunked.trans h.chunked, g.length.trans h.length, g.conn.trans h.conn, g.hasPool.trans h.hasPool⟩

theorem ReadRelP.kept {r k : Nat} {s s' : State} {m : List Cell} {rs : Resp} (h : ReadRelP r k s s' m)
    (hr : s.resps[r]? = some rs) :
    ∃ rs' : Resp, s'.resps[r]? = some rs' ∧ RespKept rs rs' ∧ rs'.fp = rs.fp ∧ rs'.eofAt = rs.eofAt := by
  obtain ⟨rs', h1, a1, a2, a3, a4, a5, a6, a7, a8, a9, a10⟩ := h.rsame rs hr
  exact ⟨rs', h1, ⟨a1, a2, a3, a5, a6, a7, a8, a9⟩, a4, a10⟩

/-- the attributes of the pool object itself: nothing a response does with its reader writes them -/
def poolOf (s : State) : Nat × Bool × Bool × List (Option Nat) × Bool := (s.maxsize, s.block, s.proxy, s.queue, s.closed)

/-- reader `r` (reading from socket `k`) has moved bytes and parser state in some way and may have been closed; nothing
else changed -/
structure Dirty (r k : Nat) (s s' : State) : Prop where
  conns : s'.conns = s.conns
  rlen : s'.resps.length = s.resps.length
  rother : ∀ i, i ≠ r → s'.resps[i]? = s.resps[i]?
  socks : SocksKept k s s'
  rsame : ∀ rs : Resp, s.resps[r]? = some rs → ∃ rs' : Resp, s'.resps[r]? = some rs' ∧ RespKept rs rs' ∧
    (rs'.fp = rs.fp ∨ rs'.fp = none) ∧ ∀ k', rs'.eofAt = some k' → rs.eofAt = some k' ∨ (k' = k ∧ FinAt s' k')
  pool : poolOf s' = poolOf s

/-- `ReadRel` says nothing of the pool's own attributes; the reader functions establish this -/
structure Rd (r k : Nat) (s s' : State) (m : List Cell) : Prop extends ReadRel r k s s' m where
  pool : poolOf s' = poolOf s

structure RdP (r k : Nat) (s s' : State) (m : List Cell) : Prop extends ReadRelP r k s s' m where
  pool : poolOf s' = poolOf s

theorem ReadRel.of_eq {r k : Nat} {s s' : State} (hc : s'.conns = s.conns) (hr : s'.resps = s.resps) (hs : s'.socks = s.socks) :
    ReadRel r k s s' [] := by
  cases s
  cases s'
  dsimp only at hc hr hs
  subst hc hr hs
  exact ⟨rfl, rfl, rfl, fun _ _ => rfl, fun _ _ => rfl, fun rs h => ⟨rs.buf, h⟩, fun rs sk h1 h2 => ⟨rs, sk, h1, h2, rfl⟩,
    fun sk h => ⟨sk, h, rfl, id⟩⟩

theorem Rd.refl (r k : Nat) (s : State) : Rd r k s s [] := ⟨.of_eq rfl rfl rfl, rfl⟩

theorem ReadRel.toP {r k : Nat} {s s' : State} {m : List Cell} (h : ReadRel r k s s' m) : ReadRelP r k s s' m :=
  ⟨h.conns, h.rlen, h.slen, h.rother, h.sother,
    fun rs hr => by obtain ⟨b, hb⟩ := h.rsame rs hr; exact ⟨_, hb, rfl, rfl, rfl, rfl, rfl, rfl, rfl, rfl, rfl, rfl⟩,
    h.stream, h.hsame⟩

theorem Rd.toP {r k : Nat} {s s' : State} {m : List Cell} (h : Rd r k s s' m) : RdP r k s s' m := ⟨h.toReadRel.toP, h.pool⟩

theorem RdP.refl (r k : Nat) (s : State) : RdP r k s s [] := (Rd.refl r k s).toP

theorem RdP.dirty {r k : Nat} {s s' : State} {m : List Cell} (h : RdP r k s s' m) : Dirty r k s s' :=
  ⟨h.conns, h.rlen, h.rother, ⟨h.slen, h.sother, h.hsame⟩,
    fun rs hr => by
      obtain ⟨rs', h1, kp, hfp, heo⟩ := h.kept hr
      exact ⟨rs', h1, kp, Or.inl hfp, fun k' hk' => Or.inl (by rw [← heo]; exact hk')⟩,
    h.pool⟩

theorem Dirty.refl (r k : Nat) (s : State) : Dirty r k s s := (RdP.refl r k s).dirty

theorem Dirty.trans {r k : Nat} {s t u : State} (a : Dirty r k s t) (b : Dirty r k t u) : Dirty r k s u := by
  refine ⟨b.conns.trans a.conns, b.rlen.trans a.rlen, fun i hi => (b.rother i hi).trans (a.rother i hi),
    a.socks.trans b.socks, fun rs h => ?_, b.pool.trans a.pool⟩
  obtain ⟨r1, h1, k1, f1, e1⟩ := a.rsame rs h
  obtain ⟨r2, h2, k2, f2, e2⟩ := b.rsame r1 h1
  refine ⟨r2, h2, k1.trans k2, ?_, ?_⟩
  · rcases f2 with f2 | f2
    · exact f1.imp f2.trans f2.trans
    · exact Or.inr f2
  · intro k' hk'
    rcases e2 k' hk' with g | g
    · rcases e1 k' g with g' | ⟨g1, g2⟩
      · exact Or.inl g'
      · exact Or.inr ⟨g1, b.socks.fin k' g2⟩
    · exact Or.inr g

theorem closeFp_dirty (s : State) (r k : Nat) : Dirty r k s (closeFp s r) := by
  unfold closeFp
  split
  · exact Dirty.refl _ _ _
  · rename_i x h0
    split
    · exact Dirty.refl _ _ _
    · rename_i k' _
      obtain ⟨e1, e2, e3⟩ := noteClose_fields (setResp s r fun x => { x with fp := none, buf := [] }) k'
      refine ⟨e1, by rw [e2]; simp [setResp], fun i hi => by rw [e2]; exact setResp_ne s _ hi,
        (SocksKept.refl k s).congr e3, ?_, by unfold noteClose; split <;> rfl⟩
      intro rs h
      rw [h0] at h
      cases h
      exact ⟨{ x with fp := none, buf := [] }, by rw [e2]; exact setResp_at _ h0, ⟨rfl, rfl, rfl, rfl, rfl, rfl, rfl, rfl⟩, Or.inr rfl,
        fun k' hk' => Or.inl hk'⟩

/-- a reader's moves are among the primitive steps that keep the slot invariant: one write to response `r` that leaves
`_connection` alone, and a change of sockets and log -/
theorem Dirty.steps (C : List Nat) {r k : Nat} {s s' : State} (d : Dirty r k s s') : Steps C s s' := by
  obtain ⟨e1, e2, -, e4, e5⟩ : s'.maxsize = s.maxsize ∧ s'.block = s.block ∧ s'.proxy = s.proxy ∧ s'.queue = s.queue ∧
    s'.closed = s.closed := by simpa [poolOf] using d.pool
  cases hr : s.resps[r]? with
  | none =>
    refine .one (.frame e1 e2 e4 e5 d.conns (List.ext_getElem? fun i => ?_))
    by_cases hi : i = r
    · rw [hi, hr, List.getElem?_eq_none (by rw [d.rlen]; exact List.getElem?_eq_none_iff.mp hr)]
    · exact d.rother i hi
  | some rs =>
    obtain ⟨rs', h', kp, _⟩ := d.rsame rs hr
    refine .cons (.resp s r (fun x => { rs' with conn := x.conn }) fun _ => rfl) (.one (.frame e1 e2 e4 e5 d.conns
      (List.ext_getElem? fun i => ?_)))
    by_cases hi : i = r
    · rw [hi, h', setResp_at _ hr, ← kp.conn]
    · rw [d.rother i hi, setResp_ne s _ hi]

theorem RdP.trans {r k : Nat} {s t u : State} {m1 m2 : List Cell} (a : RdP r k s t m1) (b : RdP r k t u m2) :
    RdP r k s u (m1 ++ m2) := by
  have d := a.dirty.trans b.dirty
  refine ⟨⟨d.conns, d.rlen, d.socks.slen, d.rother, d.socks.sother, ?_, ?_, d.socks.hsame⟩, d.pool⟩
  · intro rs h
    obtain ⟨r1, h1, k1, f1, e1⟩ := a.kept h
    obtain ⟨r2, h2, k2, f2, e2⟩ := b.kept h1
    have kp := k1.trans k2
    exact ⟨r2, h2, kp.rid, kp.delivered, kp.isHead, f2.trans f1, kp.status, kp.chunked, kp.length, kp.conn, kp.hasPool,
      e2.trans e1⟩
  · intro rs sk h1 h2
    obtain ⟨rt, st, e1, e2, e3⟩ := a.stream rs sk h1 h2
    obtain ⟨ru, su, f1, f2, f3⟩ := b.stream rt st e1 e2
    refine ⟨ru, su, f1, f2, ?_⟩
    rw [← e3]
    simp only [List.append_assoc] at f3 ⊢
    rw [f3]

theorem Rd.trans {r k : Nat} {s t u : State} {m1 m2 : List Cell} (a : Rd r k s t m1) (b : Rd r k t u m2) :
    Rd r k s u (m1 ++ m2) := by
  have c := a.toP.trans b.toP
  refine ⟨⟨c.conns, c.rlen, c.slen, c.rother, c.sother, fun rs h => ?_, c.stream, c.hsame⟩, c.pool⟩
  obtain ⟨b1, h1⟩ := a.rsame rs h
  obtain ⟨b2, h2⟩ := b.rsame _ h1
  exact ⟨b2, h2⟩

theorem Rd.setParse {r k : Nat} {s s1 : State} {m : List Cell} (rel : Rd r k s s1 m) (g : Resp → Resp)
    (hg : ∀ x, g x = { x with chunkLeft := (g x).chunkLeft, hcLeft := (g x).hcLeft, eom := (g x).eom }) :
    RdP r k s (setResp s1 r g) m := by
  refine ⟨⟨rel.conns, by simpa [setResp] using rel.rlen, rel.slen, fun i hi => (setResp_ne s1 g hi).trans (rel.rother i hi), rel.sother,
    ?_, ?_, rel.hsame⟩, rel.pool⟩
  · intro rs h
    obtain ⟨b, hb⟩ := rel.rsame rs h
    refine ⟨_, setResp_at g hb, ?_⟩
    rw [hg]
    exact ⟨rfl, rfl, rfl, rfl, rfl, rfl, rfl, rfl, rfl, rfl⟩
  · intro rs sk h1 h2
    obtain ⟨rs', sk', e1, e2, e3⟩ := rel.stream rs sk h1 h2
    exact ⟨g rs', sk', setResp_at g e1, e2, by rw [hg]; exact e3⟩

theorem Rd.setParse_at {r k : Nat} {s s1 : State} {m : List Cell} {rs : Resp} (rel : Rd r k s s1 m)
    (hr : s.resps[r]? = some rs) (g : Resp → Resp) : ∃ b, (setResp s1 r g).resps[r]? = some (g { rs with buf := b }) := by
  obtain ⟨b, hb⟩ := rel.rsame rs hr
  exact ⟨b, setResp_at g hb⟩

/-- classes raised by the reader before `_error_catcher` translates them -/
def rawCls : List Nat :=
  [Gen.cOSError, Gen.cTimeoutError, Gen.cConnectionResetError, Gen.cKeyboardInterrupt, Gen.cHttpIncompleteRead,
   Gen.cU3IncompleteRead, Gen.cLineTooLong]

theorem recvInto_spec (s : State) (r k room : Nat) : Rd r k s (recvInto s r k room).1 [] ∧
    (∀ e, (recvInto s r k room).2 = .exc e → e.cls ∈ rawCls) ∧
    ((recvInto s r k room).2 = .eof → FinAt (recvInto s r k room).1 k) := by
  have h0 : Rd r k s (logEv s (.recv k)) [] := ⟨.of_eq rfl rfl rfl, rfl⟩
  refine And.imp_left h0.trans ?_
  unfold recvInto
  generalize logEv s (.recv k) = t
  simp only
  split
  · exact ⟨.refl _ _ _, fun e he => by cases he; simp [rawCls], nofun⟩
  · rename_i sk hsk
    have hafter : ∀ a : After, sk.after ≠ .fin → Rd r k t (setSock t k fun x => { x with after := a }) [] := by
      intro a hnf
      refine ⟨⟨rfl, rfl, by simp [setSock], fun _ _ => rfl, fun j hj => modify_ne _ _ hj, fun rs h => ⟨rs.buf, h⟩,
        fun rs sk' h1 h2 => ⟨rs, _, h1, modify_at _ h2, rfl⟩, fun sk' h => ⟨_, modify_at _ h, rfl, fun hf => ?_⟩⟩, rfl⟩
      rw [hsk] at h
      cases h
      exact absurd hf hnf
    split
    · split <;> rename_i haf
      · exact ⟨.refl _ _ _, nofun, fun _ => ⟨sk, hsk, haf⟩⟩
      · exact ⟨.refl _ _ _, fun e he => by cases he; simp [rawCls, exc], nofun⟩
      · exact ⟨hafter _ (by rw [haf]; simp), fun e he => by cases he; simp [rawCls], nofun⟩
      · exact ⟨hafter _ (by rw [haf]; simp), fun e he => by cases he; simp [rawCls, exc], nofun⟩
    · refine ⟨?_, nofun, nofun⟩
      simp only
      generalize (if sk.seg = 0 then room else min sk.seg room) = n
      refine ⟨⟨rfl, by simp [setResp, setSock], by simp [setResp, setSock], fun i hi => modify_ne _ _ hi,
        fun j hj => modify_ne _ _ hj, fun rs h => ⟨_, modify_at _ h⟩, ?_, fun sk' h => ⟨_, modify_at _ h, rfl, id⟩⟩, rfl⟩
      intro rs sk' h1 h2
      rw [hsk] at h2
      cases h2
      exact ⟨_, _, modify_at _ h1, modify_at _ hsk, by simp⟩

theorem setBuf_rel (r k : Nat) (s : State) (rs : Resp) (m : List Cell) (g : Resp → List Cell)
    (h : s.resps[r]? = some rs) (hb : rs.buf = m ++ g rs) :
    Rd r k s (setResp s r fun x => { x with buf := g x }) m := by
  refine ⟨⟨rfl, by simp [setResp], rfl, fun i hi => modify_ne _ _ hi, fun _ _ => rfl, ?_, ?_, fun sk h => ⟨sk, h, rfl, id⟩⟩, rfl⟩
  · intro rs' h'
    rw [h] at h'
    cases h'
    exact ⟨g rs, modify_at _ h⟩
  · intro rs' sk h1 h2
    rw [h] at h1
    cases h1
    exact ⟨_, sk, modify_at _ h, h2, by simp [hb]⟩

/-- what a buffered read by `r` from `k` with `acc` collected so far came to: it consumed some `m` with `P m`; if it
returns data that is `acc ++ m`; if it raises, the exception is one of the reader's -/
def Reads (P : List Cell → Prop) (r k : Nat) (s : State) (acc : List Cell) (res : State × DataOut) : Prop :=
  ∃ m, Rd r k s res.1 m ∧ P m ∧ (∀ d, res.2 = .data d → d = acc ++ m) ∧ ∀ e, res.2 = .exc e → e.cls ∈ rawCls

section
variable {P Q : List Cell → Prop} {r k : Nat} {s : State} {acc : List Cell}

theorem Reads.done (h0 : P []) : Reads P r k s acc (s, .data acc) :=
  ⟨[], .refl _ _ _, h0, fun d hd => by cases hd; simp, nofun⟩

theorem Reads.take {rs : Resp} (hrs : s.resps[r]? = some rs) (n : Nat) (hP : P (rs.buf.take n)) :
    Reads P r k s acc (setResp s r fun x => { x with buf := x.buf.drop n }, .data (acc ++ rs.buf.take n)) :=
  ⟨_, setBuf_rel r k s rs _ (fun x => x.buf.drop n) hrs (List.take_append_drop n rs.buf).symm, hP, fun d hd => by cases hd; rfl, nofun⟩

theorem Reads.refill {rs : Resp} (hrs : s.resps[r]? = some rs) {F : State → State × DataOut}
    (hP : ∀ m, Q m → P (rs.buf ++ m)) (h0 : Q []) (ih : ∀ s2, Reads Q r k s2 (acc ++ rs.buf) (F s2)) :
    Reads P r k s acc (match recvInto (setResp s r fun x => { x with buf := [] }) r k bufSize with
      | (s, .got) => F s
      | (s, .eof) => (s, .data (acc ++ rs.buf))
      | (s, .exc e) => (s, .exc e)) := by
  have r12 : Rd r k s (recvInto (setResp s r fun x => { x with buf := [] }) r k bufSize).1 rs.buf := by
    simpa using (setBuf_rel r k s rs rs.buf (fun _ => []) hrs (by simp)).trans (recvInto_spec _ r k bufSize).1
  have hc := (recvInto_spec (setResp s r fun x => { x with buf := [] }) r k bufSize).2.1
  generalize recvInto (setResp s r fun x => { x with buf := [] }) r k bufSize = res at r12 hc
  obtain ⟨s2, o⟩ := res
  have after : ∀ {res}, Reads Q r k s2 (acc ++ rs.buf) res → Reads P r k s acc res := fun ⟨m, rm, hq, hd, he⟩ =>
    ⟨rs.buf ++ m, r12.trans rm, hP m hq, fun d hd' => by rw [hd d hd', List.append_assoc], he⟩
  cases o with
  | got => exact after (ih s2)
  | eof => exact after (.done h0)
  | exc e => exact after ⟨[], .refl _ _ _, h0, nofun, fun e' he => by cases he; exact hc _ rfl⟩

theorem Reads.cases {res : State × DataOut} (h : Reads P r k s [] res) :
    ∃ s1 m, Rd r k s s1 m ∧ P m ∧ ((∃ e, res = (s1, .exc e) ∧ e.cls ∈ rawCls) ∨ res = (s1, .data m)) := by
  obtain ⟨s1, o⟩ := res
  obtain ⟨m, rel, hp, hd, he⟩ := h
  cases o with
  | exc e => exact ⟨s1, m, rel, hp, Or.inl ⟨e, rfl, he e rfl⟩⟩
  | data d => exact ⟨s1, m, rel, hp, Or.inr (by rw [hd d rfl]; rfl)⟩

end

theorem fpRead_reads (r k : Nat) : ∀ (fuel : Nat) (s : State) (n : Nat) (acc : List Cell),
    Reads (·.length ≤ n) r k s acc (fpRead fuel s r k n acc)
  | 0, s, n, acc => .done (Nat.zero_le n)
  | fuel + 1, s, n, acc => by
    unfold fpRead
    split
    · exact .done (Nat.zero_le n)
    · rename_i rs hrs
      split
      · exact .take hrs n (by simp; omega)
      · exact .refill hrs (fun m hm => by simp; omega) (Nat.zero_le _) fun s2 => fpRead_reads r k fuel s2 _ _

theorem fpReadAll_reads (r k : Nat) : ∀ (fuel : Nat) (s : State) (acc : List Cell),
    Reads (fun _ => True) r k s acc (fpReadAll fuel s r k acc)
  | 0, s, acc => .done trivial
  | fuel + 1, s, acc => by
    unfold fpReadAll
    split
    · exact .done trivial
    · rename_i rs hrs
      exact .refill hrs (fun _ _ => trivial) trivial fun s2 => fpReadAll_reads r k fuel s2 _

theorem fpReadline_reads (r k : Nat) : ∀ (fuel : Nat) (s : State) (acc : List Cell),
    Reads (fun _ => True) r k s acc (fpReadline fuel s r k acc)
  | 0, s, acc => ⟨[], .refl _ _ _, trivial, nofun, fun e he => by cases he; simp [rawCls, exc]⟩
  | fuel + 1, s, acc => by
    unfold fpReadline
    split
    · exact .done trivial
    · rename_i rs hrs
      split
      · exact .take hrs _ trivial
      · exact .refill hrs (fun _ _ => trivial) trivial fun s2 => fpReadline_reads r k fuel s2 _

theorem fpRead_cases (fuel : Nat) (s : State) (r k n : Nat) : ∃ s1 m, Rd r k s s1 m ∧ m.length ≤ n ∧
    ((∃ e, fpRead fuel s r k n [] = (s1, .exc e) ∧ e.cls ∈ rawCls) ∨ fpRead fuel s r k n [] = (s1, .data m)) :=
  (fpRead_reads r k fuel s n []).cases

theorem fpReadAll_cases (fuel : Nat) (s : State) (r k : Nat) : ∃ s1 m, Rd r k s s1 m ∧
    ((∃ e, fpReadAll fuel s r k [] = (s1, .exc e) ∧ e.cls ∈ rawCls) ∨ fpReadAll fuel s r k [] = (s1, .data m)) :=
  let ⟨s1, m, rel, _, h⟩ := (fpReadAll_reads r k fuel s []).cases
  ⟨s1, m, rel, h⟩

theorem fpReadline_cases (fuel : Nat) (s : State) (r k : Nat) : ∃ s1 m, Rd r k s s1 m ∧
    ((∃ e, fpReadline fuel s r k [] = (s1, .exc e) ∧ e.cls ∈ rawCls) ∨ fpReadline fuel s r k [] = (s1, .data m)) :=
  let ⟨s1, m, rel, _, h⟩ := (fpReadline_reads r k fuel s []).cases
  ⟨s1, m, rel, h⟩

theorem safeRead_cases (s : State) (r k n : Nat) : ∃ s1 m, Rd r k s s1 m ∧
    ((∃ e, safeRead s r k n = (s1, .exc e) ∧ e.cls ∈ rawCls) ∨ (safeRead s r k n = (s1, .data m) ∧ m.length = n)) := by
  unfold safeRead
  obtain ⟨s1, m, rel, hl, h⟩ := (fpRead_reads r k (inboundLen s k + 2) s n []).cases
  refine ⟨s1, m, rel, ?_⟩
  rcases h with ⟨e, h, hc⟩ | h <;> rw [h] <;> dsimp only
  · exact Or.inl ⟨e, rfl, hc⟩
  · split
    · exact Or.inl ⟨_, rfl, by simp [rawCls, exc]⟩
    · exact Or.inr ⟨rfl, by omega⟩

/-- reader `r`, which had collected `X`, consumed `m` (and may have moved its chunk-parser state); it is judged afresh with
`X'` collected and `length` rewritten by `L` (left alone, or `length -= len(data)`): what it has to show is that its new
state fits the rest of the stream -/
theorem read_core {s s' : State} {r k : Nat} {X X' m : List Cell} {rs rs' : Resp} {L : Option Nat → Option Nat}
    (p : Prov A (deliver s r X)) (ho : OpenAt s r k rs) (rel : RdP r k s s' m)
    (hr' : s'.resps[r]? = some rs')
    (hE : ∀ a h Rem, a.head = some h → rs.chunked = h.chunked → Expect rs.rid a h (respPos rs) (rs.delivered ++ X) Rem → m <+: Rem →
      (∀ n, lenBound h rs.isHead = some n → ∃ l, rs.length = some l ∧ (rs.delivered ++ X).length + l ≤ n) →
      rs.delivered ++ X' <+: deliverable rs.rid a h ∧ Expect rs.rid a h (respPos rs') (rs.delivered ++ X') (Rem.drop m.length) ∧
      (∀ n, lenBound h rs.isHead = some n → ∃ l, L rs.length = some l ∧ (rs.delivered ++ X').length + l ≤ n)) :
    Prov A (setResp s' r fun x => { x with delivered := x.delivered ++ X', length := L x.length }) := by
  obtain ⟨rs1, hb, kp, hfp, heo⟩ := rel.kept ho.resp
  cases hr'.symm.trans hb
  refine p.step (Nat.le_of_eq rel.slen.symm) rel.dirty.socks.fin ?_ (fun c cn' k h1 h2 => Or.inl ⟨cn', rel.conns ▸ h1, h2, Or.inl rfl⟩) ?_
  · intro k' sk' h1
    obtain ⟨sk, g1, g2⟩ := rel.dirty.socks.held h1
    rw [g2]
    exact p.heldB k' sk g1
  · intro i ri hi
    obtain ⟨x, hx, rfl⟩ := modify_some hi
    by_cases hir : i = r
    · subst hir
      cases hr'.symm.trans hx
      rw [if_pos rfl]
      have h0 := deliver_at (r := i) X ho.resp
      rw [if_pos rfl] at h0
      refine ⟨?_, fun k' hk' => .inl ⟨_, h0, hfp ▸ hk'⟩, fun k' hk' => .inl ⟨_, h0, heo ▸ hk'⟩⟩
      rcases p.resp i _ h0 with ⟨q, _⟩ | ⟨a, hd, fr⟩
      · cases ho.fp.symm.trans q
      · obtain ⟨sk, Rem, hsk, q0, q1, q2⟩ := fr.opn k ho.fp
        obtain ⟨rs'', sk', f1, f2, f3⟩ := rel.stream rs sk ho.resp hsk
        cases hr'.symm.trans f1
        have hall : m ++ (rs'.buf ++ sk'.inbound) <+: Rem := by
          rw [← List.append_assoc, f3]
          exact q1
        obtain ⟨g1, g3, g4⟩ := hE a hd Rem fr.head fr.ch q0 (prefix_of_append_prefix hall) q2
        rw [← kp.rid, ← kp.delivered] at g1 g3
        rw [← kp.delivered, ← kp.isHead, ← kp.length] at g4
        refine Or.inr ⟨a, hd, ⟨kp.rid ▸ fr.att, fr.head, kp.status.trans fr.st, kp.chunked.trans fr.ch, g1, fun n hn => ?_, fun k' hk' => ?_⟩⟩
        · obtain ⟨_, _, e⟩ := g4 n hn
          exact Nat.le_trans (Nat.le_add_right _ _) e
        cases ho.fp.symm.trans (hfp ▸ hk')
        exact ⟨sk', Rem.drop m.length, f2, g3, prefix_drop_of_append hall, g4⟩
    · rw [if_neg (Ne.symm hir)]
      have hi0 : (deliver s r X).resps[i]? = some x := (setResp_ne s _ hir).trans ((rel.rother i hir).symm.trans hx)
      refine ⟨?_, fun k' hk' => .inl ⟨x, hi0, hk'⟩, fun k' hk' => .inl ⟨x, hi0, hk'⟩⟩
      exact respOk_socks (fun k' hk' => rel.sother k' fun e => hir (p.fpInj i r x _ k' hi0 (deliver_at X ho.resp) hk' (e ▸ ho.fp)))
        (p.resp i x hi0)

/-- a closed reader no longer has to account for what it had collected -/
theorem ProvAt.closed {s : State} {r : Nat} {d : List Cell} (p : ProvAt A s r d) (hc : respFpClosed s r = true) : Prov A s := by
  have p := p.prov
  rw [respFpClosed_iff] at hc
  refine p.step (Nat.le_refl _) (fun _ h => h) p.heldB (fun c cn' k h1 h2 => .inl ⟨cn', h1, h2, .inl rfl⟩) fun i x hx => ?_
  have h0 := deliver_at (r := r) d hx
  refine ⟨?_, fun k hk => .inl ⟨_, h0, hk⟩, fun k hk => .inl ⟨_, h0, hk⟩⟩
  have q := p.resp i _ h0
  split at q <;> rename_i hir
  · have hfp := hc x (hir ▸ hx)
    have no (k : Nat) (hk : x.fp = some k) : False := by cases hfp.symm.trans hk
    rcases q with ⟨_, q2⟩ | ⟨a, hd, fr⟩
    · exact .inl ⟨hfp, (List.append_eq_nil_iff.mp q2).1⟩
    · exact .inr ⟨a, hd, ⟨fr.att, fr.head, fr.st, fr.ch, (List.prefix_append _ _).trans fr.dpre,
        fun n hn => Nat.le_trans (by simp [Resp.add]) (fr.dlen n hn), fun k hk => (no k hk).elim⟩⟩
  · rwa [Resp.add_nil] at q

theorem enc_nil_inv {t : Tag} {E : List Cell} (h : Enc t [] E) : E = [] := by
  cases h with
  | nil => rfl
  | cons n _ E' hn hl _ =>
    simp at hl
    omega

theorem lineSize_some {line : List Cell} {n : Nat} (h : lineSize line = some n) :
    ∃ t1 t2 t3, line = [Cell.fr t1 (.size n), Cell.fr t2 .cr, Cell.fr t3 .lf] := by
  unfold lineSize at h
  split at h
  · cases h
    exact ⟨_, _, _, rfl⟩
  · cases h

theorem expect_plain {rid : Nat} {a : Attempt} {h : Head} {pos : Pos} {X Rem : List Cell} (hc : h.chunked = false) :
    Expect rid a h pos X Rem ↔ X ++ Rem = bodyCells rid a := by
  unfold Expect
  simp [hc]

theorem expect_chunked {rid : Nat} {a : Attempt} {h : Head} {pos : Pos} {X Rem : List Cell} (hc : h.chunked = true) :
    Expect rid a h pos X Rem ↔
    ∃ Brem : List Nat, X ++ Brem.map (Cell.body (.req rid)) = payloadCells rid a ∧
      match pos with
      | .size => ∃ E, Enc (.req rid) Brem E ∧ Rem = E ++ endCells rid a
      | .data n => 0 < n ∧ n ≤ Brem.length ∧ ∃ E, Enc (.req rid) (Brem.drop n) E ∧
          Rem = (Brem.take n).map (Cell.body (.req rid)) ++ (crlfCells (.req rid) ++ (E ++ endCells rid a))
      | .crlf => ∃ E, Enc (.req rid) Brem E ∧ Rem = crlfCells (.req rid) ++ (E ++ endCells rid a)
      | .tail => Brem = [] ∧ ∃ pre, pre ++ Rem = trailerCells (.req rid) a.trailers ++ strayCells a
      | .bad => False := by
  cases pos <;> simp [Expect, hc]

theorem expect_size_line {rid : Nat} {a : Attempt} {h : Head} {X Rem line : List Cell} {n : Nat} (hc : h.chunked = true)
    (hE : Expect rid a h .size X Rem) (hl : line <+: Rem) (hs : lineSize line = some n) :
    Expect rid a h (match n with | 0 => .tail | j + 1 => .data (j + 1)) X (Rem.drop line.length) := by
  obtain ⟨t1, t2, t3, rfl⟩ := lineSize_some hs
  rw [expect_chunked hc] at hE ⊢
  obtain ⟨Brem, e, E, hEnc, rfl⟩ := hE
  refine ⟨Brem, e, ?_⟩
  cases hEnc with
  | nil =>
    simp only [endCells, lastChunk, List.cons_append, List.nil_append, List.cons_prefix_cons] at hl
    cases hl.1
    exact ⟨rfl, [], by simp [endCells, lastChunk]⟩
  | cons n' _ E' hn hle hE' =>
    simp only [oneChunk, List.cons_append, List.nil_append, List.cons_prefix_cons, List.append_assoc] at hl
    obtain rfl : n' = n := by cases hl.1; simp [List.length_take, Nat.min_eq_left hle]
    obtain ⟨j, rfl⟩ : ∃ j, n' = j + 1 := ⟨n' - 1, by omega⟩
    exact ⟨hn, hle, E', hE', by simp [oneChunk, crlfCells]⟩

theorem trailerCells_shape (t : Tag) (ms : List Nat) : ∀ c ∈ trailerCells t ms, ∃ k, c = Cell.fr t k ∧ ∀ n, k ≠ .size n := by
  induction ms with
  | nil =>
    intro c hc
    simp only [trailerCells, List.mem_cons, List.not_mem_nil, or_false] at hc
    rcases hc with rfl | rfl <;> exact ⟨_, rfl, nofun⟩
  | cons m ms ih =>
    intro c hc
    simp only [trailerCells, List.mem_append, List.mem_replicate, List.mem_cons, List.not_mem_nil, or_false] at hc
    rcases hc with (⟨_, rfl⟩ | rfl | rfl) | hc
    · exact ⟨_, rfl, nofun⟩
    · exact ⟨_, rfl, nofun⟩
    · exact ⟨_, rfl, nofun⟩
    · exact ih c hc

theorem expect_no_size {rid : Nat} {a : Attempt} {h : Head} {pos : Pos} {X Rem line : List Cell} {n : Nat} (hc : h.chunked = true)
    (hp : pos ≠ .size) (hE : Expect rid a h pos X Rem) (hl : line <+: Rem) (hs : lineSize line = some n) : False := by
  obtain ⟨t1, t2, t3, rfl⟩ := lineSize_some hs
  rw [expect_chunked hc] at hE
  obtain ⟨Brem, e, hE⟩ := hE
  cases pos with
  | size => exact hp rfl
  | data m =>
    obtain ⟨h0, hle, E, _, rfl⟩ := hE
    cases Brem with
    | nil =>
      simp at hle
      omega
    | cons b bs =>
      cases m with
      | zero => omega
      | succ m =>
        simp only [List.take_succ_cons, List.map_cons, List.cons_append, List.cons_prefix_cons] at hl
        cases hl.1
  | crlf =>
    obtain ⟨E, _, rfl⟩ := hE
    simp only [crlfCells, List.cons_append, List.cons_prefix_cons] at hl
    cases hl.1
  | tail =>
    obtain ⟨_, pre, hpre⟩ := hE
    obtain ⟨t, ht⟩ := hl
    have hmem : Cell.fr t1 (.size n) ∈ trailerCells (.req rid) a.trailers ++ strayCells a := by
      rw [← hpre, ← ht]
      simp
    rcases List.mem_append.mp hmem with hm | hm
    · obtain ⟨k, e, hk⟩ := trailerCells_shape _ _ _ hm
      cases e
      exact hk n rfl
    · simp [strayCells] at hm
  | bad => exact hE

theorem expect_take {rid : Nat} {a : Attempt} {h : Head} {X Rem m : List Cell} {cl n : Nat} (hc : h.chunked = true)
    (hE : Expect rid a h (.data cl) X Rem) (hm : m <+: Rem) (hlen : m.length = n) (hn : n ≤ cl) :
    Expect rid a h (match cl - n with | 0 => .crlf | i + 1 => .data (i + 1)) (X ++ m) (Rem.drop m.length) := by
  rw [expect_chunked hc] at hE ⊢
  obtain ⟨Brem, e, h0, hle, E, hEnc, rfl⟩ := hE
  have hmm : m = (Brem.take n).map (Cell.body (.req rid)) := by
    obtain ⟨t, ht⟩ := hm
    have h1 : m = (m ++ t).take n := by rw [List.take_left' hlen]
    rw [h1, ht, List.take_append_of_le_length (by simp [List.length_take]; omega), ← List.map_take, List.take_take,
      Nat.min_eq_left hn]
  refine ⟨Brem.drop n, by rw [hmm, List.append_assoc, ← List.map_append, List.take_append_drop]; exact e, ?_⟩
  rw [hlen, List.drop_append_of_le_length (by simp [List.length_take]; omega), ← List.map_drop, List.drop_take]
  cases hi : cl - n with
  | zero => exact ⟨E, by rwa [show n = cl by omega], by simp⟩
  | succ i => exact ⟨by omega, by simp; omega, E, by rwa [List.drop_drop, show n + (i + 1) = cl by omega], rfl⟩

theorem expect_crlf_drop {rid : Nat} {a : Attempt} {h : Head} {X Rem m : List Cell} (hc : h.chunked = true)
    (hE : Expect rid a h .crlf X Rem) (hlen : m.length = 2) : Expect rid a h .size X (Rem.drop m.length) := by
  rw [expect_chunked hc] at hE ⊢
  obtain ⟨Brem, e, E, hEnc, rfl⟩ := hE
  exact ⟨Brem, e, E, hEnc, by rw [hlen]; simp [crlfCells]⟩

theorem expect_tail_drop {rid : Nat} {a : Attempt} {h : Head} {X Rem m : List Cell} (hc : h.chunked = true)
    (hE : Expect rid a h .tail X Rem) (hm : m <+: Rem) : Expect rid a h .tail X (Rem.drop m.length) := by
  rw [expect_chunked hc] at hE ⊢
  obtain ⟨Brem, e, hB, pre, hpre⟩ := hE
  obtain ⟨t, ht⟩ := hm
  refine ⟨Brem, e, hB, pre ++ m, ?_⟩
  rw [← hpre, ← ht]
  simp

theorem expect_not_bad {rid : Nat} {a : Attempt} {h : Head} {X Rem : List Cell} (hc : h.chunked = true) :
    ¬ Expect rid a h .bad X Rem := by
  rw [expect_chunked hc]
  exact fun ⟨_, _, f⟩ => f

/-- urllib3's parser is inside a chunk: `http.client`'s parser has not been at work -/
theorem expect_chunkLeft {rid : Nat} {a : Attempt} {h : Head} {X Rem : List Cell} {rs : Resp} {j : Nat} (hc : h.chunked = true)
    (hcl : rs.chunkLeft = some (j + 1)) (hE : Expect rid a h (respPos rs) X Rem) :
    rs.hcLeft = none ∧ Expect rid a h (.data (j + 1)) X Rem := by
  cases hhc : rs.hcLeft with
  | some v =>
    rw [show respPos rs = .bad by simp [respPos, hcl, hhc]] at hE
    exact absurd hE (expect_not_bad hc)
  | none =>
    rw [show respPos rs = .data (j + 1) by simp [respPos, hcl, hhc]] at hE
    exact ⟨rfl, hE⟩

/-- … and the other way round -/
theorem expect_hcLeft {rid : Nat} {a : Attempt} {h : Head} {X Rem : List Cell} {rs : Resp} {j : Nat} (hc : h.chunked = true)
    (hl : rs.hcLeft = some (j + 1)) (hE : Expect rid a h (respPos rs) X Rem) :
    rs.chunkLeft = none ∧ Expect rid a h (.data (j + 1)) X Rem := by
  cases hcL : rs.chunkLeft with
  | some w =>
    rw [show respPos rs = .bad by cases w <;> simp [respPos, hcL, hl]] at hE
    exact absurd hE (expect_not_bad hc)
  | none =>
    rw [show respPos rs = .data (j + 1) by simp [respPos, hcL, hl]] at hE
    exact ⟨rfl, hE⟩

/-- a chunk cut off with a size that may exceed what is left of the payload -/
theorem Enc.chunk {t : Tag} {n : Nat} {B : List Nat} {E : List Cell} (hn : 0 < n) (hB : B ≠ []) (h : Enc t (B.drop n) E) :
    Enc t B (oneChunk t (B.take n) ++ E) := by
  rw [List.take_eq_take_min]
  rw [List.drop_eq_drop_min] at h
  exact .cons _ B E (by have := List.length_pos_iff.mpr hB; omega) (Nat.min_le_right _ _) h

theorem chunkCells_enc (t : Tag) : ∀ (sizes body : List Nat), Enc t body (chunkCells t sizes body)
  | [], [] | _ :: _, [] => .nil
  | [], b :: bs => by
    have := Enc.chunk (n := (b :: bs).length) (by simp) (List.cons_ne_nil b bs) (by simpa using Enc.nil (t := t))
    simpa [chunkCells] using this
  | n :: ns, b :: bs => by
    unfold chunkCells
    split
    · exact chunkCells_enc t ns _
    · exact .chunk (by omega) (List.cons_ne_nil b bs) (chunkCells_enc t ns _)

theorem expect_init (rid : Nat) (a : Attempt) (h : Head) : Expect rid a h .size [] (postCells rid a h) := by
  unfold Expect
  split
  · rename_i hc
    refine ⟨a.body, by simp [payloadCells], chunkCells (.req rid) a.sizes a.body, chunkCells_enc _ _ _, ?_⟩
    simp [postCells, framedCells, hc, endCells, strayCells]
  · rename_i hc
    simp [postCells, framedCells, hc, bodyCells, payloadCells, strayCells]

/-- once the reader is closed, whatever it did to its own buffers no longer matters -/
theorem dirty_safe {r k : Nat} {s t : State} (d : Dirty r k s t)
    (uniq : ∀ (i : Nat) (rs : Resp), s.resps[i]? = some rs → rs.fp = some k → i = r)
    (hc : respFpClosed t r = true) : Safe s t := by
  rw [respFpClosed_iff] at hc
  -- a response of `t` traced back: the reader `r` is closed and kept what a reader cannot write; any other is as it was
  have back : ∀ {i : Nat} {rs' : Resp}, t.resps[i]? = some rs' → ∃ rs : Resp, s.resps[i]? = some rs ∧
      ((i = r ∧ rs'.fp = none) ∨ rs' = rs) ∧ RespKept rs rs' ∧
      ∀ k', rs'.eofAt = some k' → rs.eofAt = some k' ∨ FinAt t k' := by
    intro i rs' g1
    by_cases hir : i = r
    · subst hir
      have h0 := List.getElem?_eq_getElem (by rw [← d.rlen]; exact getElem?_lt g1)
      obtain ⟨r1, h1, kp, _, heo⟩ := d.rsame _ h0
      cases g1.symm.trans h1
      exact ⟨_, h0, .inl ⟨rfl, hc rs' g1⟩, kp, fun k' hk' => (heo k' hk').imp id And.right⟩
    · exact ⟨rs', by rw [← d.rother i hir]; exact g1, .inr rfl, ⟨rfl, rfl, rfl, rfl, rfl, rfl, rfl, rfl⟩, fun _ h => Or.inl h⟩
  refine ⟨Nat.le_of_eq d.socks.slen.symm, Nat.le_of_eq d.rlen.symm, ?_, ?_, ?_, fun c cn' k' h1 h2 => .inl ⟨cn', d.conns ▸ h1, h2, .inl rfl⟩,
    ?_, d.socks.fin, ?_⟩
  · intro i rs rs' h1 h2
    obtain ⟨rs0, h0, _, kp, _⟩ := back h2
    cases h1.symm.trans h0
    exact ⟨kp.status, kp.length, kp.chunked⟩
  · intro i rs' k' sk h1 h2 h3
    obtain ⟨rs0, h0, same, _⟩ := back h1
    cases same.resolve_left fun e => by cases e.2.symm.trans h2
    have hkk : k' ≠ k := fun e => by
      cases uniq i rs' h0 (e ▸ h2)
      cases (hc rs' h1).symm.trans h2
    exact ⟨sk, (d.socks.sother k' hkk).trans h3, rfl⟩
  · intro i rs' h1
    obtain ⟨rs0, h0, same, kp, _⟩ := back h1
    exact .inl ⟨rs0, h0, kp.rid, kp.delivered, kp.isHead, same.imp And.right fun e => by cases e; exact ⟨rfl, rfl, rfl, rfl⟩⟩
  · exact fun k' sk' h1 => .inl (d.socks.held h1)
  · intro i rs' k' h1 h2
    obtain ⟨rs0, h0, _, _, a⟩ := back h1
    exact (a k' h2).imp (fun g => ⟨rs0, h0, g⟩) id

/-- once the reader is closed, what it did to its own buffers no longer matters for what it has collected either -/
theorem dirty_provAt {s t : State} {r k : Nat} {X : List Cell} {rs : Resp} (p : Prov A (deliver s r X))
    (ho : OpenAt s r k rs) (d : Dirty r k s t) (hc : respFpClosed t r = true) : ProvAt A t r X :=
  (dirty_safe d (fun i _ h1 h2 => p.fpInj i r _ _ k (deliver_at X h1) (deliver_at X ho.resp) h2 ho.fp) hc).provAt (.of p ho.resp)

/-- a read that failed half-way leaves a state that is good once the reader is closed: which every caller does at once -/
theorem dirty_closeFp {s0 s1 : State} {r k : Nat} {X : List Cell} {rs : Resp}
    (p : Prov A (deliver s0 r X)) (ho : OpenAt s0 r k rs) (d : Dirty r k s0 s1) : Prov A (closeFp s1 r) :=
  (dirty_provAt p ho (d.trans (closeFp_dirty s1 r k)) (closeFp_closed s1 r)).closed (closeFp_closed s1 r)

theorem ProvAt.closeFp {s : State} {r : Nat} {X : List Cell} (p : ProvAt A s r X) : Prov A (closeFp s r) :=
  ((safe_pooling.closeFp s r).provAt p).closed (closeFp_closed s r)

theorem closeFp_of_closed {s : State} {r : Nat} (hc : respFpClosed s r = true) : closeFp s r = s := by
  rw [respFpClosed_iff] at hc
  unfold closeFp
  cases h : s.resps[r]? with
  | none => rfl
  | some rs => simp only [hc rs h]

/-- `HTTPResponse.close()` closes the reader first -/
theorem respClose_after (s : State) (r : Nat) : Safe (closeFp s r) (respClose s r) := by
  unfold respClose
  dsimp only
  split
  · exact .refl _
  · split
    · exact safe_pooling.connClose _ _
    · exact .refl _

/-- reader `r`, open on socket `k`, of a chunked reply to anything but `HEAD`, judged with `X` more delivered -/
structure ChunkAt (A : Nat → Attempt → Prop) (r k : Nat) (s : State) (X : List Cell) (rs : Resp) : Prop
    extends OpenAt s r k rs where
  prov : Prov A (deliver s r X)
  ch : rs.chunked = true
  nh : rs.isHead = false

theorem ChunkAt.read {s s' : State} {r k : Nat} {X X' m : List Cell} {rs rs' : Resp}
    (f : ChunkAt A r k s X rs) (rel : RdP r k s s' m) (hr' : s'.resps[r]? = some rs')
    (hE : ∀ a h Rem, h.chunked = true → Expect rs.rid a h (respPos rs) (rs.delivered ++ X) Rem → m <+: Rem →
      Expect rs.rid a h (respPos rs') (rs.delivered ++ X') (Rem.drop m.length)) :
    ChunkAt A r k s' X' rs' := by
  obtain ⟨rx, hx, kp, hfp, _⟩ := rel.kept f.resp
  cases hr'.symm.trans hx
  refine ⟨⟨hr', hfp.trans f.fp⟩, read_core (L := id) f.prov f.toOpenAt rel hr' ?_, kp.chunked.trans f.ch, kp.isHead.trans f.nh⟩
  intro a h Rem hh hc hX hm _
  have hc' : h.chunked = true := by rw [← hc]; exact f.ch
  have no (n : Nat) (hn : lenBound h rs.isHead = some n) : False := by
    rw [f.nh, lenBound_chunked hc'] at hn
    cases hn
  have g := hE a h Rem hc' hX hm
  refine ⟨?_, g, fun n hn => (no n hn).elim⟩
  obtain ⟨Brem, e, _⟩ := (expect_chunked hc').mp g
  rw [deliverable_chunked hc']
  exact ⟨_, e⟩

theorem updateChunkLength_spec {s s' : State} {r k : Nat} {oe : Option Exc} (h : updateChunkLength s r k = (s', oe)) :
    (∃ s1, Dirty r k s s1 ∧ (s' = s1 ∨ oe ≠ none ∧ s' = respClose s1 r)) ∧ (oe = none → ∃ m, RdP r k s s' m ∧
      ∀ {A : Nat → Attempt → Prop} {X : List Cell} {rs : Resp}, ChunkAt A r k s X rs →
        ∃ rs', ChunkAt A r k s' X rs' ∧ rs'.chunkLeft.isSome = true) := by
  unfold updateChunkLength at h
  split at h
  · rename_i n hn
    cases h
    refine ⟨⟨s, .refl _ _ _, .inl rfl⟩, fun _ => ⟨[], .refl _ _ _, fun f => ⟨_, f, ?_⟩⟩⟩
    simp [chunkLeftOf, f.resp] at hn
    simp [hn]
  · rename_i hn
    obtain ⟨s1, line, rel, hcase⟩ := fpReadline_cases (inboundLen s k + 2) s r k
    rcases hcase with ⟨e, he, _⟩ | he <;> rw [he] at h
    · cases h
      exact ⟨⟨_, rel.toP.dirty, .inl rfl⟩, nofun⟩
    · dsimp only at h
      split at h
      · rename_i n hsz
        cases h
        have relP := rel.setParse (fun x => { x with chunkLeft := some n }) (fun _ => rfl)
        refine ⟨⟨_, relP.dirty, .inl rfl⟩, fun _ => ⟨line, relP, fun {A X rs} f => ?_⟩⟩
        obtain ⟨b, hr'⟩ := rel.setParse_at f.resp fun x => { x with chunkLeft := some n }
        refine ⟨_, f.read relP hr' fun a hd' Rem hc hE hm => ?_, rfl⟩
        -- only at a chunk boundary can a chunk-size line have been read
        have hcl : rs.chunkLeft = none := by simpa [chunkLeftOf, f.resp] using hn
        cases hhc : rs.hcLeft with
        | some v => exact absurd hsz fun hsz => expect_no_size hc (by cases v <;> simp [respPos, hcl, hhc]) hE hm hsz
        | none =>
          rw [show respPos rs = .size by simp [respPos, hcl, hhc]] at hE
          have g := expect_size_line hc hE hm hsz
          cases n <;> simpa only [respPos, hhc] using g
      · cases h
        exact ⟨⟨_, rel.toP.dirty, .inr ⟨nofun, rfl⟩⟩, nofun⟩


theorem handleChunk_spec {s s' : State} {r k amt : Nat} {out : DataOut} (h : handleChunk s r k amt = (s', out)) :
    Dirty r k s s' ∧ ∀ d, out = .data d → ∃ m, RdP r k s s' m ∧
      ∀ {A : Nat → Attempt → Prop} {X : List Cell} {rs : Resp} {j : Nat}, ChunkAt A r k s X rs →
        rs.chunkLeft = some (j + 1) → ∃ rs', ChunkAt A r k s' (X ++ d) rs' := by
  unfold handleChunk at h
  split at h
  · cases h
    exact ⟨.refl _ _ _, fun d _ => ⟨[], .refl _ _ _, fun f hcl => by simp_all [chunkLeftOf, f.resp]⟩⟩
  · rename_i cl hcl0
    split at h
    · rename_i hlt
      obtain ⟨s1, m, rel, hcase⟩ := safeRead_cases s r k amt
      rcases hcase with ⟨e, he, _⟩ | ⟨he, hlen⟩ <;> rw [he] at h <;> cases h
      · exact ⟨rel.toP.dirty, nofun⟩
      · have relP := rel.setParse (fun x => { x with chunkLeft := some (cl - amt) }) (fun _ => rfl)
        refine ⟨relP.dirty, fun d hd => ⟨m, relP, fun {A X rs j} f hcl => ?_⟩⟩
        cases hd
        obtain ⟨b, hr'⟩ := rel.setParse_at f.resp fun x => { x with chunkLeft := some (cl - amt) }
        refine ⟨_, f.read relP hr' fun a hd' Rem hc hE hm => ?_⟩
        have : cl = j + 1 := by simpa [chunkLeftOf, f.resp, hcl] using hcl0.symm
        subst this
        obtain ⟨hhc, hE'⟩ := expect_chunkLeft hc hcl hE
        have := expect_take hc hE' hm hlen (by omega)
        obtain ⟨i, hi⟩ : ∃ i, j + 1 - amt = i + 1 := ⟨j - amt, by omega⟩
        simp only [respPos, hhc, hi, List.append_assoc] at this ⊢
        exact this
    · obtain ⟨s1, m1, rel1, hcase⟩ := safeRead_cases s r k cl
      rcases hcase with ⟨e, he, _⟩ | ⟨he, hlen1⟩ <;> rw [he] at h
      · cases h
        exact ⟨rel1.toP.dirty, nofun⟩
      · dsimp only at h
        obtain ⟨s2, m2, rel2, hcase⟩ := safeRead_cases s1 r k 2
        rcases hcase with ⟨e, he, _⟩ | ⟨he, hlen2⟩ <;> rw [he] at h <;> cases h
        · exact ⟨(rel1.trans rel2).toP.dirty, nofun⟩
        · have relP := (rel1.trans rel2).setParse (fun x => { x with chunkLeft := none }) (fun _ => rfl)
          refine ⟨relP.dirty, fun d hd => ⟨_, relP, fun {A X rs j} f hcl => ?_⟩⟩
          cases hd
          obtain ⟨b, hr'⟩ := (rel1.trans rel2).setParse_at f.resp fun x => { x with chunkLeft := none }
          refine ⟨_, f.read relP hr' fun a hd' Rem hc hE hm => ?_⟩
          have : cl = j + 1 := by simpa [chunkLeftOf, f.resp, hcl] using hcl0.symm
          subst this
          obtain ⟨hhc, hE'⟩ := expect_chunkLeft hc hcl hE
          have g2 := expect_take hc hE' (prefix_of_append_prefix hm) hlen1 (Nat.le_refl _)
          rw [Nat.sub_self] at g2
          have g3 := expect_crlf_drop (m := m2) hc g2 hlen2
          simp only [respPos, hhc]
          rwa [List.drop_drop, ← List.length_append, List.append_assoc] at g3


theorem handleChunk_dirty (s : State) (r k amt : Nat) : Dirty r k s (handleChunk s r k amt).1 :=
  (handleChunk_spec rfl).1

theorem chunkLoop_prov {r k amt : Nat} : ∀ (fuel : Nat) (s s' : State) (acc : List Cell) (out : DataOut) (rs : Resp),
    ChunkAt A r k s [] rs → chunkLoop fuel s r k amt acc = (s', out) →
    (∀ d, out = .data d → Prov A s' ∧ ∃ rs' : Resp, OpenAt s' r k rs') ∧
    (∀ e, out = .exc e → Prov A (closeFp s' r)) := by
  intro fuel
  induction fuel with
  | zero =>
    intro s s' acc out rs f h
    cases h
    exact ⟨nofun, fun _ _ => (ProvAt.of f.prov f.resp).closeFp⟩
  | succ fuel ih =>
    intro s s' acc out rs f h
    unfold chunkLoop at h
    generalize hu : updateChunkLength s r k = res at h
    obtain ⟨s1, oe⟩ := res
    obtain ⟨⟨sd, dd, dst⟩, hok⟩ := updateChunkLength_spec hu
    cases oe with
    | some e =>
      cases h
      have ex := dirty_closeFp f.prov f.toOpenAt dd
      exact ⟨nofun, fun _ _ => dst.elim (· ▸ ex) (·.2 ▸ (safe_pooling.closeFp _ r).prov ((respClose_after sd r).prov ex))⟩
    | none =>
      dsimp only at h
      obtain ⟨m1, rel1, hp1⟩ := hok rfl
      obtain ⟨rs1, f1, hsome⟩ := hp1 f
      split at h
      · cases h
        exact ⟨fun _ _ => ⟨(ProvAt.of f1.prov f1.resp).nil, rs1, f1.toOpenAt⟩, nofun⟩
      · rename_i hne
        obtain ⟨j, hj⟩ : ∃ j, rs1.chunkLeft = some (j + 1) := by
          cases hc : rs1.chunkLeft with
          | none =>
            rw [hc] at hsome
            cases hsome
          | some v =>
            cases v with
            | zero => simp [chunkLeftOf, f1.resp, hc] at hne
            | succ j => exact ⟨j, rfl⟩
        generalize hh : handleChunk s1 r k amt = res at h
        obtain ⟨s2, o⟩ := res
        obtain ⟨dh, hok2⟩ := handleChunk_spec hh
        cases o with
        | exc e =>
          cases h
          exact ⟨nofun, fun _ _ => dirty_closeFp f1.prov f1.toOpenAt dh⟩
        | data d =>
          dsimp only at h
          obtain ⟨m2, rel2, hp2⟩ := hok2 d rfl
          obtain ⟨rs2, f2⟩ := hp2 f1 hj
          rw [List.nil_append] at f2
          exact ih (deliver s2 r d) s' _ out _
            ⟨⟨setResp_at _ f2.resp, f2.fp⟩, (f2.prov.at r).prov, f2.ch, f2.nh⟩ h

theorem eolIdx_bounds : ∀ (l : List Cell) (i n : Nat), eolIdx l i = some n → i < n ∧ n ≤ i + l.length := by
  intro l
  induction l with
  | nil =>
    intro i n h
    simp [eolIdx] at h
  | cons c t ih =>
    intro i n h
    simp only [eolIdx] at h
    split at h
    · cases h
      simp
    · obtain ⟨g1, g2⟩ := ih (i + 1) n h
      simp
      omega

theorem fpReadline_empty_fin : ∀ (fuel : Nat) (s s' : State) (r k : Nat) (acc : List Cell),
    fpReadline fuel s r k acc = (s', .data []) → (∃ rs : Resp, s.resps[r]? = some rs) → FinAt s' k := by
  intro fuel
  induction fuel with
  | zero =>
    intro s s' r k acc h
    cases h
  | succ fuel ih =>
    intro s s' r k acc h ⟨rs0, hrs0⟩
    unfold fpReadline at h
    simp only [hrs0] at h
    split at h
    · rename_i n hn
      -- a line cut out of the buffer is not empty
      exfalso
      obtain ⟨g1, g2⟩ := eolIdx_bounds _ _ _ hn
      simp at h
      rcases h.2.2 with e | e
      · omega
      · rw [e] at g2
        simp at g2
        omega
    · obtain ⟨rel, _, hfin⟩ := recvInto_spec (setResp s r fun x => { x with buf := [] }) r k bufSize
      generalize recvInto (setResp s r fun x => { x with buf := [] }) r k bufSize = res at h rel hfin
      obtain ⟨s2, o⟩ := res
      cases o with
      | got =>
        obtain ⟨b, hb⟩ := rel.rsame _ (setResp_at (fun x => { x with buf := [] }) hrs0)
        exact ih s2 s' r k _ h ⟨_, hb⟩
      | eof =>
        simp at h
        obtain ⟨rfl, _⟩ := h
        exact hfin rfl
      | exc e => cases h

theorem setEof_dirty (r k : Nat) (s : State) (hf : (∃ rs : Resp, s.resps[r]? = some rs) → FinAt s k) :
    Dirty r k s (setResp s r fun x => { x with eofAt := some k }) := by
  refine ⟨rfl, by simp [setResp], fun i hi => setResp_ne s _ hi, (SocksKept.refl k s).congr rfl, ?_, rfl⟩
  intro rs h
  refine ⟨_, setResp_at _ h, ⟨rfl, rfl, rfl, rfl, rfl, rfl, rfl, rfl⟩, Or.inl rfl, ?_⟩
  intro k' hk'
  cases hk'
  exact Or.inr ⟨rfl, hf ⟨rs, h⟩⟩

theorem hcDiscardTrailer_spec (r k : Nat) : ∀ (fuel : Nat) (s s' : State) (oe : Option Exc),
    hcDiscardTrailer fuel s r k = (s', oe) →
    Dirty r k s s' ∧ (oe = none → ∀ rs' : Resp, s'.resps[r]? = some rs' → rs'.eom = true ∨ (rs'.eofAt = some k ∧ FinAt s' k)) ∧
    ∀ e, oe = some e → e.cls ∈ rawCls := by
  intro fuel
  induction fuel with
  | zero =>
    intro s s' oe h
    cases h
    exact ⟨.refl _ _ _, nofun, fun e he => by cases he; simp [rawCls, exc]⟩
  | succ fuel ih =>
    intro s s' oe h
    unfold hcDiscardTrailer at h
    obtain ⟨s1, line, rel, hcase⟩ := fpReadline_cases (inboundLen s k + 2) s r k
    have d1 := rel.toP.dirty
    rcases hcase with ⟨e, he, hc⟩ | hfr
    · rw [he] at h
      cases h
      exact ⟨d1, nofun, fun e' he' => by cases he'; exact hc⟩
    · rw [hfr] at h
      dsimp only at h
      split at h
      · rename_i hemp
        cases h
        have : line = [] := by simpa using hemp
        subst this
        have hfin : (∃ rs : Resp, s1.resps[r]? = some rs) → FinAt s1 k := fun ⟨rs1, h1⟩ =>
          fpReadline_empty_fin _ s s1 r k [] hfr ⟨_, List.getElem?_eq_getElem (by rw [← d1.rlen]; exact getElem?_lt h1)⟩
        refine ⟨d1.trans (setEof_dirty r k s1 hfin), fun _ rs' hrs' => ?_, nofun⟩
        obtain ⟨x, hx, rfl⟩ := modify_some hrs'
        exact Or.inr ⟨by simp, hfin ⟨x, hx⟩⟩
      · split at h
        · cases h
          refine ⟨d1.trans ((Rd.refl r k s1).setParse _ fun _ => rfl).dirty, fun _ rs' hrs' => ?_, nofun⟩
          obtain ⟨x, hx, rfl⟩ := modify_some hrs'
          exact Or.inl (by simp)
        · obtain ⟨d2, post⟩ := ih s1 s' oe h
          exact ⟨d1.trans d2, post⟩

/-- urllib3's trailer loop is `http.client`'s -/
theorem skipTrailers_eq : ∀ (fuel : Nat) (s : State) (r k : Nat), skipTrailers fuel s r k = hcDiscardTrailer fuel s r k := by
  intro fuel
  induction fuel with
  | zero =>
    intro s r k
    rfl
  | succ fuel ih =>
    intro s r k
    unfold skipTrailers hcDiscardTrailer
    simp only [ih]

theorem skipTrailers_dirty (r k : Nat) (fuel : Nat) (s : State) : Dirty r k s (skipTrailers fuel s r k).1 := by
  rw [skipTrailers_eq]
  exact (hcDiscardTrailer_spec r k fuel s _ _ rfl).1

/-- `http.client`'s `_read_and_discard_trailer` ended, and not because it saw the empty line: the peer's FIN is pending -/
theorem hcDiscardTrailer_eof (r k : Nat) : ∀ (fuel : Nat) (s s' : State), hcDiscardTrailer fuel s r k = (s', none) →
    (∃ rs : Resp, s.resps[r]? = some rs) → (∀ rs' : Resp, s'.resps[r]? = some rs' → rs'.eom = false) →
    sockReadable s' k = true := by
  intro fuel s s' h ⟨rs, hrs⟩ hne
  obtain ⟨d, post, _⟩ := hcDiscardTrailer_spec r k fuel s s' none h
  obtain ⟨rs', hrs', _⟩ := d.rsame rs hrs
  rcases post rfl rs' hrs' with e | ⟨_, hf⟩
  · rw [hne rs' hrs'] at e
    cases e
  · exact hf.readable

theorem readChunkedBody_prov {s s' : State} {r amt : Nat} {out : DataOut}
    (p : Prov A s) (hc : respChunked s r = true) (h : readChunkedBody s r amt = (s', out)) :
    (∀ d, out = .data d → Prov A s') ∧ (∀ e, out = .exc e → Prov A (closeFp s' r)) := by
  unfold readChunkedBody at h
  split at h
  · cases h
    exact ⟨fun _ _ => p, nofun⟩
  · rename_i rs hr
    split at h
    · cases h
      exact ⟨fun _ _ => (safe_pooling.closeFp s r).prov p, nofun⟩
    · rename_i hnh
      split at h
      · cases h
        exact ⟨fun _ _ => p, nofun⟩
      · rename_i k hk
        dsimp only at h
        generalize inboundLen s k + rs.buf.length + 2 = fuel at h
        generalize hcl : chunkLoop fuel s r k amt [] = res at h
        obtain ⟨s1, o⟩ := res
        have hch : rs.chunked = true := by simpa [respChunked, hr] using hc
        obtain ⟨q1, q2⟩ := chunkLoop_prov fuel s s1 [] o rs ⟨⟨hr, hk⟩, (p.at r).prov, hch, by simpa using hnh⟩ hcl
        cases o with
        | exc e =>
          cases h
          exact ⟨nofun, fun _ _ => q2 e rfl⟩
        | data d =>
          dsimp only at h
          obtain ⟨p1, rs1, o1⟩ := q1 d rfl
          have dd := skipTrailers_dirty r k fuel s1
          generalize skipTrailers fuel s1 r k = res2 at h dd
          obtain ⟨s2, oe⟩ := res2
          have ex := dirty_closeFp (p1.at r).prov o1 dd
          cases oe with
          | some e =>
            cases h
            exact ⟨nofun, fun _ _ => ex⟩
          | none =>
            cases h
            exact ⟨fun _ _ => ex, nofun⟩

theorem hcToss_rel {s s' : State} {r k : Nat} {cl : Option Nat} {oe : Option Exc} (h : hcToss s r k cl = (s', oe)) :
    ∃ m, Rd r k s s' m ∧ (oe = none → (cl = none → m = []) ∧ (cl.isSome = true → m.length = 2)) ∧
      ∀ e, oe = some e → e.cls ∈ rawCls := by
  unfold hcToss at h
  cases cl with
  | none =>
    cases h
    exact ⟨[], Rd.refl _ _ _, fun _ => ⟨fun _ => rfl, nofun⟩, nofun⟩
  | some v =>
    dsimp only at h
    obtain ⟨s1, m, rel, hcase⟩ := safeRead_cases s r k 2
    rcases hcase with ⟨e, he, hc⟩ | ⟨he, hlen⟩ <;> rw [he] at h <;> cases h
    · exact ⟨m, rel, nofun, fun e' he' => by cases he'; exact hc⟩
    · exact ⟨m, rel, fun _ => ⟨nofun, fun _ => hlen⟩, nofun⟩

theorem hcGetChunkLeft_spec {s s' : State} {r k : Nat} {lo : LeftOut} (h : hcGetChunkLeft s r k = (s', lo)) :
    Dirty r k s s' ∧ (∀ e, lo = .exc e → e.cls ∈ rawCls) ∧ ∀ v, lo = .left v →
      (v = none → respFpClosed s' r = true ∧ ∀ rs', s'.resps[r]? = some rs' → rs'.eom = true ∨ rs'.eofAt = some k) ∧
      ∀ n, v = some n → ∃ m j, n = j + 1 ∧ RdP r k s s' m ∧
        ∀ {A : Nat → Attempt → Prop} {X : List Cell} {rs : Resp}, ChunkAt A r k s X rs →
          ∃ rs', ChunkAt A r k s' X rs' ∧ rs'.hcLeft = some n := by
  unfold hcGetChunkLeft at h
  split at h
  · rename_i n hn
    cases h
    refine ⟨.refl _ _ _, nofun, fun v hv => ?_⟩
    cases hv
    refine ⟨nofun, fun _ hn' => ?_⟩
    cases hn'
    exact ⟨[], n, rfl, .refl _ _ _, fun f => ⟨_, f, by simpa [hcLeftOf, f.resp] using hn⟩⟩
  rename_i hne
  unfold hcNext at h
  generalize hto : hcToss s r k (hcLeftOf s r) = res at h
  obtain ⟨s1, oe⟩ := res
  obtain ⟨m0, rel0, hm0, hc0⟩ := hcToss_rel hto
  cases oe with
  | some e =>
    cases h
    exact ⟨rel0.toP.dirty, fun e' he' => by cases he'; exact hc0 e rfl, nofun⟩
  | none =>
    obtain ⟨hm0n, hm0s⟩ := hm0 rfl
    dsimp only at h
    obtain ⟨s2, line, rel1, hcase⟩ := fpReadline_cases (inboundLen s1 k + 2) s1 r k
    have rel01 := rel0.trans rel1
    rcases hcase with ⟨e, he, hc⟩ | he <;> rw [he] at h
    · cases h
      exact ⟨rel01.toP.dirty, fun e' he' => by cases he'; exact hc, nofun⟩
    · dsimp only at h
      split at h
      · cases h
        exact ⟨rel01.toP.dirty.trans (closeFp_dirty s2 r k), fun e' he' => by cases he'; simp [rawCls, exc], nofun⟩
      · generalize hdt : hcDiscardTrailer _ s2 r k = res at h
        obtain ⟨s3, oe⟩ := res
        obtain ⟨d2, post, hc⟩ := hcDiscardTrailer_spec r k _ s2 s3 oe hdt
        cases oe with
        | some e =>
          cases h
          exact ⟨rel01.toP.dirty.trans d2, fun e' he' => by cases he'; exact hc e rfl, nofun⟩
        | none =>
          cases h
          refine ⟨((rel01.toP.dirty.trans d2).trans ((Rd.refl r k s3).setParse _ fun _ => rfl).dirty).trans
            (closeFp_dirty _ r k), nofun, fun v hv => ?_⟩
          cases hv
          refine ⟨fun _ => ⟨closeFp_closed _ r, fun rs' hrs' => ?_⟩, nofun⟩
          -- closing the reader keeps what the trailer loop has recorded
          cases hx : s3.resps[r]? with
          | none =>
            rw [List.getElem?_eq_none (by
              rw [(closeFp_dirty _ r k).rlen]
              simpa [setResp] using List.getElem?_eq_none_iff.mp hx)] at hrs'
            cases hrs'
          | some x =>
            obtain ⟨b, hb⟩ := closeFp_at (setResp_at (fun x => { x with hcLeft := none }) hx)
            rw [hb] at hrs'
            cases hrs'
            exact (post rfl x hx).imp id And.left
      · rename_i n hsz
        cases h
        have relP := rel01.setParse (fun x => { x with hcLeft := some (n + 1) }) (fun _ => rfl)
        refine ⟨relP.dirty, nofun, fun v hv => ?_⟩
        cases hv
        refine ⟨nofun, fun _ hn => ?_⟩
        cases hn
        refine ⟨_, n, rfl, relP, fun {A X rs} f => ?_⟩
        obtain ⟨b, hr'⟩ := rel01.setParse_at f.resp fun x => { x with hcLeft := some (n + 1) }
        refine ⟨_, f.read relP hr' fun a hd' Rem hc hE hm => ?_, rfl⟩
        have hcl : hcLeftOf s r = rs.hcLeft := by simp [hcLeftOf, f.resp]
        rw [hcl] at hm0n hm0s hne
        have hml : line <+: Rem.drop m0.length := prefix_drop_of_append hm
        -- a chunk-size line can follow only at `.size` (nothing tossed) or at `.crlf` (the toss took the CRLF)
        cases hcL : rs.chunkLeft with
        | some w =>
          exfalso
          cases hhc : rs.hcLeft with
          | some u =>
            rw [show respPos rs = .bad by simp [respPos, hcL, hhc]] at hE
            exact expect_not_bad hc hE
          | none =>
            have hm0' : m0 = [] := hm0n hhc
            subst hm0'
            exact expect_no_size hc (by cases w <;> simp [respPos, hcL, hhc]) hE (by simpa using hml) hsz
        | none =>
          simp only [respPos]
          cases hhc : rs.hcLeft with
          | none =>
            have hm0' : m0 = [] := hm0n hhc
            subst hm0'
            rw [show respPos rs = .size by simp [respPos, hcL, hhc]] at hE
            simpa using expect_size_line hc hE (by simpa using hml) hsz
          | some u =>
            cases u with
            | succ j => exact absurd hhc (hne j)
            | zero =>
              rw [show respPos rs = .crlf by simp [respPos, hcL, hhc]] at hE
              have g0 := expect_crlf_drop (m := m0) hc hE (hm0s (by rw [hhc]; rfl))
              have g1 := expect_size_line hc g0 hml hsz
              rwa [List.drop_drop, ← List.length_append] at g1

/-- what `http.client`'s `_read_chunked` by `r` from `k`, asked for `amt` with `acc` collected so far, came to -/
structure HcRead (r k : Nat) (s s' : State) (amt : Option Nat) (acc : List Cell) (out : DataOut) : Prop where
  dirty : Dirty r k s s'
  cls : ∀ e, out = .exc e → e.cls ∈ rawCls
  /-- data that is empty although something was asked for means the end of the message (or EOF in the trailer section)
  was seen -/
  ended : ∀ (rs : Resp) (d : List Cell), OpenAt s r k rs → out = .data d → ∃ rs', s'.resps[r]? = some rs' ∧
    ((rs'.fp = some k ∧ ((acc ≠ [] ∨ ∀ n, amt = some n → n ≠ 0) → d ≠ [])) ∨ rs'.eom = true ∨ rs'.eofAt = some k)
  closed : amt = none → ∀ d, out = .data d → respFpClosed s' r = true
  prov : ∀ {A : Nat → Attempt → Prop} {X : List Cell} {rs : Resp}, ChunkAt A r k s X rs →
    ∀ d, out = .data d → ∃ m', d = acc ++ m' ∧ Prov A (deliver s' r (X ++ m'))

theorem hcReadChunked_spec {r k fuel : Nat} {s s' : State} {amt : Option Nat} {acc : List Cell} {out : DataOut}
    (h : hcReadChunked fuel s r k amt acc = (s', out)) : HcRead r k s s' amt acc out := by
  induction fuel generalizing s s' amt acc out with
  | zero =>
    cases h
    exact ⟨.refl _ _ _, fun e he => by cases he; simp [rawCls, exc], (fun _ _ _ h => nomatch h), fun _ => nofun, fun _ => nofun⟩
  | succ fuel ih =>
    unfold hcReadChunked at h
    generalize hg : hcGetChunkLeft s r k = res at h
    obtain ⟨s1, lo⟩ := res
    obtain ⟨d0, hc0, q⟩ := hcGetChunkLeft_spec hg
    cases lo with
    | exc e =>
      cases h
      exact ⟨d0, fun e' he' => by cases he'; exact hc0 _ rfl, (fun _ _ _ h => nomatch h), fun _ => nofun, fun _ => nofun⟩
    | left v =>
      obtain ⟨hnone, hsome⟩ := q v rfl
      cases v with
      | none =>
        cases h
        refine ⟨d0, nofun, fun rs _ ho _ => ?_, fun _ _ _ => (hnone rfl).1, fun f d hd => ?_⟩
        · obtain ⟨rs', h', _⟩ := d0.rsame rs ho.resp
          exact ⟨rs', h', Or.inr ((hnone rfl).2 rs' h')⟩
        cases hd
        exact ⟨[], by simp, by simpa using (dirty_provAt f.prov f.toOpenAt d0 (hnone rfl).1).prov⟩
      | some cl =>
        obtain ⟨m1, j, hj, rel1, hp1⟩ := hsome cl rfl
        subst hj
        dsimp only at h
        split at h
        · rename_i n hshort
          have hn : amt = some n ∧ n ≤ j + 1 := by
            cases amt with
            | none => cases hshort
            | some n' =>
              dsimp only at hshort
              split at hshort
              · cases hshort
                exact ⟨rfl, by assumption⟩
              · cases hshort
          obtain ⟨s2, m, rel, hcase⟩ := safeRead_cases s1 r k n
          rcases hcase with ⟨e, he, hc⟩ | ⟨he, hlen⟩ <;> rw [he] at h <;> cases h
          · exact ⟨d0.trans rel.toP.dirty, fun e' he' => by cases he'; exact hc, (fun _ _ _ h => nomatch h), fun _ => nofun, fun _ => nofun⟩
          · have relP := rel.setParse (fun x => { x with hcLeft := some (j + 1 - n) }) (fun _ => rfl)
            refine ⟨d0.trans relP.dirty, nofun, fun rs d ho hd => ?_, (fun e => by rw [hn.1] at e; cases e),
              fun f d hd => ?_⟩
            · obtain ⟨rs', h', _, a4, _⟩ := (rel1.trans relP).kept ho.resp
              refine ⟨rs', h', Or.inl ⟨a4.trans ho.fp, fun hne e => ?_⟩⟩
              cases hd
              obtain ⟨e1, e2⟩ := List.append_eq_nil_iff.mp e
              exact hne.elim (fun g => g e1) (fun g => g n hn.1 (by rw [← hlen, e2]; rfl))
            cases hd
            obtain ⟨rs1, f1, hl1⟩ := hp1 f
            obtain ⟨b, hr'⟩ := rel.setParse_at f1.resp fun x => { x with hcLeft := some (j + 1 - n) }
            refine ⟨m, rfl, (f1.read relP hr' fun a hd' Rem hc hE hm => ?_).prov⟩
            obtain ⟨hcL, hE'⟩ := expect_hcLeft hc hl1 hE
            have := expect_take hc hE' hm hlen hn.2
            cases hi : j + 1 - n <;> simp only [respPos, hcL, hi, List.append_assoc] at this ⊢ <;> exact this
        · obtain ⟨s2, m, rel, hcase⟩ := safeRead_cases s1 r k (j + 1)
          rcases hcase with ⟨e, he, hc⟩ | ⟨he, hlen⟩ <;> rw [he] at h
          · cases h
            exact ⟨d0.trans rel.toP.dirty, fun e' he' => by cases he'; exact hc, (fun _ _ _ h => nomatch h), fun _ => nofun, fun _ => nofun⟩
          · dsimp only at h
            have relP := rel.setParse (fun x => { x with hcLeft := some 0 }) (fun _ => rfl)
            obtain ⟨d3, hc3, o3, c3, q3⟩ := ih h
            refine ⟨(d0.trans relP.dirty).trans d3, hc3, fun rs d ho hd => ?_, fun hnone => c3 (by rw [hnone]; rfl),
              fun f d hd' => ?_⟩
            · obtain ⟨rs3, h3, _, a4, _⟩ := (rel1.trans relP).kept ho.resp
              obtain ⟨rs', h', g⟩ := o3 rs3 d ⟨h3, a4.trans ho.fp⟩ hd
              refine ⟨rs', h', g.imp_left fun g => ⟨g.1, fun _ => g.2 (Or.inl fun e => ?_)⟩⟩
              rw [(List.append_eq_nil_iff.mp e).2] at hlen
              cases hlen
            obtain ⟨rs1, f1, hl1⟩ := hp1 f
            obtain ⟨b, hr'⟩ := rel.setParse_at f1.resp fun x => { x with hcLeft := some 0 }
            have f2 := f1.read (X' := _ ++ m) relP hr' fun a hd' Rem hc hE hm => by
              obtain ⟨hcL, hE'⟩ := expect_hcLeft hc hl1 hE
              have := expect_take hc hE' hm hlen (Nat.le_refl _)
              rw [Nat.sub_self, List.append_assoc] at this
              simp only [respPos, hcL]
              exact this
            obtain ⟨m'', e1, e2⟩ := q3 f2 d hd'
            exact ⟨m ++ m'', by rw [e1]; simp, by simpa using e2⟩

end U3.Pool
