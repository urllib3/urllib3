import U3.Lemmas.RespFold
/-! The wrapper lemma `gzip_multimember` of DESIGN §6 (`gzDec_streamLaw`): the `GzipDecoder` wrapper (member
state machine: first member, further members, trailing garbage swallowed) obeys the streaming law for
EVERY byte-step `decompressobj`.

The wrapper is characterised by a byte fold `gzRun` — restart with a fresh `decompressobj` in state
`OTHER_MEMBERS` when a byte arrives at `eof`; a `zlib.error` in state `OTHER_MEMBERS` switches to
`SWALLOW_DATA`.  Where the fold is defined on `a ++ b`, `gzDecompress` run on `a` puts out a prefix of
what the fold yields and is left in a state from which the fold over `b` yields the rest
(`gzDecompress_run`): that is the streaming law.  The fold is *undefined* exactly where the real
decoder is not compositional or fails: an error in the first member (`DecodeError`), an `unsupported`
block, and trailing garbage that *produces output before it fails* (the output of the failing
`decompress` call is lost, so the result depends on where the feed boundaries fall; `dirty` tracks
"output since the start of the run / of the member"). -/
namespace U3.Resp
open U3

section
variable {ρ : Type} (O : RawObj ρ)

/-- byte-wise semantics of `GzipDecoder`: core state, member state, "the current member has
produced output since the run began", output -/
def gzRun : ρ → GzState → Bool → Bytes → Option (ρ × GzState × Bool × Bytes)
  | s, gs, dirty, [] => some (s, gs, dirty, [])
  | s, gs, dirty, b :: t =>
    if gs = .swallowData then some (s, gs, dirty, [])
    else
      let s0 := if O.eof s then O.init else s
      let gs0 := if O.eof s then GzState.otherMembers else gs
      let d0 := if O.eof s then false else dirty
      if O.eof s0 then none
      else match O.step s0 b with
        | .error .unsupported => none
        | .error .error =>
          if gs0 = .otherMembers ∧ d0 = false then some (s0, .swallowData, d0, []) else none
        | .ok (s1, o) =>
          match gzRun s1 gs0 (d0 || !o.isEmpty) t with
          | none => none
          | some (s2, gs2, d2, o2) => some (s2, gs2, d2, o ++ o2)

theorem gzRun_nil (s : ρ) (gs : GzState) (d : Bool) : gzRun O s gs d [] = some (s, gs, d, []) := by
  rw [gzRun]

theorem gzRun_swallow (s : ρ) (d : Bool) (x : Bytes) :
    gzRun O s .swallowData d x = some (s, .swallowData, d, []) := by
  cases x <;> simp [gzRun]

section
variable {s : ρ} {gs : GzState} {d : Bool} {b : Nat} {t : Bytes} (hgs : gs ≠ .swallowData)
include hgs

theorem gzRun_step_ok (he : O.eof s = false) {s1 : ρ} {o : Bytes} (hs : O.step s b = .ok (s1, o)) :
    gzRun O s gs d (b :: t) =
      (gzRun O s1 gs (d || !o.isEmpty) t).map fun r => (r.1, r.2.1, r.2.2.1, o ++ r.2.2.2) := by
  rw [gzRun]
  simp only [hgs, he, hs, if_false, Bool.false_eq_true]
  cases gzRun O s1 gs (d || !o.isEmpty) t <;> rfl

theorem gzRun_step_error (he : O.eof s = false) {e : ZErr} (hs : O.step s b = .error e) :
    gzRun O s gs d (b :: t) =
      if e = .error ∧ gs = .otherMembers ∧ d = false then some (s, .swallowData, d, []) else none := by
  rw [gzRun]
  simp only [hgs, he, hs, if_false, Bool.false_eq_true]
  cases e <;> simp

theorem gzRun_eof (he : O.eof s = true) :
    gzRun O s gs d (b :: t) =
      if O.eof O.init = true then none else gzRun O O.init .otherMembers false (b :: t) := by
  rw [gzRun, gzRun]
  simp only [hgs, he, if_true, if_false]
  cases hi : O.eof O.init <;> simp [hi]

end

theorem gzRun_feeds {gs : GzState} (hgs : gs ≠ .swallowData) {s s' : ρ} {used out : Bytes}
    (h : Feeds O s used s' out) (d : Bool) (rest : Bytes) :
    gzRun O s gs d (used ++ rest) =
      (gzRun O s' gs (d || !out.isEmpty) rest).map fun r => (r.1, r.2.1, r.2.2.1, out ++ r.2.2.2) := by
  induction h generalizing d with
  | nil s => cases h : gzRun O s gs d rest <;> simp [h]
  | @cons s s1 s' b t o out he hs _ ih =>
    rw [List.cons_append, gzRun_step_ok O hgs he hs, ih]
    cases o <;> simp [Function.comp_def]

/-- "a `GzipDecoder` in state `g` that is still to receive `raw` will still deliver `p`" -/
def GzG (g : Gz ρ) (raw p : Bytes) : Prop :=
  g.obj.unused = [] ∧ ∃ d s2 gs2 d2, gzRun O g.obj.st g.state d raw = some (s2, gs2, d2, p)

/-- the `while True` loop of `GzipDecoder.decompress`: one `self._obj.decompress(data)` either computes
a prefix of `gzRun`, stopping at the end of the member, or raises in state `OTHER_MEMBERS` before any
output: then `gzRun` swallows -/
theorem gzLoop_run (fuel : Nat) (g : Gz ρ) (data ret b : Bytes) {p : Bytes} (hG : GzG O g (data ++ b) p)
    (hgs : g.state ≠ .swallowData) (hf : data.length + (if O.eof g.obj.st = true then 1 else 0) < fuel) :
    ∃ o g', gzLoop O fuel g data ret = (.ok (ret ++ o), g') ∧ ∃ p', p = o ++ p' ∧ GzG O g' b p' := by
  induction fuel generalizing g data ret p with
  | zero => omega
  | succ k ih =>
    obtain ⟨hu, d, _, _, _, hrun⟩ := hG
    unfold gzLoop
    obtain ⟨used, rest, s', out, hd, hu', hc⟩ := feedLoop_split O data g.obj.st
    rw [hd, List.append_assoc, gzRun_feeds O hgs hu'] at hrun
    obtain ⟨⟨s3, gs3, d3, p3⟩, h2, heq⟩ := Option.map_eq_some_iff.mp hrun
    cases heq
    rcases hc with ⟨h1, heof, hlt⟩ | ⟨x, t, e, rfl, he, hs, h1⟩
    · simp only [zlibFeed, h1, hu, List.nil_append]
      cases rest with
      | nil => exact ⟨out, { g with obj := ⟨s', []⟩ }, by simp, p3, rfl, rfl, _, _, _, _, h2⟩
      | cons x t =>
        rw [List.cons_append, gzRun_eof O hgs (heof (List.cons_ne_nil x t))] at h2
        -- a fresh `decompressobj` is not at `eof`, else `gzRun` would have failed
        split at h2
        · cases h2
        · rename_i hinit
          -- the rest is shorter than `data` unless the call began at `eof`, which the fuel pays for
          have hlen : (x :: t).length + (if O.eof O.init = true then 1 else 0) < k := by
            have := hlt (by
              intro h0
              rw [h0] at h1
              cases h1)
            rw [if_neg hinit]
            omega
          obtain ⟨o, g', e1, p', e2, e3⟩ := ih { obj := ZObj.fresh O, state := .otherMembers } (x :: t) (ret ++ out)
            ⟨rfl, _, _, _, _, h2⟩ (fun h => nomatch h) hlen
          exact ⟨out ++ o, g', by simpa [List.append_assoc] using e1, p', by rw [e2, List.append_assoc], e3⟩
    · rw [List.cons_append, gzRun_step_error O hgs he hs] at h2
      split at h2
      · rename_i hc
        cases h2
        have hout : d = false ∧ out = [] := by simpa using hc.2.2
        simp only [zlibFeed, h1, hc.1, if_pos hc.2.1]
        exact ⟨[], { g with state := .swallowData }, by rw [List.append_nil], [], by simp [hout.2], hu, d, _, _, _,
          gzRun_swallow O _ _ _⟩
      · cases h2

theorem gzDecompress_run {g : Gz ρ} {data b p : Bytes} (hG : GzG O g (data ++ b) p) :
    ∃ o g', gzDecompress O g data = (.ok o, g') ∧ ∃ p', p = o ++ p' ∧ GzG O g' b p' := by
  unfold gzDecompress
  by_cases hc : g.state = .swallowData ∨ data.isEmpty = true
  · rw [if_pos hc]
    refine ⟨[], g, rfl, p, rfl, ?_⟩
    rcases hc with hc | hc
    · obtain ⟨hu, d, _, _, _, hrun⟩ := hG
      rw [hc, gzRun_swallow] at hrun
      exact ⟨hu, d, by rw [hc, gzRun_swallow]; exact ⟨_, _, _, hrun⟩⟩
    · cases List.isEmpty_iff.mp hc
      exact hG
  · rw [if_neg hc]
    obtain ⟨o, g', e1, e2⟩ := gzLoop_run O (data.length + 2) g data [] b hG (fun h => hc (.inl h))
      (by split <;> omega)
    exact ⟨o, g', by simpa using e1, e2⟩

/-- `gzip_multimember`: the wrapper obeys the streaming law, for any `decompressobj` -/
theorem gzDec_streamLaw : StreamLaw (gzDec O) (GzG O) := by
  constructor
  · intro g a b p h
    exact gzDecompress_run O h
  · intro g p ⟨hu, d, s2, gs2, d2, hrun⟩
    rw [gzRun_nil] at hrun
    cases hrun
    exact ⟨rfl, g, rfl, hu, d, _, _, _, gzRun_nil O _ _ _⟩

end

/-- Boolean test implying `GzG` (`GzG_of_gzOk`) -/
def gzOk {ρ : Type} (O : RawObj ρ) (s : ρ) (gs : GzState) (raw p : Bytes) : Bool :=
  match gzRun O s gs false raw with
  | some (_, _, _, o) => o == p
  | none => false

theorem GzG_of_gzOk {ρ : Type} (O : RawObj ρ) (g : Gz ρ) (raw p : Bytes) (hu : g.obj.unused = [])
    (h : gzOk O g.obj.st g.state raw p = true) : GzG O g raw p := by
  unfold gzOk at h
  split at h
  · rename_i s2 gs2 d2 o hr
    exact ⟨hu, false, s2, gs2, d2, by rw [hr, beq_iff_eq.mp h]⟩
  · cases h

end U3.Resp
