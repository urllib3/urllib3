import U3.Lemmas.Url
/-!
ASCII case change does not influence the address matchers of `U3.Url` (`isIPv6`, `isIPv4`, `isZone`,
`bracketOk`, `ipv6AddrzMatch`, `ipv4Match`), and the `%HH` scanner commutes with lower-casing.
Everything rests on two facts about `lowerC` (`U3.Lemmas.Str`): it hits a non-letter only from itself
(`lowerC_eq_iff`), and it preserves the character classes the matchers test.
-/
namespace U3.Url
open U3

theorem lowerC_of_ge {c : Nat} (h : 91 ≤ c) : lowerC c = c := by
  unfold lowerC
  split <;> omega

theorem lowerC_of_lt {c : Nat} (h : c < 65) : lowerC c = c := by
  unfold lowerC
  split <;> omega

/-- both cases of every ASCII letter are unreserved, so membership is case-blind -/
theorem mem_unreserved_lowerC (c : Nat) : mem Gen.unreservedChars (lowerC c) = mem Gen.unreservedChars c := by
  by_cases hu : 65 ≤ c ∧ c ≤ 90
  · have key : ∀ d, d < 91 → 65 ≤ d →
        mem Gen.unreservedChars (d + 32) = true ∧ mem Gen.unreservedChars d = true := by decide +kernel
    have := key c (by omega) hu.1
    simp only [lowerC, hu, and_self, if_true]
    rw [this.1, this.2]
  · rw [lowerC, if_neg hu]

theorem isH16_lower (p : Str) : isH16 (lower p) = isH16 p := by
  simp only [isH16, lower_length, all_lower isHexC isHexC_lowerC]

theorem isDec13_lower (p : Str) : isDec13 (lower p) = isDec13 p := by
  simp only [isDec13, lower_length, all_lower isDigitC isDigitC_lowerC]

theorem isIPv4_lower (p : Str) : isIPv4 (lower p) = isIPv4 p := by
  rw [isIPv4_eq, isIPv4_eq, splitOn1_lower 46 rfl]
  rcases splitOn1 46 p with _ | ⟨a, _ | ⟨b, _ | ⟨c, _ | ⟨d, _ | ⟨e, t⟩⟩⟩⟩⟩ <;> simp [isIPv4L, isDec13_lower]

theorem findDoubleColon_lower (s : Str) :
    findDoubleColon (lower s) = (findDoubleColon s).map (fun p => (lower p.1, lower p.2)) := by
  fun_induction findDoubleColon s <;>
    simp_all [lower_cons, findDoubleColon, lowerC_eq_iff _ 58 rfl]

theorem countGroups_lower (v4 : Bool) (s : Str) : countGroups v4 (lower s) = countGroups v4 s := by
  have hall : ∀ l : List Str, (l.map lower).all isH16 = l.all isH16 := fun l => by
    simp [List.all_map, Function.comp_def, isH16_lower]
  simp only [countGroups, lower_isEmpty, splitOn1_lower 58 rfl, hall, List.length_map,
    ← List.map_dropLast, List.getLast?_map]
  cases (splitOn1 58 s).getLast? <;> simp [isIPv4_lower]

theorem isIPv6_lower (s : Str) : isIPv6 (lower s) = isIPv6 s := by
  unfold isIPv6
  rw [findDoubleColon_lower]
  cases findDoubleColon s <;> simp only [Option.map_none, Option.map_some, countGroups_lower, lower_isEmpty]

def Tok.lower : Tok → Tok
  | .chr c => .chr (lowerC c)
  | .esc a b => .esc (lowerC a) (lowerC b)

theorem hex2_lower (t : Str) : hex2 (lower t) = (hex2 t).map (fun p => (lowerC p.1, lowerC p.2)) := by
  match t with
  | [] | [_] => rfl
  | a :: b :: r =>
    simp only [lower_cons, hex2, isHexC_lowerC]
    split <;> rfl

theorem tokAux_lower (k : Nat) (s : Str) : tokAux k (lower s) = (tokAux k s).map Tok.lower := by
  fun_induction tokAux k s <;>
    simp_all [lower_cons, tokAux, hex2_lower, lowerC_eq_iff _ 37 rfl, Tok.lower, show lowerC 37 = 37 from rfl]

theorem tokenize_lower (s : Str) : tokenize (lower s) = (tokenize s).map Tok.lower := tokAux_lower 0 s

theorem zoneTok_lower (t : Tok) : zoneTok t.lower = zoneTok t := by
  cases t with
  | chr c => simp only [Tok.lower, zoneTok, mem_unreserved_lowerC]
  | esc a b => rfl

theorem isZone_cons (c : Nat) (z : Str) :
    isZone (c :: z) = (c == 37 && (!z.isEmpty && (tokenize z).all zoneTok)) := by
  by_cases h : c = 37
  · subst h
    rfl
  · unfold isZone
    split
    · rename_i heq
      exact absurd (List.cons.inj heq).1 h
    · simp [h]

theorem isZone_lower (z : Str) : isZone (lower z) = isZone z := by
  cases z with
  | nil => rfl
  | cons c t =>
    simp only [lower_cons, isZone_cons, beq_lowerC c 37 rfl, lower_isEmpty, tokenize_lower, List.all_map,
      Function.comp_def, zoneTok_lower]

theorem bracketOk_lower (c : Str) : bracketOk (lower c) = bracketOk c := by
  simp only [bracketOk, takeWhile_lower 37 rfl, dropWhile_lower 37 rfl, isIPv6_lower,
    lower_isEmpty, isZone_lower]

theorem ipv6AddrzMatch_lower (h : Str) : ipv6AddrzMatch (lower h) = ipv6AddrzMatch h := by
  cases h with
  | nil => rfl
  | cons c t =>
    have hg : decide ((lower t).getLast? = some 93) = decide (t.getLast? = some 93) :=
      decide_eq_decide.mpr (getLast?_lower_eq 93 rfl t)
    have hc : (lower t).dropLast.contains 93 = t.dropLast.contains 93 := by
      rw [Bool.eq_iff_iff]
      simp [lower, ← List.map_dropLast, lowerC_eq_iff _ 93 rfl]
    simp only [lower_cons, ipv6AddrzMatch_cons, beq_lowerC c 91 rfl, hg, hc]
    rw [lower, ← List.map_dropLast, ← lower, bracketOk_lower]

theorem stripNl_lower (s : Str) : stripNl (lower s) = lower (stripNl s) := by
  unfold stripNl
  simp only [getLast?_lower_eq 10 rfl s]
  split
  · simp [lower, List.map_dropLast]
  · rfl

theorem ipv4Match_lower (h : Str) : ipv4Match (lower h) = ipv4Match h := by
  simp only [ipv4Match, stripNl_lower, isIPv4_lower]

end U3.Url
