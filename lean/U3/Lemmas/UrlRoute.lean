import U3.Model.Route
import U3.Lemmas.UrlHostCase
/-!
The hosts a pool's second `_normalize_host` leaves alone are the shapes `U3.Lemmas.UrlHost` finds in
every parsed http / https URL (the `zone25` shape of the known finding excepted); the letter case of
scheme and host of a URL text `scheme://[userinfo@]HOST rest` does not reach the parse.
-/
namespace U3.Route
open U3

theorem normalizable_web {s : Str} (hsch : s = http ∨ s = https) : Url.Normalizable (some s) := by
  unfold Url.Normalizable
  rcases hsch with rfl | rfl <;> decide

/-- the hosts on which the pool's second `_normalize_host` is the identity: a lower-case ASCII reg-name,
a dotted quad, an IPv6 literal without zone in lower case -/
def StableHost (h : Str) : Prop :=
  (h.all (· < 128) = true ∧ lower h = h ∧ Url.ipv6AddrzMatch h = false) ∨
  (Url.ipv4Match h = true ∧ Url.ipv6AddrzMatch h = false) ∨
  (Url.ipv6AddrzMatch h = true ∧ 37 ∉ h ∧ lower h = h)

/-- a zoned IPv6 literal as `parse_url` returns it, whose zone id does not start with `25` (followed by
more): the exclusion of the known finding `zone-25-prefix-stripped-twice` -/
def StableZoned (h : Str) : Prop :=
  Url.ipv6AddrzMatch h = true ∧ lower (h.takeWhile (· != 37)) = h.takeWhile (· != 37) ∧
  ∃ z, (h.dropWhile (· != 37)).takeWhile (· != 93) = 37 :: z ∧
    ¬ (isPrefix [50, 53] z = true ∧ z ≠ [50, 53]) ∧ Url.NormalForm Gen.unreservedChars z

/-- `StableHost` / `StableZoned` in the terms of `U3.Lemmas.UrlHost`: the three shapes of a parsed host, the
`zone25` shape excepted (a dotted quad is a `NameHost`) -/
theorem stable_iff {h : Str} :
    StableHost h ∨ StableZoned h ↔ (Url.NameHost h ∨ Url.LiteralHost h ∨ Url.ZonedHost h) ∧ Url.zone25 h = false := by
  have name {h} (hn : Url.NameHost h) : Url.zone25 h = false := by simp [Url.zone25, hn.2.2]
  constructor
  · rintro ((hn | ⟨h4, -⟩ | hl) | ⟨h6, hl, z, hz, h25, hnf⟩)
    · exact ⟨.inl hn, name hn⟩
    · exact ⟨.inl (Url.ipv4Match_name h4), name (Url.ipv4Match_name h4)⟩
    · exact ⟨.inr (.inl hl), by simp [Url.zone25, Url.zoneOf, (takeWhile_ne_of_not_mem hl.2.1).2, isPrefix]⟩
    · exact ⟨.inr (.inr ⟨h6, hl, z, hz, hnf⟩), by simpa [Url.zone25, h6, Url.zoneOf_of hz] using h25⟩
  · rintro ⟨hn | hl | ⟨h6, hl, z, hz, hnf⟩, h25⟩
    · exact .inl (.inl hn)
    · exact .inl (.inr (.inr hl))
    · exact .inr ⟨h6, hl, z, hz, by simpa [Url.zone25, h6, Url.zoneOf_of hz] using h25, hnf⟩

theorem stable_of_parse {idna : Str → Option Str} (hc : Url.IdnaLdh idna) {url : Str} {u : Url.Url}
    (hp : Url.parseUrlWith idna url = .ok u) {s : Str} (hs : u.scheme = some s) (hsch : s = http ∨ s = https)
    {hst : Str} (hh : u.host = some hst) (h25 : Url.zone25 hst = false) : StableHost hst ∨ StableZoned hst :=
  stable_iff.mpr ⟨Url.parsed_host_shape hc hp (hs ▸ normalizable_web hsch) hh, h25⟩

theorem schemeChar1_lowerC (c : Nat) : Url.schemeChar1 (lowerC c) = Url.schemeChar1 c := by
  simp only [Url.schemeChar1, isAlphaC_lowerC, isDigitC_lowerC, beq_lowerC c 43 rfl,
    beq_lowerC c 45 rfl]

/-- the class of `_SCHEME_RE` -/
def SchemeText (sc : Str) : Prop :=
  ∃ c t, sc = c :: t ∧ isAlphaC c = true ∧ ∀ x ∈ t, Url.schemeChar1 x = true

theorem schemeText_lower (sc : Str) : SchemeText (lower sc) ↔ SchemeText sc := by
  cases sc with
  | nil => exact ⟨fun ⟨_, _, e, _⟩ => (nomatch e), fun ⟨_, _, e, _⟩ => (nomatch e)⟩
  | cons a r =>
    have cons : ∀ (c : Nat) (t : Str),
        SchemeText (c :: t) ↔ isAlphaC c = true ∧ ∀ x ∈ t, Url.schemeChar1 x = true :=
      fun c t => ⟨fun ⟨_, _, e, h⟩ => by cases e; exact h, fun h => ⟨c, t, rfl, h⟩⟩
    simp [cons, isAlphaC_lowerC, lower, schemeChar1_lowerC]

theorem uriGroups_scheme {sc : Str} (h : SchemeText sc) (rest : Str) :
    Url.uriGroups (sc ++ 58 :: rest) =
      ⟨some sc, (Url.splitAuthority rest).1, (Url.splitPQF (Url.splitAuthority rest).2).1,
        (Url.splitPQF (Url.splitAuthority rest).2).2.1, (Url.splitPQF (Url.splitAuthority rest).2).2.2⟩ := by
  obtain ⟨c, t, rfl, hc, ht⟩ := h
  have ht' : ∀ x ∈ t, Url.schemeChar x = true := fun x hx => by simp [Url.schemeChar, ht x hx]
  have h1 := takeWhile_append_stop t 58 rest ht (by decide)
  have h2 := takeWhile_append_stop t 58 rest ht' (by decide)
  simp [Url.uriGroups, Url.schemeRe, Url.splitScheme, Url.alpha_ne47 hc, hc, h1.2, h2.1, h2.2]

theorem parseUrlWith_scheme_case (idna : Str → Option Str) (sc₁ sc₂ rest : Str) (h1 : SchemeText sc₁)
    (hl : lower sc₁ = lower sc₂) :
    Url.parseUrlWith idna (sc₁ ++ 58 :: rest) = Url.parseUrlWith idna (sc₂ ++ 58 :: rest) := by
  have h2 : SchemeText sc₂ := (schemeText_lower sc₂).mp (hl ▸ (schemeText_lower sc₁).mpr h1)
  simp only [Url.parseUrlWith_eq, Url.parseCore_eq, uriGroups_scheme h1, uriGroups_scheme h2,
    Url.normalizeUriOf_eq, Option.map_some, hl]

/-- the userinfo part of an authority text: nothing, or something ending in `@` -/
inductive UiPrefix : Str → Str → Prop
  | none : UiPrefix [] []
  | some (ui : Str) : UiPrefix (ui ++ [64]) ui

theorem rpartitionAt_prefix {P au X : Str} (hP : UiPrefix P au) (hX : 64 ∉ X) :
    Url.rpartitionAt (P ++ X) = (au, X) := by
  cases hP with
  | none => exact Url.rpartitionAt_none hX
  | some => simpa using Url.rpartitionAt_at au hX

/-- the URL text `scheme://[userinfo@]HOST rest` -/
def urlText (sc P H rest : Str) : Str := sc ++ 58 :: 47 :: 47 :: (P ++ (H ++ rest))

theorem uriGroups_urlText {sc P H rest : Str} (hsc : SchemeText sc) (hPa : ∀ c ∈ P, Url.authChar c = true)
    (hH : ∀ c ∈ H, Url.authChar c = true) :
    Url.uriGroups (urlText sc P H rest) =
      ⟨some sc, some (P ++ (H ++ rest.takeWhile Url.authChar)),
        (Url.splitPQF (rest.dropWhile Url.authChar)).1, (Url.splitPQF (rest.dropWhile Url.authChar)).2.1,
        (Url.splitPQF (rest.dropWhile Url.authChar)).2.2⟩ := by
  have hPH : ∀ x ∈ P ++ H, Url.authChar x = true := by
    simpa [or_imp, forall_and] using And.intro hPa hH
  rw [urlText, uriGroups_scheme hsc, ← List.append_assoc P H rest]
  simp only [Url.splitAuthority, List.takeWhile_append_of_pos hPH, List.dropWhile_append_of_pos hPH]
  rw [List.append_assoc]

theorem parseUrlWith_host_congr (idna : Str → Option Str) (sc P au H₁ H₂ rest : Str) (hsc : SchemeText sc)
    (hP : UiPrefix P au) (hPa : ∀ c ∈ P, Url.authChar c = true)
    (hH₁ : Url.HostIn H₁) (hH₂ : Url.HostIn H₂) (hne₁ : H₁ ≠ []) (hne₂ : H₂ ≠ [])
    (hN : Url.normalizeHost idna (some H₁) (some (lower sc)) = Url.normalizeHost idna (some H₂) (some (lower sc)))
    (hrest : rest = [] ∨ ∃ c t, rest = c :: t ∧ (c = 58 ∨ Url.authChar c = false))
    (h64 : 64 ∉ rest.takeWhile Url.authChar) :
    Url.parseUrlWith idna (urlText sc P H₁ rest) = Url.parseUrlWith idna (urlText sc P H₂ rest) := by
  have hA : rest.takeWhile Url.authChar = [] ∨ ∃ t, rest.takeWhile Url.authChar = 58 :: t := by
    rcases hrest with rfl | ⟨c, t, rfl, rfl | hc⟩
    · exact Or.inl rfl
    · exact Or.inr ⟨_, List.takeWhile_cons_of_pos (by decide)⟩
    · exact Or.inl (List.takeWhile_cons_of_neg (by simpa using hc))
  have hpa : ∀ {H}, (hH : Url.HostIn H) → _ := fun {H} hH => Url.parseAuthority_text
    (Url.normalizeUriOf (some sc)) (rpartitionAt_prefix hP (X := H ++ rest.takeWhile Url.authChar) (by simp [hH.noAt, h64])) hH hA
  -- a non-empty host is never replaced by `None` (the delimiters-only rule needs `host == ""`)
  have e₁ : H₁.isEmpty = false := by simpa using hne₁
  have e₂ : H₂.isEmpty = false := by simpa using hne₂
  simp only [Url.parseUrlWith_eq, Url.parseCore_eq, uriGroups_urlText hsc hPa hH₁.auth,
    uriGroups_urlText hsc hPa hH₂.auth, hpa hH₁, hpa hH₂, e₁, e₂, Bool.and_false, Bool.false_eq_true, if_false]
  cases Url.portPart (rest.takeWhile Url.authChar) with
  | none => rfl
  | some p => simp only [bind, Except.bind, Option.map_some, hN]

/-- two ASCII spellings `H₁`, `H₂` of the host of an http / https URL text that differ in letter case only
parse alike (`C15_host_case_parse`; `…_partial` is the instance for plain names).  `hz`: a zone id is
case-sensitive, it has to be spelled identically in both texts.  `hrest`, `h64` make `H` the whole host of
`urlText sc P H rest`: what follows it is nothing, a port (`:`) or the end of the authority (a character outside
`authChar`: `/`, `?`, `#`, a backslash), and no later `@` turns it into userinfo. -/
theorem parseUrlWith_host_case_gen (idna : Str → Option Str) (sc P au H₁ H₂ rest : Str) (hsc : SchemeText sc)
    (hs : lower sc = http ∨ lower sc = https) (hP : UiPrefix P au) (hPa : ∀ c ∈ P, Url.authChar c = true)
    (hk₁ : Url.regText H₁ = true ∨ Url.ipv6AddrzMatch H₁ = true)
    (hk₂ : Url.regText H₂ = true ∨ Url.ipv6AddrzMatch H₂ = true)
    (ha₁ : H₁.all (· < 128) = true) (ha₂ : H₂.all (· < 128) = true) (hl : lower H₁ = lower H₂)
    (hz : Url.ipv6AddrzMatch H₁ = true → H₁.dropWhile (· != 37) = H₂.dropWhile (· != 37))
    (hrest : rest = [] ∨ ∃ c t, rest = c :: t ∧ (c = 58 ∨ Url.authChar c = false))
    (h64 : 64 ∉ rest.takeWhile Url.authChar) :
    Url.parseUrlWith idna (urlText sc P H₁ rest) = Url.parseUrlWith idna (urlText sc P H₂ rest) := by
  have hlen : H₁.length = H₂.length := by simpa using congrArg List.length hl
  by_cases hne₁ : H₁ = []
  · obtain rfl : H₂ = [] := List.eq_nil_of_length_eq_zero (by simp [← hlen, hne₁])
    rw [hne₁]
  · have hne₂ : H₂ ≠ [] := fun e => hne₁ (List.eq_nil_of_length_eq_zero (by simp [hlen, e]))
    exact parseUrlWith_host_congr idna sc P au H₁ H₂ rest hsc hP hPa (Url.hostIn_of hk₁) (Url.hostIn_of hk₂) hne₁ hne₂
      (Url.normalizeHost_case idna (normalizable_web hs) ha₁ ha₂ hl hz) hrest h64

def hostPlainC (c : Nat) : Bool := isAlphaC c || isDigitC c || c == 45 || c == 46 || c == 95 || c == 126

theorem regText_plain {H : Str} (hH : ∀ c ∈ H, hostPlainC c = true) :
    Url.regText H = true ∧ H.all (· < 128) = true ∧ Url.ipv6AddrzMatch H = false := by
  -- a plain character is ASCII and none of `# % / : ? @ [ \ ]`
  have facts : ∀ c ∈ H, Url.regNameChar c = true ∧ c ≠ 92 ∧ c ≠ 64 ∧ c ≠ 91 ∧ c < 128 := by
    intro c hc
    have h := hH c hc
    simp only [hostPlainC, isAlphaC, isUpperC, isLowerC, isDigitC, Bool.or_eq_true, Bool.and_eq_true,
      decide_eq_true_eq, beq_iff_eq] at h
    simp only [Url.regNameChar, Bool.not_eq_true', Bool.or_eq_false_iff, beq_eq_false_iff_ne]
    omega
  refine ⟨Url.regText_of_chars fun c hc => ⟨(facts c hc).1, (facts c hc).2.1, (facts c hc).2.2.1⟩, ?_,
    Url.not_match_of_no91 fun h => (facts 91 h).2.2.2.1 rfl⟩
  simpa [List.all_eq_true] using fun c hc => (facts c hc).2.2.2.2

end U3.Route
