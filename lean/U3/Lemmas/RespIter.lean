import U3.Model.Resp
import U3.Lemmas.Str
/-! The generators: `stream` / `read_chunked` / iteration never yield an empty piece, and `__iter__`
re-splits the streamed chunks on `\n` without losing or reordering a byte. -/
namespace U3.Resp
open U3

/-- the pieces of `chunk.split(b"\n")`, each but the last followed by `\n`, then the last, are
`b"\n".join` of them, which is the chunk -/
theorem iter_chunk_flatten (chunk carry : Bytes) (h : chunk.contains LF = true) :
    (carry ++ (splitOn1 LF chunk).headD [] ++ [LF]) ++
      (((splitOn1 LF chunk).drop 1).dropLast.map (· ++ [LF])).flatten ++ (splitOn1 LF chunk).getLastD []
      = carry ++ chunk := by
  obtain ⟨p, q, qs, h1⟩ := splitOn1_two LF chunk h
  have h2 := joinWith_dropLast [LF] (splitOn1 LF chunk)
  rw [joinWith_splitOn1, h1] at h2
  rw [h1, h2]
  simp

theorem iterSplit_flatten : ∀ (ps : List Bytes) (carry : Bytes),
    (iterSplit ps carry).flatten = carry ++ ps.flatten := by
  intro ps
  induction ps with
  | nil =>
    intro carry
    unfold iterSplit
    split
    · rename_i h
      simp [List.isEmpty_iff.mp h]
    · simp
  | cons chunk rest ih =>
    intro carry
    unfold iterSplit
    split
    · rename_i h
      simp only [List.flatten_cons, List.flatten_append, ih]
      have := iter_chunk_flatten chunk carry h
      rw [← List.append_assoc, this, List.append_assoc]
    · rw [ih]
      simp

section
variable {σ δ : Type} (S : Src σ) (D : Dec δ) (cfg : Cfg δ)

/-- the `if data:` / `if decoded:` guard of the generators -/
theorem push_nonempty {acc : List Bytes} (d : Bytes) (h : ∀ x ∈ acc, x ≠ []) :
    ∀ x ∈ (if d.isEmpty then acc else acc ++ [d]), x ≠ [] := by
  split
  · exact h
  · rename_i hd
    intro x hx
    rcases List.mem_append.mp hx with hx | hx
    · exact h x hx
    · rw [List.mem_singleton.mp hx]
      exact fun h0 => hd (by rw [h0]; rfl)

theorem streamLoop_nonempty (amt : Option Nat) (dco : Option Bool) :
    ∀ (fuel : Nat) (r : R σ δ) (acc : List Bytes), (∀ x ∈ acc, x ≠ []) →
      ∀ x ∈ (streamLoop S D cfg amt dco fuel r acc).1.1, x ≠ [] := by
  intro fuel
  induction fuel with
  | zero =>
    intro r acc h
    exact h
  | succ k ih =>
    intro r acc h
    unfold streamLoop
    split
    · split
      · exact h
      · exact ih _ _ (push_nonempty _ h)
    · exact h

theorem rcLoop_nonempty (amt : Option Nat) (dc : Bool) :
    ∀ (fuel : Nat) (r : R σ δ) (acc : List Bytes), (∀ x ∈ acc, x ≠ []) →
      ∀ x ∈ (rcLoop S D amt dc fuel r acc).1.1, x ≠ [] := by
  intro fuel
  induction fuel with
  | zero =>
    intro r acc h
    exact h
  | succ k ih =>
    intro r acc h
    unfold rcLoop
    split
    · exact h
    · split
      · exact h
      · split
        · exact h
        · split
          · exact h
          · exact ih _ _ (push_nonempty _ h)

theorem readChunked_nonempty (r : R σ δ) (amt : Option Nat) (dc : Bool) :
    ∀ x ∈ (readChunked S D cfg r amt dc).1.1, x ≠ [] := by
  have hrc := rcLoop_nonempty S D amt dc cfg.fuel (initDec cfg r) [] (by simp)
  unfold readChunked
  dsimp only
  by_cases hch : (!cfg.chunked) = true
  · rw [if_pos hch]
    simp
  · -- the pieces are those of the `with` block, whatever `_error_catcher` does with the exception
    rw [if_neg hch]
    generalize hb : (if cfg.head = true then _ else _ : (List Bytes × Except RawExc Unit) × R σ δ) = body
    have hbody : ∀ x ∈ body.1.1, x ≠ [] := by
      subst hb
      by_cases hhd : cfg.head = true
      · rw [if_pos hhd]
        simp
      · rw [if_neg hhd]
        by_cases hcl : S.isclosed (initDec cfg r).fp = true
        · rw [if_pos hcl]
          simp
        · rw [if_neg hcl]
          generalize rcLoop S D amt dc cfg.fuel (initDec cfg r) [] = res at hrc ⊢
          obtain ⟨⟨ps, e⟩, r1⟩ := res
          cases e with
          | error e => exact hrc
          | ok u =>
            dsimp only
            generalize hf : (if dc = true then _ else _ : (List Bytes × Except RawExc Unit) × R σ δ) = fl
            have hfl : ∀ x ∈ fl.1.1, x ≠ [] := by
              subst hf
              split
              · split
                · exact hrc
                · exact push_nonempty _ hrc
              · exact hrc
            obtain ⟨⟨ps2, res⟩, r2⟩ := fl
            cases res with
            | error e => exact hfl
            | ok u =>
              dsimp only
              split <;> exact hfl
    split <;> exact hbody

theorem stream_nonempty (r : R σ δ) (amt : Option Nat) (dco : Option Bool) :
    ∀ x ∈ (stream S D cfg r amt dco).1.1, x ≠ [] := by
  unfold stream
  split
  · exact readChunked_nonempty S D cfg r amt _
  · exact streamLoop_nonempty S D cfg amt dco cfg.fuel r [] (by simp)

theorem iterSplit_nonempty : ∀ (ps : List Bytes) (carry : Bytes), ∀ x ∈ iterSplit ps carry, x ≠ [] := by
  intro ps
  induction ps with
  | nil =>
    intro carry x hx
    unfold iterSplit at hx
    split at hx
    · simp at hx
    · rename_i hc
      have : x = carry := by simpa using hx
      subst this
      intro h0
      exact hc (by simp [h0])
  | cons chunk rest ih =>
    intro carry x hx
    unfold iterSplit at hx
    split at hx
    · simp only [List.cons_append, List.mem_cons, List.mem_append, List.mem_map] at hx
      rcases hx with hx | ⟨y, _, hy⟩ | hx
      · subst hx
        simp
      · subst hy
        simp
      · exact ih _ x hx
    · exact ih _ x hx

theorem iterSplitErr_nonempty : ∀ (ps : List Bytes) (carry : Bytes), ∀ x ∈ iterSplitErr ps carry, x ≠ [] := by
  intro ps
  induction ps with
  | nil =>
    intro carry x hx
    simp [iterSplitErr] at hx
  | cons chunk rest ih =>
    intro carry x hx
    unfold iterSplitErr at hx
    split at hx
    · simp only [List.cons_append, List.mem_cons, List.mem_append, List.mem_map] at hx
      rcases hx with hx | ⟨y, _, hy⟩ | hx
      · subst hx
        simp
      · subst hy
        simp
      · exact ih _ x hx
    · exact ih _ x hx

theorem iter_nonempty (r : R σ δ) : ∀ x ∈ (iter S D cfg r).1.1, x ≠ [] := by
  unfold iter
  split
  · exact iterSplit_nonempty _ _
  · exact iterSplitErr_nonempty _ _

end
end U3.Resp
