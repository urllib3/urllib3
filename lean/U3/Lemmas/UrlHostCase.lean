import U3.Lemmas.UrlHost
/-!
`_HOST_PORT_RE` on `HOST` followed by nothing or `:`…, for the two kinds of host text it accepts (a
reg-name, a bracketed IPv6 literal), and the equality of `_normalize_host` on two ASCII spellings of
one host that differ in letter case only.
-/
namespace U3.Url
open U3

/-- a reg-name as it can stand in an authority: scanned into reg-name tokens (every `%` starts an
escape), no backslash (it would end the authority), no `@` (it would end the userinfo) -/
def regText (H : Str) : Bool := (tokenize H).all regNameTok && !H.contains 92 && !H.contains 64

theorem regText_facts {H : Str} (h : regText H = true) :
    (∀ t ∈ tokenize H, regNameTok t = true) ∧ 92 ∉ H ∧ 64 ∉ H ∧ 91 ∉ H ∧ 47 ∉ H ∧ 63 ∉ H ∧ 35 ∉ H := by
  simp only [regText, Bool.and_eq_true, Bool.not_eq_true', List.contains_eq_mem, decide_eq_false_iff_not] at h
  obtain ⟨⟨h1, h2⟩, h3⟩ := h
  have key : ∀ k, regNameChar k = false → k ≠ 37 → isHexC k = false → k ∉ H := fun k a b c =>
    regName_not_mem h1 a b c
  exact ⟨List.all_eq_true.mp h1, h2, h3, key 91 (by decide) (by decide) (by decide),
    key 47 (by decide) (by decide) (by decide), key 63 (by decide) (by decide) (by decide),
    key 35 (by decide) (by decide) (by decide)⟩

theorem regText_authChar {H : Str} (h : regText H = true) : ∀ c ∈ H, authChar c = true := by
  obtain ⟨-, h92, -, -, h47, h63, h35⟩ := regText_facts h
  intro c hc
  apply authChar_of_ne
  refine ⟨?_, ?_, ?_, ?_⟩ <;> (rintro rfl; contradiction)

theorem regNameTok_lower (t : Tok) : regNameTok t.lower = regNameTok t := by
  cases t with
  | esc a b => rfl
  | chr c =>
    simp only [Tok.lower, regNameTok, regNameChar, beq_lowerC c 91 rfl, beq_lowerC c 93 rfl,
      beq_lowerC c 37 rfl, beq_lowerC c 58 rfl, beq_lowerC c 47 rfl,
      beq_lowerC c 63 rfl, beq_lowerC c 35 rfl]

theorem regText_lower (H : Str) : regText (lower H) = regText H := by
  simp only [regText, tokenize_lower, List.all_map, Function.comp_def, regNameTok_lower, List.contains_eq_mem,
    mem_lower_iff 92 rfl, mem_lower_iff 64 rfl]

theorem regText_append_dot (x r : Str) : regText (x ++ 46 :: r) = (regText x && regText r) := by
  have h46 : regNameTok (.chr 46) = true := rfl
  simp only [regText, tokenize_append_cons x (by decide : isHexC 46 = false), tokenize_cons (by decide : (46 : Nat) ≠ 37),
    List.all_append, List.all_cons, h46, List.contains_append, List.contains_cons, Bool.not_or,
    (by decide : (92 == 46) = false), (by decide : (64 == 46) = false), Bool.not_false, Bool.true_and]
  ac_rfl

/-- a `.` never takes part in an escape and is a reg-name character -/
theorem regText_join (L : List Str) : regText (joinWith [46] L) = L.all regText := by
  fun_induction joinWith [46] L with
  | case1 => rfl
  | case2 x => simp
  | case3 x y t ih =>
    rw [List.append_assoc, List.singleton_append, regText_append_dot, ih]
    rfl

/-- `regNameChar` excludes `%`, so nothing is scanned as an escape -/
theorem regText_of_chars {r : Str} (h : ∀ c ∈ r, regNameChar c = true ∧ c ≠ 92 ∧ c ≠ 64) : regText r = true := by
  have h37 : 37 ∉ r := fun e => by cases (h 37 e).1
  simp only [regText, tokenize_of_no_pct h37, List.all_map, Bool.and_eq_true, List.all_eq_true, Function.comp_def,
    regNameTok, Bool.not_eq_true', List.contains_eq_mem, decide_eq_false_iff_not]
  exact ⟨⟨fun c hc => (h c hc).1, fun e => (h 92 e).2.1 rfl⟩, fun e => (h 64 e).2.2 rfl⟩

theorem ldh_regText {r : Str} (h : ∀ c ∈ r, ldhC c = true) : regText r = true := by
  refine regText_of_chars fun c hc => ?_
  have hf := h c hc
  simp only [ldhC, isLowerC, isDigitC, Bool.or_eq_true, Bool.and_eq_true, decide_eq_true_eq, beq_iff_eq] at hf
  simp only [regNameChar, Bool.not_eq_true', Bool.or_eq_false_iff, beq_eq_false_iff_ne]
  omega

theorem hostPortBracket_eq_none (hp : Str) (h : ∀ t, hp ≠ 91 :: t) : hostPortBracket hp = none := by
  unfold hostPortBracket
  split
  · exact absurd rfl (h _)
  · rfl

/-- a `:` cannot take part in an escape, so the scan of the whole is the scan of the name followed by
that of the rest -/
theorem hostPortRe_regText {H : Str} (h : regText H = true) (A : Str) (hA : A = [] ∨ ∃ t, A = 58 :: t) :
    hostPortRe (H ++ A) = (portPart A).map (fun p => (H, p)) := by
  obtain ⟨hreg, -, -, h91, -, -, -⟩ := regText_facts h
  have htok : tokenize (H ++ A) = tokenize H ++ tokenize A ∧
      (tokenize A).takeWhile regNameTok = [] ∧ (tokenize A).dropWhile regNameTok = tokenize A := by
    rcases hA with rfl | ⟨t, rfl⟩
    · exact ⟨by simp [tokenize, tokAux], rfl, rfl⟩
    · exact ⟨tokenize_append_cons H (by decide) t, by rw [tokenize_cons (by decide)]; exact ⟨rfl, rfl⟩⟩
  unfold hostPortRe
  simp only [htok.1, List.takeWhile_append_of_pos hreg, List.dropWhile_append_of_pos hreg, htok.2.1, htok.2.2,
    List.append_nil, text_tokenize]
  cases hp : portPart A with
  | some p => rfl
  | none =>
    refine hostPortBracket_eq_none _ fun t e => ?_
    cases H with
    | nil => rcases hA with rfl | ⟨t', rfl⟩ <;> simp_all [portPart]
    | cons c r => exact h91 (by simp_all)

theorem hostPortRe_literal {H : Str} (hm : ipv6AddrzMatch H = true) (A : Str) :
    hostPortRe (H ++ A) = (portPart A).map (fun p => (H, p)) := by
  obtain ⟨c, rfl, h93, hb⟩ := (ipv6AddrzMatch_iff H).mp hm
  have e : 91 :: c ++ [93] ++ A = 91 :: (c ++ 93 :: A) := by simp
  have hs := split_at_ne 93 c A h93
  rw [e]
  unfold hostPortRe
  -- `[` is no reg-name character: the first alternative sees `[`… as the rest, which is no port part
  rw [tokenize_cons (by decide)]
  simp only [List.dropWhile, regNameTok, regNameChar, beq_self_eq_true, Bool.true_or,
    Bool.not_true, ← tokenize_cons (c := 91) (by decide), text_tokenize, portPart, hostPortBracket, hs.1, hs.2, hb, if_true]

/-- what the front end (`_URI_RE`, `rpartition("@")`) and `_HOST_PORT_RE` need to know about a host text
that stands in an authority -/
structure HostIn (H : Str) : Prop where
  auth : ∀ c ∈ H, authChar c = true
  noAt : 64 ∉ H
  re : ∀ A, (A = [] ∨ ∃ t, A = 58 :: t) → hostPortRe (H ++ A) = (portPart A).map (fun p => (H, p))

theorem hostIn_of {H : Str} (h : regText H = true ∨ ipv6AddrzMatch H = true) : HostIn H := by
  rcases h with h | hm
  · exact ⟨regText_authChar h, (regText_facts h).2.2.1, fun A hA => hostPortRe_regText h A hA⟩
  · exact ⟨fun c hc => (literal_chars hm c hc).2.1, fun e => (literal_chars hm 64 e).2.2 rfl,
      fun A _ => hostPortRe_literal hm A⟩

theorem rpartitionAt_none {X : Str} (hX : 64 ∉ X) : rpartitionAt X = ([], X) := by
  simp [rpartitionAt, rpart_eq_none.mpr hX]

theorem rpartitionAt_at (ui : Str) {X : Str} (hX : 64 ∉ X) : rpartitionAt (ui ++ 64 :: X) = (ui, X) := by
  simp [rpartitionAt, rpart_append 64 ui hX]

/-- the `if authority:` block run on `[userinfo@]HOST[:port]` -/
theorem parseAuthority_text (n : Bool) {a au H A : Str} (hr : rpartitionAt a = (au, H ++ A)) (hH : HostIn H)
    (hA : A = [] ∨ ∃ t, A = 58 :: t) :
    parseAuthority n (some a) =
      match portPart A with
      | none => .error .attributeError
      | some p =>
        .ok (refAuthValue n (some au),
          if (refAuthValue n (some au)).isNone && (p.filter fun d => !d.isEmpty).isNone && H.isEmpty
          then none else some H,
          p.filter fun d => !d.isEmpty) := by
  rw [parseAuthority_eq, hr, hH.re A hA]
  cases portPart A <;> rfl

/-- the zone id (if the host is a bracketed literal with one) has to be spelled identically: the
matchers are blind to case, and the result is made of the lower-cased text and the zone id -/
theorem normalizeHost_case (idna : Str → Option Str) {sc : Option Str} (hs : Normalizable sc) {H₁ H₂ : Str}
    (ha₁ : H₁.all (· < 128) = true) (ha₂ : H₂.all (· < 128) = true) (hl : lower H₁ = lower H₂)
    (hz : ipv6AddrzMatch H₁ = true → H₁.dropWhile (· != 37) = H₂.dropWhile (· != 37)) :
    normalizeHost idna (some H₁) sc = normalizeHost idna (some H₂) sc := by
  have h6 := case_of_lower ipv6AddrzMatch_lower hl
  cases hm : ipv6AddrzMatch H₁ with
  | true =>
    have htl : lower (H₁.takeWhile (· != 37)) = lower (H₂.takeWhile (· != 37)) := by
      rw [← takeWhile_lower 37 rfl, ← takeWhile_lower 37 rfl, hl]
    rw [normalizeHost_literal idna hs hm, normalizeHost_literal idna hs (h6 ▸ hm)]
    simp only [literalNorm, hz hm, htl, hl]
  | false =>
    rw [normalizeHost_ascii_name idna hs ha₁ hm, normalizeHost_ascii_name idna hs ha₂ (h6 ▸ hm), hl]

end U3.Url
