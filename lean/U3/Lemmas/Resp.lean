import U3.Model.Resp
/-! Helper lemmas for C12 / C13: BytesQueueBuffer FIFO, the streaming law of `feedLoop`, the contracts
on source and decoder that the read family is proved over (`RawReadSpec`, `StreamLaw`), and each step
of the model with its result state written as an update of the state it starts from, so that what it
leaves alone is read off by `rfl`. -/
namespace U3.Resp
open U3

theorem pos_of_some_ne_zero {a : Nat} (h : some a ≠ some 0) : 0 < a :=
  Nat.pos_of_ne_zero fun h0 => h (by rw [h0])

theorem take_eq_nil_of_pos {a : Nat} (ha : 0 < a) {l : Bytes} (h : l.take a = []) : l = [] := by
  rcases List.take_eq_nil_iff.mp h with h | h
  · omega
  · exact h

theorem take_eq_nil_of_ne {l : Bytes} {k : Nat} (hk : l ≠ [] → 0 < k) (h : l.take k = []) : l = [] := by
  cases l with
  | nil => rfl
  | cons x t => exact take_eq_nil_of_pos (hk (by simp)) h

/-- the measure of the refill loops: a raw read that takes a non-empty prefix (unless nothing is
left) leaves less to come, counting one for the piece in hand -/
theorem drop_measure {l : Bytes} {k n : Nat} (hk : l ≠ [] → 0 < k) (h : l.length + 1 < n + 1) :
    (l.drop k).length + (if l.take k = [] then 0 else 1) < n := by
  rw [List.length_drop]
  split
  · rename_i h0
    rw [take_eq_nil_of_ne hk h0] at h ⊢
    simp at h ⊢
    omega
  · rename_i h0
    have hne : l ≠ [] := fun h1 => h0 (by rw [h1, List.take_nil])
    have := hk hne
    have := List.length_pos_iff.mpr hne
    omega

theorem bqLen_eq (q : BQ) : bqLen q = (bqAll q).length := by
  induction q with
  | nil => rfl
  | cons c t ih => simp_all [bqLen, bqAll]

theorem bqLen_eq_zero {q : BQ} : bqLen q = 0 ↔ bqAll q = [] := by
  rw [bqLen_eq, List.length_eq_zero_iff]

theorem ne_nil_of_bqLen_pos {q : BQ} (h : 0 < bqLen q) : q ≠ [] :=
  fun h0 => by rw [h0] at h; exact absurd h (by decide)

theorem bqGetLoop_spec (q : BQ) (n : Nat) (hn : 0 < n) :
    (bqGetLoop q n).1 = (bqAll q).take n ∧ bqAll (bqGetLoop q n).2 = (bqAll q).drop n := by
  induction q generalizing n with
  | nil => simp [bqGetLoop, bqAll]
  | cons c t ih =>
    unfold bqGetLoop
    split
    · rename_i h
      simp [bqAll, List.take_append_of_le_length (Nat.le_of_lt h), List.drop_append_of_le_length (Nat.le_of_lt h)]
    · rename_i h
      have hc : c.length ≤ n := Nat.le_of_not_lt h
      split
      · rename_i ht
        have : t = [] := by simpa using ht
        subst this
        simp [bqAll, List.take_of_length_le hc, List.drop_of_length_le hc]
      · split
        · rename_i h0
          have : n = c.length := by omega
          subst this
          simp [bqAll]
        · rename_i h0
          have hpos : 0 < n - c.length := by omega
          have := ih (n - c.length) hpos
          simp only [bqAll, List.flatten_cons] at this ⊢
          rw [this.1, this.2]
          constructor
          · rw [List.take_append]
            simp [List.take_of_length_le hc]
          · rw [List.drop_append]
            simp [List.drop_of_length_le hc]

theorem bqGet_spec (q : BQ) (n : Nat) (d : Bytes) (q' : BQ) (h : bqGet q n = some (d, q')) :
    d = (bqAll q).take n ∧ bqAll q' = (bqAll q).drop n := by
  unfold bqGet at h
  split at h
  · rename_i h0
    subst h0
    simp at h
    obtain ⟨rfl, rfl⟩ := h
    simp
  · split at h
    · simp at h
    · rename_i h0 _
      simp at h
      have := bqGetLoop_spec q n (Nat.pos_of_ne_zero h0)
      rw [h] at this
      exact this

theorem bqPut_all (q : BQ) (d : Bytes) : bqAll (bqPut q d) = bqAll q ++ d := by
  simp [bqPut, bqAll]

theorem bqLen_put (q : BQ) (d : Bytes) : bqLen (bqPut q d) = bqLen q + d.length := by
  rw [bqLen_eq, bqLen_eq, bqPut_all, List.length_append]

theorem bqGet_isSome (q : BQ) (n : Nat) (h : q ≠ [] ∨ n = 0) : (bqGet q n).isSome := by
  unfold bqGet
  split
  · rfl
  · split
    · rename_i h0 h1
      rcases h with h | h
      · simp at h1
        exact absurd h1 h
      · exact absurd h h0
    · rfl

theorem feedLoop_acc {ρ} (O : RawObj ρ) (s : ρ) (data acc : Bytes) :
    feedLoop O s data acc = (feedLoop O s data []).map (fun r => (r.1, acc ++ r.2.1, r.2.2)) := by
  induction data generalizing s acc with
  | nil => simp [feedLoop, Except.map]
  | cons b t ih =>
    unfold feedLoop
    split
    · simp [Except.map]
    · cases hstep : O.step s b with
      | error e => simp [Except.map]
      | ok r =>
        simp only []
        rw [ih r.1 (acc ++ r.2), ih r.1 ([] ++ r.2)]
        cases feedLoop O r.1 t [] <;> simp [Except.map, List.append_assoc]

theorem feedLoop_cons {ρ} (O : RawObj ρ) (s : ρ) (x : Nat) (t acc : Bytes) :
    feedLoop O s (x :: t) acc =
      if O.eof s then .ok (s, acc, x :: t)
      else match O.step s x with
        | .error e => .error e
        | .ok (s', o) => feedLoop O s' t (acc ++ o) := by
  conv => lhs; unfold feedLoop
  by_cases h : O.eof s = true
  · rw [if_pos h, if_pos h]
  · rw [if_neg h, if_neg h]
    cases O.step s x <;> rfl

section
variable {ρ : Type} (O : RawObj ρ)

theorem feedLoop_nil (s : ρ) : feedLoop O s [] [] = .ok (s, [], []) := by rw [feedLoop]

section
variable {s : ρ} {b : Nat}

theorem feedLoop_eof {data : Bytes} (he : data ≠ [] → O.eof s = true) : feedLoop O s data [] = .ok (s, [], data) := by
  cases data with
  | nil => rw [feedLoop]
  | cons b t => rw [feedLoop_cons, if_pos (he (List.cons_ne_nil b t))]

theorem feedLoop_step_ok (he : O.eof s = false) {s1 : ρ} {o : Bytes} (hs : O.step s b = .ok (s1, o)) (t : Bytes) :
    feedLoop O s (b :: t) [] = (feedLoop O s1 t []).map fun r => (r.1, o ++ r.2.1, r.2.2) := by
  rw [feedLoop_cons, he, if_neg Bool.false_ne_true, hs]
  exact feedLoop_acc O s1 t ([] ++ o)

theorem feedLoop_step_error (he : O.eof s = false) {e : ZErr} (hs : O.step s b = .error e) (t : Bytes) :
    feedLoop O s (b :: t) [] = .error e := by
  rw [feedLoop_cons, he, if_neg Bool.false_ne_true, hs]

end

end

theorem feedLoop_append {ρ} (O : RawObj ρ) (s : ρ) (a b : Bytes) :
    feedLoop O s (a ++ b) [] =
      match feedLoop O s a [] with
      | .error e => .error e
      | .ok (s', o, rest) =>
        if rest = [] then (feedLoop O s' b []).map (fun r => (r.1, o ++ r.2.1, r.2.2))
        else .ok (s', o, rest ++ b) := by
  induction a generalizing s with
  | nil =>
    simp only [List.nil_append, feedLoop_nil]
    generalize feedLoop O s b [] = fb
    cases fb <;> simp [Except.map]
  | cons x t ih =>
    simp only [List.cons_append]
    rw [feedLoop_cons, feedLoop_cons]
    split
    · simp
    · cases hstep : O.step s x with
      | error e => simp
      | ok r =>
        simp only []
        rw [feedLoop_acc O r.1 (t ++ b) ([] ++ r.2), feedLoop_acc O r.1 t ([] ++ r.2), ih r.1]
        cases h1 : feedLoop O r.1 t [] with
        | error e => simp [Except.map]
        | ok v =>
          obtain ⟨s', o, rest⟩ := v
          by_cases hr : rest = []
          · subst hr
            cases hfb : feedLoop O s' b [] <;> simp [Except.map, hfb, List.append_assoc]
          · simp [Except.map, hr]

section
variable {σ δ : Type} (S : Src σ) (D : Dec δ) (cfg : Cfg δ)

/-- **Streaming law** of a content decoder, relative to `G d raw p` = "a decoder in state `d` that
is still to receive `raw` will still deliver `p`": feeding any prefix delivers a prefix of `p`
and leaves a state that owes the rest; at the end of the input nothing is held back. -/
structure StreamLaw (D : Dec δ) (G : δ → Bytes → Bytes → Prop) : Prop where
  feed : ∀ d a b p, G d (a ++ b) p →
    ∃ o d', D.decompress d a = (.ok o, d') ∧ ∃ p', p = o ++ p' ∧ G d' b p'
  done : ∀ d p, G d [] p → p = [] ∧ ∃ d', D.flush d = (.ok [], d') ∧ G d' [] []

/-- what the read family needs from `_raw_read(amt)`: on a well-framed body (`I` the framing invariant
over `_fp` and `length_remaining`, `rem` the raw body bytes still to come) it returns exactly the next
`min amt |rem|` bytes, without raising, and leaves the decoded buffer and the decoder alone -/
structure RawReadSpec (rem : σ → Bytes) (I : σ → Option Int → Prop) : Prop where
  spec : ∀ (r : R σ δ) (a : Nat), 0 < a → I r.fp r.lengthRemaining →
    ∃ r', rawRead S cfg r (some a) false = (.ok ((rem r.fp).take a), r') ∧
      rem r'.fp = (rem r.fp).drop a ∧ I r'.fp r'.lengthRemaining ∧
      r'.buf = r.buf ∧ r'.decoder = r.decoder ∧ r'.hasDecoded = r.hasDecoded

theorem bufGet_eq (r : R σ δ) (a : Nat) (h : r.buf ≠ [] ∨ a = 0) :
    ∃ q, bufGet r a = (.ok ((bqAll r.buf).take a), { r with buf := q }) ∧ bqAll q = (bqAll r.buf).drop a := by
  obtain ⟨⟨d, q⟩, hget⟩ := Option.isSome_iff_exists.mp (bqGet_isSome r.buf a h)
  obtain ⟨hd, hq⟩ := bqGet_spec r.buf a d q hget
  exact ⟨q, by simp only [bufGet, hget, hd], hq⟩

theorem decode_ok (r : R σ δ) (d d' : δ) (data o : Bytes) (h1 : r.decoder = some d)
    (h2 : D.decompress d data = (.ok o, d')) :
    decode D r data true false = (.ok o, { r with decoder := some d', hasDecoded := true }) := by
  simp [decode, h1, h2]

theorem decode_none (r : R σ δ) (data : Bytes) (h : r.decoder = none) :
    decode D r data true false = (.ok data, r) := by
  simp [decode, h]

theorem decode_off (r : R σ δ) (data : Bytes) (fl : Bool) (h : r.hasDecoded = false) :
    decode D r data false fl = (.ok data, r) := by
  simp [decode, h]

theorem flushDecoder_none (r : R σ δ) (h : r.decoder = none) : flushDecoder D r = (.ok [], r) := by
  simp [flushDecoder, h]

theorem excOfDecompress_kind (e : DErr) : excOfDecompress e ≠ .fuel ∧ excOfDecompress e ≠ .protocolError := by
  cases e <;> simp [excOfDecompress]

theorem flushDecoder_cases (r : R σ δ) :
    ∃ res od, flushDecoder D r = (res, { r with decoder := od }) ∧
      ∀ e, res = .error e → e ≠ .fuel ∧ e ≠ .protocolError := by
  unfold flushDecoder
  split
  · rename_i h
    exact ⟨_, none, by rw [← h], fun e h => by cases h⟩
  · split
    · exact ⟨_, _, rfl, fun e h => by cases h; simp⟩
    · exact ⟨_, _, rfl, fun e h => by cases h; simp⟩
    · split
      · exact ⟨_, _, rfl, fun e h => by cases h; exact excOfDecompress_kind _⟩
      · exact ⟨_, _, rfl, fun e h => by cases h⟩

theorem decode_flush (r : R σ δ) (a : Bytes) :
    decode D r a true true =
      match decode D r a true false with
      | (.error e, r) => (.error e, r)
      | (.ok data, r) =>
        match flushDecoder D r with
        | (.error e, r) => (.error e, r)
        | (.ok t, r) => (.ok (data ++ t), r) := by
  unfold decode
  simp only [Bool.not_true, Bool.false_eq_true, if_false, if_true]
  cases r.decoder with
  | none => rfl
  | some d =>
    dsimp only
    generalize D.decompress d a = x
    obtain ⟨_ | _, _⟩ := x
    · rfl
    · rfl

theorem decode_cases (r : R σ δ) (a : Bytes) (dc fl : Bool) :
    ∃ res od hd, decode D r a dc fl = (res, { r with decoder := od, hasDecoded := hd }) ∧
      ∀ e, res = .error e → e ≠ .fuel ∧ e ≠ .protocolError := by
  cases dc with
  | false =>
    by_cases h : r.hasDecoded = true
    · exact ⟨.error .runtimeError, r.decoder, r.hasDecoded,
        by unfold decode; rw [if_pos (show (!false) = true from rfl), if_pos h], fun e he => by cases he; simp⟩
    · exact ⟨.ok a, r.decoder, r.hasDecoded,
        by unfold decode; rw [if_pos (show (!false) = true from rfl), if_neg h], fun e he => by cases he⟩
  | true =>
    have step : ∃ res od hd, decode D r a true false = (res, { r with decoder := od, hasDecoded := hd }) ∧
        ∀ e, res = .error e → e ≠ .fuel ∧ e ≠ .protocolError := by
      unfold decode
      cases hd : r.decoder with
      | none => exact ⟨.ok a, none, r.hasDecoded, by simp [← hd], fun e h => by cases h⟩
      | some d =>
        dsimp only
        generalize D.decompress d a = z
        obtain ⟨x, d'⟩ := z
        cases x with
        | error e =>
          exact ⟨.error (excOfDecompress e), some d', r.hasDecoded, rfl,
            fun e h => by cases h; exact excOfDecompress_kind _⟩
        | ok o => exact ⟨.ok o, some d', true, rfl, fun e h => by cases h⟩
    cases fl with
    | false => exact step
    | true =>
      obtain ⟨res, od, hd, hstep, herr⟩ := step
      rw [decode_flush, hstep]
      cases res with
      | error e => exact ⟨_, od, hd, rfl, herr⟩
      | ok o =>
        obtain ⟨res2, od2, h2, herr2⟩ := flushDecoder_cases D ({ r with decoder := od, hasDecoded := hd } : R σ δ)
        simp only [h2]
        cases res2 with
        | error e => exact ⟨_, od2, hd, rfl, herr2⟩
        | ok t => exact ⟨_, od2, hd, rfl, fun e h => by cases h⟩

/-- the tail of `_error_catcher`: once the original response is closed the connection goes back -/
def relIf (r : R σ δ) : R σ δ := if S.isclosed r.fp then releaseConn r else r

theorem relIf_eq (r : R σ δ) : relIf S r =
    { r with conn := r.conn && !S.isclosed r.fp, released := r.released || (S.isclosed r.fp && r.conn) } := by
  obtain ⟨fp, _, _, _, _, _, _, conn, _, _, _⟩ := r
  unfold relIf releaseConn
  cases S.isclosed fp <;> cases conn <;> simp

/-- `_error_catcher` on an unclean exit: file and connection are closed first -/
def caught (r : R σ δ) : R σ δ :=
  relIf S { r with fp := S.close r.fp, connClosed := r.connClosed || r.conn }

/-- what `_raw_read` gets from the file: b"" without touching it once it is closed -/
def srcRead (r : R σ δ) (amt : Option Nat) (rd1 : Bool) : Except HErr Bytes × σ :=
  if S.closed r.fp then (.ok [], r.fp) else if rd1 then S.read1 r.fp amt else S.read r.fp amt

/-- `_raw_read` takes `data` for the end of the stream and closes the file -/
def atEof (amt : Option Nat) (rd1 : Bool) (lr : Option Int) (data : Bytes) : Bool :=
  decide ((amt ≠ none ∧ amt ≠ some 0 ∧ data.isEmpty) ∨
    (rd1 = true ∧ ((amt ≠ some 0 ∧ data.isEmpty) ∨ lr = some (data.length : Int))))

/-- b"" while `length_remaining` says body bytes are owed (and `enforce_content_length`): `IncompleteRead` -/
def owed (lr : Option Int) (data : Bytes) : Bool :=
  decide (data.isEmpty ∧ cfg.enforce ∧ lr ≠ none ∧ lr ≠ some 0)

def tally (n : Nat) (r : R σ δ) : R σ δ :=
  { r with fpBytesRead := r.fpBytesRead + n, lengthRemaining := r.lengthRemaining.map (· - (n : Int)) }

theorem tally_zero (r : R σ δ) : tally 0 r = r := by
  obtain ⟨_, _, _, _, lr, _, _, _, _, _, _⟩ := r
  cases lr <;> simp [tally]

theorem rawRead_form (r : R σ δ) (amt : Option Nat) (rd1 : Bool) :
    rawRead S cfg r amt rd1 =
      match srcRead S r amt rd1 with
      | (.error e, fp) => (.error (mapExc (.h e)), caught S { r with fp := fp })
      | (.ok data, fp) =>
        if atEof amt rd1 r.lengthRemaining data && owed cfg r.lengthRemaining data then
          (.error .protocolError, caught S { r with fp := S.close fp })
        else (.ok data, tally data.length
          (relIf S { r with fp := if atEof amt rd1 r.lengthRemaining data then S.close fp else fp })) := by
  unfold rawRead srcRead
  simp only []
  generalize (if S.closed r.fp = true then ((Except.ok [] : Except HErr Bytes), r.fp)
      else if rd1 = true then S.read1 r.fp amt else S.read r.fp amt) = x
  obtain ⟨res, fp⟩ := x
  cases res with
  | error e => rfl
  | ok data =>
    -- the final `if data:` is `tally` in both branches
    have ht : ∀ x : R σ δ, (if data.isEmpty = true then ((Except.ok data : Except Exc Bytes), x)
        else (.ok data, { x with fpBytesRead := x.fpBytesRead + data.length,
                                 lengthRemaining := x.lengthRemaining.map (· - (data.length : Int)) })) =
        (.ok data, tally data.length x) := by
      intro x
      split
      · rename_i h
        rw [List.isEmpty_iff.mp h, List.length_nil, tally_zero]
      · rfl
    dsimp only
    by_cases hA : amt ≠ none ∧ amt ≠ some 0 ∧ data.isEmpty = true
    · have ha : atEof amt rd1 r.lengthRemaining data = true := decide_eq_true (Or.inl hA)
      rw [if_pos hA, ha]
      by_cases hE : cfg.enforce = true ∧ r.lengthRemaining ≠ none ∧ r.lengthRemaining ≠ some 0
      · have ho : owed cfg r.lengthRemaining data = true := decide_eq_true ⟨hA.2.2, hE⟩
        rw [if_pos hE, ho]
        rfl
      · have ho : owed cfg r.lengthRemaining data = false := decide_eq_false (fun h => hE h.2)
        rw [if_neg hE, ho]
        exact ht _
    · rw [if_neg hA]
      by_cases hB : rd1 = true ∧ ((amt ≠ some 0 ∧ data.isEmpty = true) ∨ r.lengthRemaining = some (data.length : Int))
      · have ha : atEof amt rd1 r.lengthRemaining data = true := decide_eq_true (Or.inr hB)
        rw [if_pos hB, ha]
        by_cases hE : data.isEmpty = true ∧ cfg.enforce = true ∧ r.lengthRemaining ≠ none ∧ r.lengthRemaining ≠ some 0
        · have ho : owed cfg r.lengthRemaining data = true := decide_eq_true hE
          rw [if_pos hE, ho]
          rfl
        · have ho : owed cfg r.lengthRemaining data = false := decide_eq_false hE
          rw [if_neg hE, ho]
          exact ht _
      · have ha : atEof amt rd1 r.lengthRemaining data = false := decide_eq_false (fun h => h.elim hA hB)
        rw [if_neg hB, ha]
        exact ht _

end

end U3.Resp
