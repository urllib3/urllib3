import U3.Lemmas.PoolConcInv
/-! `_get_conn` taking a connection object off the queue (`tstep_getQ_conn`: one the peer dropped while it
was pooled, `Outcome.okDrop`, is closed first), and `EmptyPoolError` under the lease discipline: it means
more threads than slots (`empty_exhausted`, `InvE`) (C02). -/
namespace U3.PoolConc

variable {cfg : Cfg} {tid : Nat} {sh sh' : Shared} {th th' : Thread} {s s' : State} {t : Nat}

theorem tstep_getQ_conn {f l st c q} (hpc : th.pc = .getQ f l st) (hq : sh.queue = some c :: q) :
    tstep cfg tid sh th =
      some ({ sh with queue := q },
            { th with pc := if sh.gone.contains c then .dropClose c f l st else .send c f l st }) := by
  rcases th with ⟨prog, pc, resp, leaked, results, sent, rclose⟩
  simp only at hpc
  subst hpc
  by_cases hg : c ∈ sh.gone <;> simp [tstep, tstepPc, hq, hg]

/-- under the lease discipline a `block=True` pool is found empty only when every slot is lent to
another thread: there are more threads than slots -/
theorem empty_exhausted (hp : InvP s)
    (hget : s.threads[t]? = some th) {f l st} (hpc : th.pc = .getQ f l st) (hq : s.sh.queue = [])
    (hb : s.cfg.block = true) : s.cfg.maxsize < s.threads.length := by
  have h1 := hp.nc.cons hb
  have h2 := sum_map_le_pred Thread.slots hget ((hp.d t th hget).slots_getQ hpc)
    (forall_mem_of_get fun t2 b g2 => (hp.d t2 b g2).slots_le)
  simp only [leases, hq, List.length_nil] at h1
  omega

/-- an `EmptyPoolError` among the results means there are more threads than slots (an invariant under
the lease discipline) -/
def InvE (s : State) : Prop :=
  ∀ (t : Nat) (th : Thread), s.threads[t]? = some th → ∀ p ∈ th.results, p.2 = .emptyPool →
    s.cfg.maxsize < s.threads.length

theorem invE_step (hp : InvP s) (he : InvE s) (h : step s t = some s') :
    InvE s' := by
  obtain ⟨th, sh', th', hget, hs, rfl⟩ := step_some h
  refine forall_set hget (fun p hmem hres => ?_) fun t2 th2 _ g2 p hmem hres => ?_
  · rw [List.length_set]
    rcases hp.all.scripted hget hs p hmem with hold | hnew
    · exact he _ _ hget p hold hres
    · obtain ⟨hb, -, -, hq, f, l, st, hpc⟩ := hres ▸ hnew
      exact empty_exhausted hp hget hpc hq hb
  · rw [List.length_set]
    exact he t2 th2 g2 p hmem hres

theorem invE_run (cfg : Cfg) {progs : List (List Op)} (h : LeaseDiscipline progs) (σ : List Nat) :
    InvE (run cfg progs σ) :=
  (runFrom_induction (P := fun s => InvP s ∧ InvE s)
    (fun _ _ _ hs hst => ⟨invP_step hs.1 hst, invE_step hs.1 hs.2 hst⟩) _ σ
    ⟨invP_init h, init_forall fun _ q _ p hmem => by simp [initThread] at hmem⟩).2

end U3.PoolConc
