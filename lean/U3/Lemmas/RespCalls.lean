import U3.Lemmas.RespRead1
import U3.Lemmas.RespIter
/-! Interleavings over the whole API: `read`, `read1`, `readinto`, and the generators `stream` /
iteration (run to completion) as *members* of call sequences on a non-chunked body.  Every call
preserves the invariant — `InvB` with decoding on, `RawInv` with decoding off —; the pieces of all
calls, in order, followed by what is still owed, are the payload.  Under either invariant the response
is a cursor over the bytes still to be delivered (`StreamCursor`, `Cursor`), and `stream`, iteration and
the call sequences are treated once, over a cursor.

A generator that is abandoned half-way on a non-chunked body is a sequence of `read(amt)` calls
(that is what `stream` does between two `yield`s), so partial consumption is covered by the `read`
members. -/
namespace U3.Resp
open U3

section
variable {σ δ : Type} (S : Src σ) (D : Dec δ) (cfg : Cfg δ)

inductive Call
  | read (amt : Option Nat)
  | read1 (amt : Option Nat)
  | readinto (k : Nat)
  | stream (amt : Option Nat)
  | iter
deriving Repr, DecidableEq

def single (x : Except Exc Bytes × R σ δ) : Gen × R σ δ :=
  match x with
  | (.ok d, r) => (([d], none), r)
  | (.error e, r) => (([], some e), r)

/-- the pieces one call returns / yields, and the exception that ended it (if any) -/
def runCall (dco : Option Bool) (r : R σ δ) : Call → Gen × R σ δ
  | .read a => single (read S D cfg r a dco)
  | .read1 a => single (read1 S D cfg r a dco)
  | .readinto k => single (readinto S D cfg r k)
  | .stream a => stream S D cfg r a dco
  | .iter => iter S D cfg r

/-- a sequence of calls, stopped at the first exception: the pieces of each call -/
def callSeqG (dco : Option Bool) : List Call → R σ δ → (List (List Bytes) × Option Exc) × R σ δ
  | [], r => (([], none), r)
  | c :: t, r =>
    match runCall S D cfg dco r c with
    | ((ps, some e), r) => (([ps], some e), r)
    | ((ps, none), r) =>
      match callSeqG dco t r with
      | ((pss, e), r) => ((ps :: pss, e), r)

/-- under `P r rest` the response is a **cursor** over `rest`, the bytes still to be delivered when
`decode_content` is `b`, as far as `stream` and iteration are concerned: `read(amt)`, `amt ≠ 0`, returns a
prefix of `rest` — b"" only when nothing is left, and then the file is closed — and leaves `P` for the
remainder (`read`); with the file closed and nothing buffered nothing is left (`ended`), and with something
buffered something is (`buffered`) -/
structure StreamCursor (b : Bool) (P : R σ δ → Bytes → Prop) : Prop where
  read : ∀ dco, dco.getD cfg.decodeDefault = b → ∀ amt, amt ≠ some 0 → ∀ (r : R σ δ) (rest : Bytes), P r rest →
    ∃ out r' rest', read S D cfg r amt dco = (.ok out, r') ∧ P r' rest' ∧ out ++ rest' = rest ∧
      (rest ≠ [] → out ≠ []) ∧ (out = [] → S.isclosed r'.fp = true)
  ended : ∀ (r : R σ δ) (rest : Bytes), P r rest → S.isclosed r.fp = true → bqLen r.buf = 0 → rest = []
  buffered : ∀ (r : R σ δ) (rest : Bytes), P r rest → 0 < bqLen r.buf → rest ≠ []

/-- … and for every call of the read family: a prefix of `rest`, and `P` for the remainder.  Call sequences
over the whole API need no more; `InvB` (decoding on) and `RawInv` (decoding off) are the two instances. -/
structure Cursor (b : Bool) (P : R σ δ → Bytes → Prop) : Prop extends StreamCursor S D cfg b P where
  call : ∀ dco, dco.getD cfg.decodeDefault = b → ∀ (c : RCall) (r : R σ δ) (rest : Bytes), P r rest →
    ∃ out r' rest', runRCall S D cfg dco r c = (.ok out, r') ∧ P r' rest' ∧ out ++ rest' = rest

variable {S D cfg} {b : Bool} {P : R σ δ → Bytes → Prop}

/-- the non-chunked branch of `stream(amt)`, `amt ≠ 0`, over a cursor.  Measure:
`2 * |rest| + (0 if closed, else 1)`; a pass either yields ≥ 1 byte (−2, while the flag may rise by 1) or
finds nothing left and closes the open file (−1) -/
theorem StreamCursor.streamLoop (hC : StreamCursor S D cfg b P) (amt : Option Nat) (hamt : amt ≠ some 0) (dco : Option Bool)
    (hdc : dco.getD cfg.decodeDefault = b) :
    ∀ (fuel : Nat) (r : R σ δ) (rest : Bytes) (acc : List Bytes), P r rest →
      2 * rest.length + (if S.isclosed r.fp = true then 0 else 1) < fuel →
      ∃ ps r', streamLoop S D cfg amt dco fuel r acc = ((acc ++ ps, none), r') ∧ ps.flatten = rest ∧
        P r' [] := by
  intro fuel
  induction fuel with
  | zero =>
    intro r rest acc _ h
    omega
  | succ k ih =>
    intro r rest acc hP hm
    unfold U3.Resp.streamLoop
    by_cases hc : (!S.isclosed r.fp) = true ∨ bqLen r.buf > 0
    · rw [if_pos hc]
      obtain ⟨out, r1, rest1, h1, hP1, hcat, hne, hcl⟩ := hC.read dco hdc amt hamt r rest hP
      rw [h1]
      have hlen : rest.length = out.length + rest1.length := by rw [← hcat, List.length_append]
      obtain ⟨ps, r', e1, e2, e3⟩ := ih r1 rest1 (if out.isEmpty then acc else acc ++ [out]) hP1 (by
        by_cases ho : out = []
        · -- nothing was left: this read closed the file, and the file was open before
          have hr : rest = [] := Classical.byContradiction fun h => hne h ho
          have hopen : S.isclosed r.fp = false := by
            rcases hc with h | h
            · simpa using h
            · exact absurd hr (hC.buffered r rest hP h)
          rw [hr] at hlen
          simp only [hopen, Bool.false_eq_true, if_false, hr, List.length_nil] at hm
          simp only [hcl ho, if_true]
          simp at hlen
          omega
        · have : 0 < out.length := List.length_pos_iff.mpr ho
          split <;> split at hm <;> omega)
      refine ⟨(if out.isEmpty then [] else [out]) ++ ps, r', ?_, ?_, e3⟩
      · dsimp only
        rw [e1]
        split <;> simp
      · rw [← hcat, List.flatten_append, e2]
        split
        · rename_i h
          rw [List.isEmpty_iff.mp h]
          rfl
        · simp
    · rw [if_neg hc]
      have hcl : S.isclosed r.fp = true := by
        cases h : S.isclosed r.fp with
        | true => rfl
        | false => exact absurd (Or.inl (by simp [h])) hc
      have hr := hC.ended r rest hP hcl (by have : ¬ bqLen r.buf > 0 := fun h => hc (Or.inr h); omega)
      subst hr
      exact ⟨[], r, by simp, rfl, hP⟩

theorem StreamCursor.stream (hC : StreamCursor S D cfg b P) (hnc : cfg.chunked = false) (amt : Option Nat) (hamt : amt ≠ some 0)
    (dco : Option Bool) (hdc : dco.getD cfg.decodeDefault = b) (r : R σ δ) (rest : Bytes) (hP : P r rest)
    (hf : 2 * rest.length + 1 < cfg.fuel) :
    ∃ ps r', stream S D cfg r amt dco = ((ps, none), r') ∧ ps.flatten = rest ∧ P r' [] := by
  obtain ⟨ps, r', e1, e2, e3⟩ := hC.streamLoop amt hamt dco hdc cfg.fuel r rest [] hP (by split <;> omega)
  exact ⟨ps, r', by simpa [U3.Resp.stream, hnc] using e1, e2, e3⟩

/-- iteration is `stream(65536, decode_content=True)` re-split into lines -/
theorem StreamCursor.iter (hC : StreamCursor S D cfg true P) (hnc : cfg.chunked = false) (r : R σ δ) (rest : Bytes) (hP : P r rest)
    (hf : 2 * rest.length + 1 < cfg.fuel) :
    ∃ lines r', iter S D cfg r = ((lines, none), r') ∧ lines.flatten = rest ∧ P r' [] := by
  obtain ⟨ps, r', e1, e2, e3⟩ := hC.stream hnc (some 65536) (by simp) (some true) rfl r rest hP hf
  exact ⟨iterSplit ps [], r', by simp only [U3.Resp.iter, e1], by rw [iterSplit_flatten, e2]; rfl, e3⟩

/-- `readinto` has no `decode_content` parameter and follows the response default (`hdef`); iteration
always decodes -/
theorem Cursor.runCall (hC : Cursor S D cfg b P) (dco : Option Bool) (hdc : dco.getD cfg.decodeDefault = b)
    (hdef : cfg.decodeDefault = b) (hnc : cfg.chunked = false) (c : Call)
    (hc : c ≠ .stream (some 0) ∧ (c = .iter → b = true)) (r : R σ δ) (rest : Bytes) (hP : P r rest)
    (hf : 2 * rest.length + 1 < cfg.fuel) :
    ∃ ps r' rest', runCall S D cfg dco r c = ((ps, none), r') ∧ P r' rest' ∧ ps.flatten ++ rest' = rest := by
  have hfam : ∀ dco', dco'.getD cfg.decodeDefault = b → ∀ c' : RCall,
      ∃ ps r' rest', single (runRCall S D cfg dco' r c') = ((ps, none), r') ∧ P r' rest' ∧
        ps.flatten ++ rest' = rest := by
    intro dco' hdc' c'
    obtain ⟨out, r', rest', e1, e2, e3⟩ := hC.call dco' hdc' c' r rest hP
    exact ⟨[out], r', rest', by rw [e1]; rfl, e2, by simpa using e3⟩
  cases c with
  | read a => exact hfam dco hdc (.read a)
  | read1 a => exact hfam dco hdc (.read1 a)
  | readinto k => exact hfam none (by simpa using hdef) (.read (some k))
  | stream a =>
    obtain ⟨ps, r', e1, e2, e3⟩ := hC.stream hnc a (fun h0 => hc.1 (by rw [h0])) dco hdc r rest hP hf
    exact ⟨ps, r', [], e1, e3, by rw [List.append_nil]; exact e2⟩
  | iter =>
    cases hc.2 rfl
    obtain ⟨ps, r', e1, e2, e3⟩ := hC.iter hnc r rest hP hf
    exact ⟨ps, r', [], e1, e3, by rw [List.append_nil]; exact e2⟩

/-- **concatenation over the whole API** (non-chunked body, decoding on or off: `b`) over a cursor:
whatever the calls, none raises, and the pieces of all calls in order, followed by what is left, are what
was left at the start.  What is left never grows, so the fuel bound holds at every call -/
theorem Cursor.callSeqG (hC : Cursor S D cfg b P) (dco : Option Bool) (hdc : dco.getD cfg.decodeDefault = b)
    (hdef : cfg.decodeDefault = b) (hnc : cfg.chunked = false) :
    ∀ (calls : List Call) (r : R σ δ) (rest : Bytes),
      (∀ c ∈ calls, c ≠ .stream (some 0) ∧ (c = .iter → b = true)) → P r rest →
      2 * rest.length + 1 < cfg.fuel →
      ∃ pss r' rest', callSeqG S D cfg dco calls r = ((pss, none), r') ∧ P r' rest' ∧
        pss.flatten.flatten ++ rest' = rest ∧ pss.length = calls.length := by
  intro calls
  induction calls with
  | nil =>
    intro r rest _ h _
    exact ⟨[], r, rest, rfl, h, rfl, rfl⟩
  | cons c t ih =>
    intro r rest hcs hP hf
    obtain ⟨ps, r1, rest1, h1, hP1, hcat1⟩ := hC.runCall dco hdc hdef hnc c (hcs c (by simp)) r rest hP hf
    obtain ⟨pss, r2, rest2, h2, hP2, hcat2, hl2⟩ := ih r1 rest1 (fun x hx => hcs x (by simp [hx])) hP1
      (by rw [← hcat1, List.length_append] at hf; omega)
    refine ⟨ps :: pss, r2, rest2, by simp only [U3.Resp.callSeqG, h1, h2], hP2, ?_, by simp [hl2]⟩
    rw [List.flatten_cons, List.flatten_append, List.append_assoc, hcat2, hcat1]

variable (S D cfg) {G : δ → Bytes → Bytes → Prop} {rem : σ → Bytes} {I : σ → Option Int → Prop}
  (hR : RawReadSpec S cfg rem I) (hA : RawReadAllSpec S cfg rem I) (hR1 : RawRead1Spec S cfg rem I)
  (hD : StreamLaw D G) (hCN : ClosesN S cfg rem I) (hCA : ClosesAll S cfg I) (hZ : ClosedNil S rem I)

include hR hA hD hCN hCA hZ in
theorem InvB.streamCursor : StreamCursor S D cfg true (InvB cfg rem I G) where
  read dco hdc amt hamt r rest h :=
    let ⟨out, r', rest', e1, e2, e3, e4⟩ := read_any_spec S D cfg hR hA hD amt dco hdc r rest h
    ⟨out, r', rest', e1, e2, e3, (e4 hamt).1, (e4 hamt).2 hCN hCA⟩
  ended r rest h hcl hb := by
    rw [h.1.ended D cfg hD (hZ r.fp r.lengthRemaining h.1.framing hcl)]
    exact bqLen_eq_zero.mp hb
  buffered r rest h hb := by
    obtain ⟨p, _, rfl⟩ := h.1.due
    intro h0
    rw [bqLen_eq, (List.append_eq_nil_iff.mp h0).1] at hb
    exact Nat.lt_irrefl _ hb

include hR hA hR1 hD hCN hCA hZ in
theorem InvB.cursor : Cursor S D cfg true (InvB cfg rem I G) :=
  ⟨InvB.streamCursor S D cfg hR hA hD hCN hCA hZ, runRCall_spec S D cfg hR hA hR1 hD⟩

include hR hA hR1 hCN hCA hZ in
theorem RawInv.cursor : Cursor S D cfg false (RawInv rem I) where
  call := runRCall_raw S D cfg hR hA hR1
  read dco hdc amt hamt r raw h :=
    let ⟨out, r', raw', e1, e2, e3, e4, e5⟩ := read_step_raw S D cfg hR hA dco hdc amt hamt r raw h
    ⟨out, r', raw', e1, e2, e3, e4, e5 hCN hCA⟩
  ended r raw h hcl _ := by
    rw [← h.left]
    exact hZ r.fp r.lengthRemaining h.framing hcl
  buffered r raw h hb := by
    have := h.nobuf
    omega

end
end U3.Resp
