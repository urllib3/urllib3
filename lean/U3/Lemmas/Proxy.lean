import U3.Model.Proxy
/-!
# Lemmas about `U3.Proxy` (C09)

The history theorems are proved with
* an invariant `Inv` tying every pooled connection to what the trace so far shows about its socket
  (TCP to the proxy, CONNECT to the pool's own host:port, TLS under that host's name, not yet
  closed by the server, distinct sockets);
* a per-event predicate `EvOK` ("this event is justified by the request being served and by the
  events before it"; for a request event: `ReqOK`, inside a tunnel `TunOK`, read by field) which holds for every
  event of every attempt (`Chunk`).

The vocabulary of the statements: `opted` / `tunnelled` (the routing table for one request), `poolTarget` /
`poolHeaders` (what the pool is handed), `openErr`, `Served` / `OutOK` (what serving one request leaves).
`trace_spec` is what `U3.Props.C09` reads.
-/
namespace U3.Proxy
open U3

theorem poolGet_erase (ps : List (Key × Conn)) (k k' : Key) :
    poolGet (poolErase ps k) k' = if k = k' then none else poolGet ps k' := by
  induction ps with
  | nil => simp [poolErase, poolGet]
  | cons a t ih => grind [poolErase, poolGet]

theorem poolGet_set (ps : List (Key × Conn)) (k : Key) (c : Conn) (k' : Key) :
    poolGet (poolSet ps k c) k' = if k = k' then some c else poolGet ps k' := by
  grind [poolSet, poolGet, poolGet_erase]

theorem mem_dictSet (d : Dict) (k v : Str) (x : Str × Str) (h : x ∈ dictSet d k v) : x ∈ d ∨ x = (k, v) := by
  induction d with
  | nil => simpa [dictSet] using h
  | cons a t ih => grind [dictSet]

theorem mem_dictUpdate (src d : Dict) (x : Str × Str) (h : x ∈ dictUpdate d src) : x ∈ d ∨ x ∈ src := by
  induction src generalizing d with
  | nil => exact Or.inl h
  | cons a t ih =>
    rcases ih (dictSet d a.1 a.2) h with h | h
    · rcases mem_dictSet _ _ _ _ h with h | h <;> simp [h]
    · simp [h]

/-- forwarding of HTTPS destinations was opted into (and the proxy is an HTTPS proxy) -/
def opted (cfg : Cfg) : Bool := cfg.proxyScheme == .https && cfg.fwd

/-- the request has to go through a CONNECT tunnel -/
def tunnelled (cfg : Cfg) (r : Req) : Bool := r.scheme == .https && !opted cfg

theorem mgr_tunnel (cfg : Cfg) (r : Req) :
    requiresTunnel (some cfg.proxyScheme) cfg.fwd (some r.scheme) = tunnelled cfg r := by
  cases hs : r.scheme <;> cases hp : cfg.proxyScheme <;> cases hf : cfg.fwd <;>
    simp [requiresTunnel, tunnelled, opted, hs, hp, hf]

/-- the pool sees the scheme only when it was handed the absolute URL -/
theorem pool_tunnel (cfg : Cfg) (r : Req) :
    requiresTunnel (some cfg.proxyScheme) cfg.fwd (if (!tunnelled cfg r) = true then some r.scheme else none)
      = tunnelled cfg r := by
  cases hs : r.scheme <;> cases hp : cfg.proxyScheme <;> cases hf : cfg.fwd <;>
    simp [requiresTunnel, tunnelled, opted, hs, hp, hf]

theorem tunnelled_cases (cfg : Cfg) (r : Req) :
    (tunnelled cfg r = true →
        poolKey r = .dest r.nhost r.effPort ∧ opted cfg = false ∧ r.scheme = .https) ∧
    (tunnelled cfg r = false →
        (poolKey r = .proxy ∨ opted cfg = true) ∧
        ((poolOf cfg (poolKey r)).1 = true → cfg.proxyScheme = .https) ∧
        ((poolOf cfg (poolKey r)).1 = false → cfg.proxyScheme = .http)) := by
  cases hs : r.scheme <;> cases hp : cfg.proxyScheme <;> cases hf : cfg.fwd <;>
    simp [tunnelled, opted, poolKey, poolOf, hs, hp, hf]

/-- every event of `ev` satisfies `P` w.r.t. the events before it (`T` = the trace so far) -/
def Chunk (P : List Event → Event → Prop) : List Event → List Event → Prop
  | _, [] => True
  | T, e :: t => P T e ∧ Chunk P (T ++ [e]) t

section
variable {P Q : List Event → Event → Prop} {T ev ev1 ev2 : List Event}

theorem chunk_append (h1 : Chunk P T ev1) (h2 : Chunk P (T ++ ev1) ev2) : Chunk P T (ev1 ++ ev2) := by
  induction ev1 generalizing T with
  | nil => simpa using h2
  | cons e t ih => exact ⟨h1.1, ih h1.2 (by simpa using h2)⟩

theorem chunk_mono (hpq : ∀ past e, P past e → Q past e) (h : Chunk P T ev) : Chunk Q T ev := by
  induction ev generalizing T with
  | nil => trivial
  | cons e t ih => exact ⟨hpq _ _ h.1, ih h.2⟩

theorem chunk_split (h : Chunk P T ev) (a : List Event) (e : Event) (b : List Event) (hx : ev = a ++ e :: b) :
    P (T ++ a) e := by
  induction a generalizing T ev with
  | nil =>
    subst hx
    simpa using h.1
  | cons x a ih =>
    subst hx
    simpa using ih h.2 rfl

end

def isRequest : Event → Bool
  | .request .. => true
  | _ => false

/-- names of the header lines `HTTPConnection.request` generates by itself -/
def autoNames : List Str := [lit "Host", lit "Accept-Encoding", lit "Content-Length", lit "User-Agent"]

/-- the headers the caller asked for (`headers=` of the call, else the manager's) -/
def userHeaders (cfg : Cfg) (r : Req) : Dict := r.headers.getD cfg.mgrHeaders

/-- the socket opened last in a list of events -/
def lastTcp : List Event → Option Nat
  | [] => none
  | e :: t => match lastTcp t with
    | some s => some s
    | none => match e with
      | .tcp s _ _ => some s
      | _ => none

theorem lastTcp_append (a b : List Event) : lastTcp (a ++ b) = (lastTcp b).or (lastTcp a) := by
  induction a with
  | nil => simp [lastTcp]
  | cons e t ih =>
    simp only [List.cons_append, lastTcp, ih]
    cases lastTcp b <;> rfl

/-- what opening a socket with environment `sc` for request `r` ends in (`none`: connected) -/
def openErr (cfg : Cfg) (r : Req) (sc : Script) : Option Err :=
  if cfg.proxyScheme = .https ∧ sc.proxyCertOk = false then some .proxySSL
  else if tunnelled cfg r then
    match sc.status with
    | .refused _ => some .proxyOS
    | .garbage => some .protocol
    | .ok => if sc.originCertOk then none else some .ssl
  else none

theorem mem_wireHeaders (cfg : Cfg) (m : Method) (body : Option Nat) (hostHdr : Str) (hs : Dict)
    (x : Str × Str) (h : x ∈ wireHeaders cfg m body hostHdr hs) : x.1 ∈ autoNames ∨ x ∈ hs := by
  simp only [wireHeaders, List.mem_append] at h
  rcases h with (((h | h) | h) | h) | h
  · split at h <;> simp at h
    subst h
    simp [autoNames]
  · split at h <;> simp at h
    subst h
    simp [autoNames]
  · split at h
    · simp at h
    · split at h <;> simp at h
      all_goals
        subst h
        simp [autoNames]
  · split at h <;> simp at h
    subst h
    simp [autoNames]
  · exact Or.inr h

/-- what the trace so far (`T`) shows about the socket of a pooled connection -/
structure ConnOK (cfg : Cfg) (script : List Script) (T : List Event) (nsock : Nat) (k : Key) (c : Conn) : Prop where
  lt : c.sid < nsock
  tcp : Event.tcp c.sid cfg.proxyHost cfg.proxyPort ∈ T
  cert : cfg.proxyScheme = .https → (scriptAt script c.sid).proxyCertOk = true
  notClosed : c.alive = true → Event.serverClose c.sid ∉ T
  tun : ∀ h p, c.tunnel = some (h, p) →
    k = .dest h p ∧ opted cfg = false ∧ (∃ chs, Event.connect c.sid (hostPort h p) chs ∈ T) ∧
    Event.tlsOrigin c.sid (sniOf h) (cfg.proxyScheme == .https) ∈ T ∧
    (scriptAt script c.sid).status = .ok ∧ (scriptAt script c.sid).originCertOk = true
  notun : c.tunnel = none → k = .proxy ∨ opted cfg = true

structure Inv (cfg : Cfg) (script : List Script) (st : St) (T : List Event) : Prop where
  conn : ∀ k c, poolGet st.pools k = some c → ConnOK cfg script T st.nsock k c
  closes : ∀ s, Event.serverClose s ∈ T → s < st.nsock
  distinct : ∀ k k' c c', poolGet st.pools k = some c → poolGet st.pools k' = some c' → c.sid = c'.sid → k = k'

variable {cfg : Cfg} {script : List Script} {st : St} {T : List Event} {r : Req} {hdrs uh : Dict} {n : Nat} {c : Conn}

theorem inv_init (cfg : Cfg) (script : List Script) : Inv cfg script St.init [] := by
  refine ⟨?_, ?_, ?_⟩ <;> simp [St.init, poolGet]

/-- `hcl`: a connection that is now taken to be alive was so before and is not closed by the new events -/
theorem ConnOK.step {k : Key} (h : ConnOK cfg script T n k c) (ev : List Event) (n' : Nat) (hn : n ≤ n')
    (alive : Bool) (hcl : alive = true → c.alive = true ∧ Event.serverClose c.sid ∉ ev) :
    ConnOK cfg script (T ++ ev) n' k { c with alive := alive } := by
  refine ⟨Nat.lt_of_lt_of_le h.lt hn, by simp [h.tcp], h.cert, ?_, ?_, h.notun⟩
  · intro ha
    simp only [List.mem_append, not_or]
    exact ⟨h.notClosed (hcl ha).1, (hcl ha).2⟩
  · intro hh p ht
    obtain ⟨h1, h2, ⟨chs, h3⟩, h4, h5, h6⟩ := h.tun hh p ht
    exact ⟨h1, h2, ⟨chs, by simp [h3]⟩, by simp [h4], h5, h6⟩

/-- `slot`: a connection put (back) into its pool after a request, or `None` after a failed attempt -/
theorem inv_update (hinv : Inv cfg script st T) (ev : List Event) (n' : Nat) (hn : st.nsock ≤ n') (key : Key)
    (slot : Option Conn) (ps : List (Key × Conn))
    (hps : ∀ k, poolGet ps k = if key = k then slot else poolGet st.pools k)
    (hc : ∀ c', slot = some c' → ConnOK cfg script (T ++ ev) n' key c' ∧
      ((∃ c, poolGet st.pools key = some c ∧ c.sid = c'.sid) ∨ st.nsock ≤ c'.sid))
    (hcl : ∀ s, Event.serverClose s ∈ ev → ∃ c', slot = some c' ∧ s = c'.sid) :
    Inv cfg script ⟨n', ps⟩ (T ++ ev) := by
  -- an old connection in another pool lives on another socket
  have hother : ∀ k c c', ¬ key = k → poolGet st.pools k = some c → slot = some c' → c.sid ≠ c'.sid := by
    intro k c c' hk hg hs heq
    rcases (hc c' hs).2 with ⟨c0, hg0, h0⟩ | hfresh
    · exact hk (hinv.distinct key k c0 c hg0 hg (by omega))
    · have := (hinv.conn k c hg).lt
      omega
  refine ⟨?_, ?_, ?_⟩
  · intro k c hg
    rw [hps] at hg
    split at hg
    · subst key
      exact (hc c hg).1
    · refine (hinv.conn k c hg).step ev n' hn c.alive fun ha => ⟨ha, fun hmem => ?_⟩
      obtain ⟨c', hs, heq⟩ := hcl _ hmem
      exact hother k c c' ‹_› hg hs heq
  · intro s hs
    rcases List.mem_append.1 hs with hs | hs
    · exact Nat.lt_of_lt_of_le (hinv.closes s hs) hn
    · obtain ⟨c', hs', rfl⟩ := hcl s hs
      exact (hc c' hs').1.lt
  · intro k k' c c2 hg hg2 heq
    rw [hps] at hg hg2
    split at hg <;> split at hg2
    · exact ‹key = k› ▸ ‹key = k'›
    · exact absurd heq.symm (hother k' c2 c ‹_› hg2 hg)
    · exact absurd heq (hother k c c2 ‹_› hg hg2)
    · exact hinv.distinct k k' c c2 hg hg2 heq

/-- what justifies a request for `r` inside a tunnel on socket `sid`: the tunnel is `r`'s own and verified, the
target is in origin form, and no header comes from the proxy configuration -/
structure TunOK (cfg : Cfg) (script : List Script) (r : Req) (uh : Dict) (past : List Event) (sid : Nat)
    (tgt : Str) (hs : Dict) : Prop where
  target : tgt = r.path
  connect : ∃ chs, Event.connect sid (hostPort r.nhost r.effPort) chs ∈ past
  tls : Event.tlsOrigin sid (sniOf r.nhost) (cfg.proxyScheme == .https) ∈ past
  status : (scriptAt script sid).status = .ok
  originCert : (scriptAt script sid).originCertOk = true
  headers : ∀ h ∈ hs, h.1 ∈ autoNames ∨ h ∈ uh

/-- what justifies a request event while `r` is being served: a live socket to the proxy, the proxy verified,
inside a tunnel exactly when the routing table says so -/
structure ReqOK (cfg : Cfg) (script : List Script) (r : Req) (uh : Dict) (past : List Event) (sid : Nat)
    (tun : Bool) (m tgt : Str) (hs : Dict) : Prop where
  live : Event.serverClose sid ∉ past
  tcp : Event.tcp sid cfg.proxyHost cfg.proxyPort ∈ past
  proxyCert : cfg.proxyScheme = .https → (scriptAt script sid).proxyCertOk = true
  method : m = methodStr r.method
  tunnel : tun = tunnelled cfg r
  inside : tun = true → TunOK cfg script r uh past sid tgt hs
  outside : tun = false → tgt = r.absUrl

/-- "event `e`, seen while request `r` is being served, is justified by the routing rules and by
the events before it" (`uh`: the headers the caller asked for) -/
def EvOK (cfg : Cfg) (script : List Script) (r : Req) (uh : Dict) (past : List Event) : Event → Prop
  | .tcp _ h p => h = cfg.proxyHost ∧ p = cfg.proxyPort
  | .tlsProxy _ sni => sni = sniOf cfg.proxyHost ∧ cfg.proxyScheme = .https
  | .connect sid tgt hs =>
      tunnelled cfg r = true ∧ tgt = hostPort r.nhost r.effPort ∧ hs = connectHeaders cfg r.nhost r.effPort ∧
      (cfg.proxyScheme = .https → (scriptAt script sid).proxyCertOk = true)
  | .tlsOrigin sid sni i =>
      tunnelled cfg r = true ∧ sni = sniOf r.nhost ∧ i = (cfg.proxyScheme == .https) ∧
      (scriptAt script sid).status = .ok ∧ ∃ chs, Event.connect sid (hostPort r.nhost r.effPort) chs ∈ past
  | .request sid tun m tgt hs => ReqOK cfg script r uh past sid tun m tgt hs
  | .serverClose _ => True

/-- the absolute URL unless the request is tunnelled -/
def poolTarget (cfg : Cfg) (r : Req) : Str := if (!tunnelled cfg r) = true then r.absUrl else r.path

/-- `hdrs` with the proxy headers merged in unless the request is tunnelled -/
def poolHeaders (cfg : Cfg) (r : Req) (hdrs : Dict) : Dict :=
  if (!tunnelled cfg r) = true then dictUpdate hdrs cfg.proxyHeaders else hdrs

theorem ConnOK.tunnel_eq (hc : ConnOK cfg script T n (poolKey r) c) :
    c.tunnel = if tunnelled cfg r then some (r.nhost, r.effPort) else none := by
  obtain ⟨hT, hF⟩ := tunnelled_cases cfg r
  cases hct : c.tunnel with
  | none =>
    cases htq : tunnelled cfg r
    · rfl
    · obtain ⟨hk, ho, -⟩ := hT htq
      simpa [hk, ho] using hc.notun hct
  | some hp =>
    obtain ⟨hk, ho, -⟩ := hc.tun hp.1 hp.2 hct
    cases htq : tunnelled cfg r
    · simpa [hk, ho] using (hF htq).1
    · simpa [(hT htq).1, Prod.ext_iff] using hk.symm

/-- `hh`: inside a tunnel the pool receives the caller's headers unchanged (no proxy-header merge) -/
theorem request_spec (hh : tunnelled cfg r = true → hdrs = uh)
    (hc : ConnOK cfg script T n (poolKey r) c) (ha : c.alive = true) :
    EvOK cfg script r uh T (requestEvent cfg c (poolOf cfg (poolKey r)).1 r (poolTarget cfg r)
      (!tunnelled cfg r) (poolHeaders cfg r hdrs)) := by
  have hct := hc.tunnel_eq
  cases htq : tunnelled cfg r
  · simp only [requestEvent, EvOK, hct, htq, poolTarget, poolHeaders]
    exact ⟨hc.notClosed ha, hc.tcp, hc.cert, rfl, by simp [htq], by simp, by simp⟩
  · rw [htq, if_pos rfl] at hct
    obtain ⟨-, -, h3, h4, h5, h6⟩ := hc.tun _ _ hct
    simp only [requestEvent, EvOK, hct, htq, poolTarget, poolHeaders]
    refine ⟨hc.notClosed ha, hc.tcp, hc.cert, rfl, by simp [htq],
      fun _ => ⟨by simp, h3, h4, h5, h6, fun x hx => ?_⟩, by simp⟩
    simpa [hh htq] using mem_wireHeaders _ _ _ _ _ _ hx

/-- lets `simp` discharge `ConnOK` goals in `openConn_spec` -/
theorem connOK_iff (cfg : Cfg) (script : List Script) (T : List Event) (nsock : Nat) (k : Key) (c : Conn) :
    ConnOK cfg script T nsock k c ↔
      (c.sid < nsock ∧ Event.tcp c.sid cfg.proxyHost cfg.proxyPort ∈ T ∧
       (cfg.proxyScheme = .https → (scriptAt script c.sid).proxyCertOk = true) ∧
       (c.alive = true → Event.serverClose c.sid ∉ T) ∧
       (∀ h p, c.tunnel = some (h, p) →
          k = .dest h p ∧ opted cfg = false ∧ (∃ chs, Event.connect c.sid (hostPort h p) chs ∈ T) ∧
          Event.tlsOrigin c.sid (sniOf h) (cfg.proxyScheme == .https) ∈ T ∧
          (scriptAt script c.sid).status = .ok ∧ (scriptAt script c.sid).originCertOk = true) ∧
       (c.tunnel = none → k = .proxy ∨ opted cfg = true)) :=
  ⟨fun h => ⟨h.lt, h.tcp, h.cert, h.notClosed, h.tun, h.notun⟩,
   fun ⟨a, b, c, d, e, f⟩ => ⟨a, b, c, d, e, f⟩⟩

theorem openConn_spec (cfg : Cfg) (script : List Script) (r : Req) (uh : Dict) (sid : Nat) :
    match openConn cfg (scriptAt script sid) sid (poolKey r) (tunnelled cfg r) with
    | (ev, res) =>
      (∀ s, Event.serverClose s ∉ ev) ∧ ev.any isRequest = false ∧ lastTcp ev = some sid ∧
      (∀ T, Chunk (EvOK cfg script r uh) T ev) ∧
      (match res with
       | .error e => openErr cfg r (scriptAt script sid) = some e
       | .ok c => c.sid = sid ∧ c.alive = true ∧ openErr cfg r (scriptAt script sid) = none ∧
           ∀ T, Event.serverClose sid ∉ T → ConnOK cfg script (T ++ ev) (sid + 1) (poolKey r) c) := by
  obtain ⟨hT, hF⟩ := tunnelled_cases cfg r
  cases htq : tunnelled cfg r
  · obtain ⟨hk, hps, hps'⟩ := hF htq
    rcases hpo : poolOf cfg (poolKey r) with ⟨ph, th, tp⟩
    rw [hpo] at hps hps'
    cases ph
    · have hps' := hps' rfl
      simp [openConn, hpo, isRequest, lastTcp, Chunk, EvOK, openErr, htq, connOK_iff, hps']
      exact fun T hT => ⟨hT, hk⟩
    · have hps := hps rfl
      cases hpc : (scriptAt script sid).proxyCertOk <;>
        simp [openConn, hpo, isRequest, lastTcp, Chunk, EvOK, openErr, htq, connOK_iff, hps, hpc]
      exact fun T hT => ⟨hT, hk⟩
  · obtain ⟨hk, hno, -⟩ := hT htq
    -- the environment is consulted in the order of `HTTPSConnection.connect`; the first failure ends the events
    by_cases hbad : cfg.proxyScheme = .https ∧ (scriptAt script sid).proxyCertOk = false
    · simp [openConn, poolOf, isRequest, lastTcp, Chunk, EvOK, openErr, hbad.1, hbad.2, hk]
    · have hpc : cfg.proxyScheme = .https → (scriptAt script sid).proxyCertOk = true := by
        intro h
        simpa [h] using hbad
      cases hst : (scriptAt script sid).status with
      | ok =>
        cases hoc : (scriptAt script sid).originCertOk <;> cases hps : cfg.proxyScheme <;>
          simp [openConn, poolOf, isRequest, lastTcp, Chunk, EvOK, openErr, htq, connOK_iff, hps, hpc, hst,
            hoc, hk, hno]
      | _ =>
        cases hps : cfg.proxyScheme <;>
          simp [openConn, poolOf, isRequest, lastTcp, Chunk, EvOK, openErr, htq, hps, hpc, hst, hk]

theorem liveConn_some {ps : List (Key × Conn)} {k : Key} {c : Conn} (h : liveConn ps k = some c) :
    poolGet ps k = some c ∧ c.alive = true := by
  grind [liveConn]

def sendEvents (cfg : Cfg) (c : Conn) (r : Req) (hdrs : Dict) : List Event :=
  [requestEvent cfg c (poolOf cfg (poolKey r)).1 r (poolTarget cfg r) (!tunnelled cfg r) (poolHeaders cfg r hdrs)] ++
    if r.closeAfter then [Event.serverClose c.sid] else []

/-- outcome of a request w.r.t. its events: a response comes with a request on the wire (and the
socket opened last, if any, was connected all the way); an error means that no request was sent
and is the error of the socket opened last -/
def OutOK (cfg : Cfg) (script : List Script) (r : Req) (ev : List Event) (o : Outcome) : Prop :=
  (o = .response ∧ (∃ e ∈ ev, isRequest e = true) ∧
    ∀ sid, lastTcp ev = some sid → openErr cfg r (scriptAt script sid) = none) ∨
  (∃ e sid, (o = .raised e ∨ o = .maxRetry e) ∧ (∀ x ∈ ev, isRequest x = false) ∧
    lastTcp ev = some sid ∧ openErr cfg r (scriptAt script sid) = some e)

/-- what serving request `r` from state `st` after the trace `T` guarantees; `fresh`: a request that
finds its pool slot empty opens a socket -/
structure Served (cfg : Cfg) (script : List Script) (st : St) (r : Req) (uh : Dict) (T : List Event)
    (x : List Event × Outcome × St) : Prop where
  inv : Inv cfg script x.2.2 (T ++ x.1)
  chunk : Chunk (EvOK cfg script r uh) T x.1
  out : OutOK cfg script r x.1 x.2.1
  fresh : liveConn st.pools (poolKey r) = none → ∃ sid, lastTcp x.1 = some sid

/-- `c` was obtained from the pool (`ev = []`) or by opening a socket with the events `ev` -/
theorem sent_spec (hinv : Inv cfg script st T) (hh : tunnelled cfg r = true → hdrs = uh)
    (ev : List Event) (n : Nat) (c : Conn) (hn : st.nsock ≤ n)
    (hc : ConnOK cfg script (T ++ ev) n (poolKey r) c) (ha : c.alive = true)
    (horig : (∃ c0, poolGet st.pools (poolKey r) = some c0 ∧ c0.sid = c.sid) ∨ st.nsock ≤ c.sid)
    (hncl : ∀ s, Event.serverClose s ∉ ev) (hchunk : Chunk (EvOK cfg script r uh) T ev)
    (hlast : ∀ sid, lastTcp ev = some sid → openErr cfg r (scriptAt script sid) = none)
    (hfresh : liveConn st.pools (poolKey r) = none → ∃ sid, lastTcp ev = some sid) :
    Served cfg script st r uh T (ev ++ sendEvents cfg c r hdrs, .response,
      ⟨n, poolSet st.pools (poolKey r) { c with alive := !r.closeAfter }⟩) := by
  have hreq : isRequest (requestEvent cfg c (poolOf cfg (poolKey r)).1 r (poolTarget cfg r)
      (!tunnelled cfg r) (poolHeaders cfg r hdrs)) = true := rfl
  have hcl : ∀ s, Event.serverClose s ∈ sendEvents cfg c r hdrs → r.closeAfter = true ∧ s = c.sid := by
    intro s hs
    cases hca : r.closeAfter <;> simp [sendEvents, hca, requestEvent] at hs ⊢
    exact hs
  have hl : lastTcp (ev ++ sendEvents cfg c r hdrs) = lastTcp ev := by
    rw [lastTcp_append]
    cases hca : r.closeAfter <;> simp [sendEvents, hca, lastTcp, requestEvent]
  refine ⟨?_, chunk_append hchunk ⟨request_spec hh hc ha, ?_⟩, Or.inl ⟨rfl, ?_, hl ▸ hlast⟩,
    hl ▸ hfresh⟩
  · have hc' := hc.step (sendEvents cfg c r hdrs) n (Nat.le_refl n) (!r.closeAfter) fun h =>
      ⟨ha, fun hm => by simp [(hcl _ hm).1] at h⟩
    rw [List.append_assoc] at hc'
    refine inv_update hinv _ n hn _ (some _) _ (poolGet_set _ _ _) (fun c' h => ?_) (fun s hs => ⟨_, rfl, ?_⟩)
    · cases h
      exact ⟨hc', horig⟩
    · rcases List.mem_append.1 hs with hs | hs
      · exact absurd hs (hncl s)
      · exact (hcl s hs).2
  · cases r.closeAfter <;> simp [Chunk, EvOK]
  · exact ⟨_, by simp [sendEvents], hreq⟩

/-- a failed attempt would serve the request under either way of reporting its error, shows no
request and leaves the pool slot empty -/
theorem attempt_spec (hinv : Inv cfg script st T) (hh : tunnelled cfg r = true → hdrs = uh)
    (a : AttemptOut) (hatt : attempt cfg script st r (poolKey r) (poolTarget cfg r) (!tunnelled cfg r) hdrs = a) :
    a.headers = poolHeaders cfg r hdrs ∧
    match a.result with
    | .ok _ => Served cfg script st r uh T (a.events, .response, a.st)
    | .error e => (∀ x ∈ a.events, isRequest x = false) ∧ liveConn a.st.pools (poolKey r) = none ∧
        ∀ o, o = .raised e ∨ o = .maxRetry e → Served cfg script st r uh T (a.events, o, a.st) := by
  subst hatt
  cases hl : liveConn st.pools (poolKey r) with
  | some c =>
    obtain ⟨hg, ha⟩ := liveConn_some hl
    simp only [attempt, hl, pool_tunnel]
    exact ⟨rfl, sent_spec hinv hh [] st.nsock c (Nat.le_refl _) (by simpa using hinv.conn _ _ hg) ha
      (Or.inl ⟨c, hg, rfl⟩) (by simp) trivial (by simp [lastTcp]) (by simp [hl])⟩
  | none =>
    simp only [attempt, hl, pool_tunnel]
    rcases ho : openConn cfg (scriptAt script st.nsock) st.nsock (poolKey r) (tunnelled cfg r) with ⟨ev, res⟩
    have hos := openConn_spec cfg script r uh st.nsock
    rw [ho] at hos
    obtain ⟨hncl, hnreq, hlast, hchunk, hres⟩ := hos
    replace hnreq : ∀ x ∈ ev, isRequest x = false := by simpa using hnreq
    cases res with
    | error e =>
      refine ⟨rfl, hnreq, by simp [liveConn, poolGet_erase],
        fun o ho => ⟨?_, hchunk T, ?_, fun _ => ⟨_, hlast⟩⟩⟩
      · exact inv_update hinv ev _ (Nat.le_succ _) _ none _ (poolGet_erase _ _) nofun
          (fun s hs => absurd hs (hncl s))
      · exact Or.inr ⟨e, _, ho, hnreq, hlast, hres⟩
    | ok c =>
      obtain ⟨hsid, ha, hnoerr, hcok⟩ := hres
      simp only [List.append_assoc]
      exact ⟨rfl, sent_spec hinv hh ev (st.nsock + 1) c (Nat.le_succ _)
        (hcok T fun h => Nat.lt_irrefl _ (hinv.closes _ h)) ha (Or.inr (by simp [hsid])) hncl (hchunk T)
        (fun sid h => by
          rw [hlast] at h
          cases h
          exact hnoerr)
        (fun _ => ⟨_, hlast⟩)⟩

theorem Served.after {st1 st2 : St} {ev1 ev2 : List Event} {o1 o : Outcome}
    (s1 : Served cfg script st r uh T (ev1, o1, st1)) (hnr : ∀ x ∈ ev1, isRequest x = false)
    (hl : liveConn st1.pools (poolKey r) = none) (s2 : Served cfg script st1 r uh (T ++ ev1) (ev2, o, st2)) :
    Served cfg script st r uh T (ev1 ++ ev2, o, st2) := by
  obtain ⟨sid, hs⟩ := s2.fresh hl
  have hcomb : lastTcp (ev1 ++ ev2) = lastTcp ev2 := by simp [lastTcp_append, hs]
  refine ⟨by simpa [List.append_assoc] using s2.inv, chunk_append s1.chunk s2.chunk, ?_,
    fun _ => ⟨sid, hcomb ▸ hs⟩⟩
  rcases s2.out with ⟨ho, ⟨e', he', hr⟩, hlt⟩ | ⟨e', sid', ho, hnr', hl', hoe⟩
  · exact Or.inl ⟨ho, ⟨e', List.mem_append_right _ he', hr⟩, hcomb ▸ hlt⟩
  · refine Or.inr ⟨e', sid', ho, fun x hx => ?_, hcomb ▸ hl', hoe⟩
    rcases List.mem_append.1 hx with hx | hx
    · exact hnr x hx
    · exact hnr' x hx

theorem runAttempts_spec (n : Nat) {st : St} {T : List Event} {hdrs : Dict} (hinv : Inv cfg script st T)
    (hh : tunnelled cfg r = true → hdrs = uh) :
    Served cfg script st r uh T
      (runAttempts cfg script r (poolKey r) (poolTarget cfg r) (!tunnelled cfg r) n st hdrs) := by
  obtain ⟨hhd, h⟩ := attempt_spec hinv hh _ rfl
  unfold runAttempts
  split at h
  next he =>
    simp only [he]
    exact h
  next e he =>
    obtain ⟨hnr, hl, hs⟩ := h
    simp only [he]
    split
    · exact hs _ (Or.inl rfl)
    · match n with
      | 0 => exact hs _ (Or.inr rfl)
      | n + 1 =>
        exact (hs _ (Or.inl rfl)).after hnr hl (runAttempts_spec n (hs _ (Or.inl rfl)).inv
          fun h => by
            rw [hhd]
            simp [poolHeaders, h, hh h])

theorem runOnce_spec (hinv : Inv cfg script st T) (hh : tunnelled cfg r = true → hdrs = uh) :
    Served cfg script st r uh T (runOnce cfg script r (poolKey r) (poolTarget cfg r) (!tunnelled cfg r) st hdrs) := by
  obtain ⟨-, h⟩ := attempt_spec hinv hh _ rfl
  unfold runOnce
  split at h
  next he =>
    simp only [he]
    exact h
  next he =>
    simp only [he]
    exact h.2.2 _ (Or.inl rfl)

theorem managerRequest_spec (hinv : Inv cfg script st T) (r : Req) :
    Served cfg script st r (userHeaders cfg r) T (managerRequest cfg script st r) := by
  have hh : tunnelled cfg r = true →
      (if (!tunnelled cfg r) = true then setProxyHeaders r (r.headers.getD cfg.mgrHeaders)
        else r.headers.getD cfg.mgrHeaders) = userHeaders cfg r := by
    intro h
    simp [h, userHeaders]
  unfold managerRequest
  simp only [mgr_tunnel]
  cases r.retries with
  | none => exact runOnce_spec hinv hh
  | some n => exact runAttempts_spec n hinv hh

def EvOKAny (cfg : Cfg) (script : List Script) (reqs : List Req) (past : List Event) (e : Event) : Prop :=
  ∃ r ∈ reqs, EvOK cfg script r (userHeaders cfg r) past e

theorem history_spec (cfg : Cfg) (script : List Script) (reqs : List Req) :
    ∀ (st : St) (T : List Event), Inv cfg script st T →
    Inv cfg script (finalState cfg script st reqs)
      (T ++ ((runHistory cfg script st reqs).map (·.1)).flatten) ∧
    Chunk (EvOKAny cfg script reqs) T ((runHistory cfg script st reqs).map (·.1)).flatten := by
  induction reqs with
  | nil =>
    intro st T hinv
    simpa [runHistory, finalState, Chunk] using hinv
  | cons r rs ih =>
    intro st T hinv
    have h := managerRequest_spec hinv r
    obtain ⟨i1, i2⟩ := ih _ _ h.inv
    simp only [runHistory, finalState, List.map_cons, List.flatten_cons]
    refine ⟨by simpa [List.append_assoc] using i1, chunk_append ?_ ?_⟩
    · exact chunk_mono (fun past e h => ⟨r, by simp, h⟩) h.chunk
    · exact chunk_mono (fun past e ⟨r', hr', h⟩ => ⟨r', by simp [hr'], h⟩) i2

theorem trace_spec (cfg : Cfg) (script : List Script) (reqs : List Req) :
    Inv cfg script (finalState cfg script St.init reqs) (trace cfg script reqs) ∧
    ∀ pre e post, trace cfg script reqs = pre ++ e :: post → EvOKAny cfg script reqs pre e := by
  obtain ⟨h1, h2⟩ := history_spec cfg script reqs St.init [] (inv_init cfg script)
  exact ⟨by simpa [trace] using h1, fun pre e post h => by simpa using chunk_split h2 pre e post h⟩

theorem exists_split_of_any (l : List Event) (p : Event → Bool) (h : l.any p = true) :
    ∃ pre e post, l = pre ++ e :: post ∧ p e = true := by
  rw [List.any_eq_true] at h
  obtain ⟨e, hm, hp⟩ := h
  obtain ⟨pre, post, hl⟩ := List.append_of_mem hm
  exact ⟨pre, e, post, hl, hp⟩

end U3.Proxy
