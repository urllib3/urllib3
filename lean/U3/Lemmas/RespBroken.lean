import U3.Lemmas.RespDrain
import U3.Lemmas.RespReadChunked
/-! C13, the read family on a *broken* body source: whatever the calls, amounts and decoder, no
call ever signals a normal end of body — each call either raises or returns a non-empty piece and
leaves the source broken; `read()` always raises.

The first part is generic in the source (`RawBrokenSpec`) and in the decoder (ANY `Dec δ`, no streaming
law needed: a decoder can only add exceptions).  `rawBrokenSpec_of_src` reduces `RawBrokenSpec` to what
the file itself does; the second part discharges that for `http.client` on a body short of its
Content-Length and on a broken chunked body, and treats urllib3's own chunk parser on the latter. -/
namespace U3.Resp
open U3

section
variable {σ δ : Type} (S : Src σ) (D : Dec δ) (cfg : Cfg δ)

theorem bufGet_ok (r : R σ δ) (a : Nat) (h : a = 0 ∨ 0 < bqLen r.buf) :
    ∃ d q, bufGet r a = (.ok d, { r with buf := q }) ∧ (0 < a → d ≠ []) := by
  have hne : r.buf ≠ [] ∨ a = 0 := h.symm.imp_left ne_nil_of_bqLen_pos
  obtain ⟨q, hget, _⟩ := bufGet_eq r a hne
  refine ⟨_, q, hget, fun ha h0 => ?_⟩
  rw [List.take_eq_nil_iff, ← bqLen_eq_zero] at h0
  omega

/-- the end of `read1`: `get_all()` / `get(a)` -/
theorem serve_ok (amt : Option Nat) (r : R σ δ) (h : amt = some 0 ∨ 0 < bqLen r.buf) :
    ∃ d q, (match amt with
        | none => (Except.ok (bqGetAll r.buf).1, { r with buf := (bqGetAll r.buf).2 })
        | some a => bufGet r a) = (.ok d, { r with buf := q }) ∧ (amt ≠ some 0 → d ≠ []) := by
  cases amt with
  | none =>
    refine ⟨_, _, rfl, fun _ h0 => ?_⟩
    exact Nat.ne_of_gt (h.resolve_left (by simp)) (bqLen_eq_zero.mpr h0)
  | some a =>
    obtain ⟨d, q, e, hd⟩ := bufGet_ok r a (h.imp_left (by simp))
    exact ⟨d, q, e, fun ha => hd (pos_of_some_ne_zero ha)⟩

/-- what `_raw_read` does on a **broken** source (`B` = the source is broken, over `_fp` and
`length_remaining`; `size` = a measure that every successful read decreases): with an amount (or in
`read1` mode) it raises ProtocolError — closing and handing back the connection it held — or returns
a non-empty piece, leaves the source broken and keeps the connection; without an amount (`read()`) it
raises ProtocolError; the file of a broken source is open -/
structure RawBrokenSpec (B : σ → Option Int → Prop) (size : σ → Nat) : Prop where
  step : ∀ (r : R σ δ) (amt : Option Nat) (rd1 : Bool), amt ≠ some 0 → (rd1 = true ∨ amt ≠ none) →
    B r.fp r.lengthRemaining →
    (∃ r', rawRead S cfg r amt rd1 = (.error .protocolError, r') ∧ (r.conn = true → ConnDone r')) ∨
    (∃ d r', rawRead S cfg r amt rd1 = (.ok d, r') ∧ d ≠ [] ∧ B r'.fp r'.lengthRemaining ∧
      size r'.fp < size r.fp ∧ r'.buf = r.buf ∧ r'.conn = r.conn)
  all : ∀ (r : R σ δ), B r.fp r.lengthRemaining →
    ∃ r', rawRead S cfg r none false = (.error .protocolError, r') ∧ (r.conn = true → ConnDone r')
  opened : ∀ (h : σ) (lr : Option Int), B h lr → S.isclosed h = false

/-- an exception on a broken response that held its connection: never the model's `fuel`, and if it
is ProtocolError the connection has been closed and handed back -/
def BrokenErr (e : Exc) (r' : R σ δ) : Prop := e ≠ .fuel ∧ (e = .protocolError → ConnDone r')

/-- the response is still broken, its source smaller than `n`, and it still holds its connection -/
def Held (B : σ → Option Int → Prop) (size : σ → Nat) (n : Nat) (r : R σ δ) : Prop :=
  B r.fp r.lengthRemaining ∧ size r.fp < n ∧ r.conn = true

/-- the outcome `x` of a step on a broken response that holds its connection: an exception
(`BrokenErr`), or a result and a state of which `Q` holds -/
def BrokenOut {α : Type} (Q : α → R σ δ → Prop) (x : Except Exc α × R σ δ) : Prop :=
  (∃ e r', x = (.error e, r') ∧ BrokenErr e r') ∨ (∃ a r', x = (.ok a, r') ∧ Q a r')

variable {B : σ → Option Int → Prop} {size : σ → Nat}

theorem Held.mono {n m : Nat} {r : R σ δ} (h : Held B size n r) (hnm : n ≤ m) : Held B size m r :=
  ⟨h.1, Nat.lt_of_lt_of_le h.2.1 hnm, h.2.2⟩

theorem BrokenOut.error {α : Type} {Q : α → R σ δ → Prop} {e : Exc} {r' : R σ δ} (h : BrokenErr e r') :
    BrokenOut Q (.error e, r') := .inl ⟨e, r', rfl, h⟩

theorem BrokenOut.ok {α : Type} {Q : α → R σ δ → Prop} {a : α} {r' : R σ δ} (h : Q a r') :
    BrokenOut Q (.ok a, r') := .inr ⟨a, r', rfl, h⟩

theorem BrokenOut.mono {α : Type} {Q Q' : α → R σ δ → Prop} {x : Except Exc α × R σ δ} (h : BrokenOut Q x)
    (hq : ∀ a r', Q a r' → Q' a r') : BrokenOut Q' x :=
  h.imp_right (fun ⟨a, r', e, hQ⟩ => ⟨a, r', e, hq a r' hQ⟩)

theorem brokenErr_of_ne {e : Exc} (r' : R σ δ) (h : e ≠ .fuel ∧ e ≠ .protocolError) : BrokenErr e r' :=
  ⟨h.1, fun h0 => absurd h0 h.2⟩

/-- the outcome of `match x with | (.error e, r) => (.error e, r) | (.ok a, r) => f a r`, the shape of
every step of the read family that follows a `_raw_read` or a `_decode` (stated for `Bytes` results:
the `match` is then the very one the model's definitions are compiled to, and `refine` finds it) -/
theorem BrokenOut.bind {β : Type} {Q : Bytes → R σ δ → Prop} {Q' : β → R σ δ → Prop}
    {x : Except Exc Bytes × R σ δ} {f : Bytes → R σ δ → Except Exc β × R σ δ} (hx : BrokenOut Q x)
    (hf : ∀ a r', Q a r' → BrokenOut Q' (f a r')) :
    BrokenOut Q' (match (generalizing := false) x with
      | (.error e, r) => (.error e, r)
      | (.ok a, r) => f a r) := by
  rcases hx with ⟨e, r', rfl, he⟩ | ⟨a, r', rfl, hq⟩
  · exact .error he
  · exact hf a r' hq

theorem rawRead_broken (hB : RawBrokenSpec S cfg B size) {n m : Nat} (r : R σ δ) (amt : Option Nat) (rd1 : Bool)
    (hamt : amt ≠ some 0) (hapi : rd1 = true ∨ amt ≠ none) (h : Held B size m r) (hn : size r.fp ≤ n) :
    BrokenOut (fun d r' => d ≠ [] ∧ Held B size n r') (rawRead S cfg r amt rd1) := by
  rcases hB.step r amt rd1 hamt hapi h.1 with ⟨r', e, c⟩ | ⟨d, r', e, hd, hb, hs, _, hc⟩
  · rw [e]
    exact .error ⟨by simp, fun _ => c h.2.2⟩
  · rw [e]
    exact .ok ⟨hd, hb, Nat.lt_of_lt_of_le hs hn, hc.trans h.2.2⟩

theorem decode_broken (r : R σ δ) (a : Bytes) (dc fl : Bool) :
    BrokenOut (fun _ r' => ∃ od hd, r' = { r with decoder := od, hasDecoded := hd }) (decode D r a dc fl) := by
  obtain ⟨res, od, hd, hdec, herr⟩ := decode_cases D r a dc fl
  rw [hdec]
  cases res with
  | error e => exact .error (brokenErr_of_ne _ (herr e rfl))
  | ok dd => exact .ok ⟨od, hd, rfl⟩

theorem readLoop_broken (hB : RawBrokenSpec S cfg B size) (a : Nat) (ha : 0 < a) (dc fl : Bool) :
    ∀ (fuel : Nat) (r : R σ δ) (data : Bytes), Held B size fuel r → data ≠ [] →
      BrokenOut (fun _ r' => a ≤ bqLen r'.buf ∧ Held B size fuel r') (readLoop S D cfg a dc fl fuel r data) := by
  intro fuel
  induction fuel with
  | zero =>
    intro r _ h
    exact absurd h.2.1 (Nat.not_lt_zero _)
  | succ k ih =>
    intro r data h hdata
    unfold readLoop
    by_cases hc : bqLen r.buf < a ∧ (!data.isEmpty) = true
    · rw [if_pos hc]
      refine BrokenOut.bind (rawRead_broken S cfg hB r (some a) false (by simp; omega) (.inr (by simp)) h
        (Nat.le_of_lt_succ h.2.1)) (fun d r1 ⟨hd, h1⟩ => ?_)
      refine BrokenOut.bind (decode_broken D r1 d dc fl) (fun dd r2 ⟨od, hdd, hr2⟩ => ?_)
      subst hr2
      refine BrokenOut.mono (ih _ d ?_ hd) (fun _ r' h' => ⟨h'.1, h'.2.mono (Nat.le_succ k)⟩)
      exact h1
    · rw [if_neg hc]
      refine .ok ⟨?_, h⟩
      have : data.isEmpty = false := by simpa using hdata
      simp only [this, Bool.not_false, and_true, Nat.not_lt] at hc
      exact hc

theorem read_some_broken (hB : RawBrokenSpec S cfg B size) (a : Nat) (dco : Option Bool)
    (r : R σ δ) (h : Held B size cfg.fuel r) :
    BrokenOut (fun d r' => (a ≠ 0 → d ≠ []) ∧ Held B size cfg.fuel r') (read S D cfg r (some a) dco) := by
  have h0 : Held B size cfg.fuel (initDec cfg r) := by
    rw [initDec_eq]
    exact h
  unfold read
  generalize initDec cfg r = r0 at h0
  dsimp only
  by_cases hge : bqLen r0.buf ≥ a
  · obtain ⟨d, q, e, hd⟩ := bufGet_ok r0 a (by omega)
    rw [if_pos hge, e]
    exact .ok ⟨fun ha => hd (Nat.pos_of_ne_zero ha), h0⟩
  · have ha : 0 < a := by omega
    rw [if_neg hge]
    refine BrokenOut.bind (rawRead_broken S cfg hB r0 (some a) false (by simp; omega) (.inr (by simp)) h0
      (Nat.le_of_lt h0.2.1)) (fun d r1 ⟨hd, h1⟩ => ?_)
    rw [if_neg (by simp [hd])]
    by_cases hdc : (!dco.getD cfg.decodeDefault) = true
    · rw [if_pos hdc]
      by_cases hhd : r1.hasDecoded = true
      · rw [if_pos hhd]
        exact .error (brokenErr_of_ne r1 (by simp))
      · rw [if_neg hhd]
        exact .ok ⟨fun _ => hd, h1⟩
    · rw [if_neg hdc]
      refine BrokenOut.bind (decode_broken D r1 d _ _) (fun dd r2 ⟨od, hdd, hr2⟩ => ?_)
      subst hr2
      rcases readLoop_broken S D cfg hB a ha (dco.getD cfg.decodeDefault)
          ((some a).isNone || (decide (some a ≠ some 0) && d.isEmpty)) cfg.fuel
          { r1 with decoder := od, hasDecoded := hdd, buf := bqPut r1.buf dd } d h1 hd with
        ⟨e, r', e', he⟩ | ⟨_, r', e', hlen, h'⟩
      · rw [e']
        exact .error he
      · obtain ⟨o, q, e2, ho⟩ := bufGet_ok r' a (by omega)
        rw [e']
        dsimp only
        rw [e2]
        exact .ok ⟨fun _ => ho ha, h'⟩

theorem read_none_broken (hB : RawBrokenSpec S cfg B size) (dco : Option Bool) (cache : Bool)
    (r : R σ δ) (hb : B r.fp r.lengthRemaining) :
    ∃ r', read S D cfg r none dco cache = (.error .protocolError, r') ∧ (r.conn = true → ConnDone r') := by
  obtain ⟨r1, e1, c1⟩ := hB.all (initDec cfg r) (by rw [initDec_eq]; exact hb)
  exact ⟨r1, read_none_error S D cfg r dco cache _ r1 e1, fun h => c1 (by rw [initDec_eq]; exact h)⟩

theorem read1Loop_broken (hB : RawBrokenSpec S cfg B size) (dc : Bool) :
    ∀ (fuel : Nat) (r : R σ δ) (data : Bytes), Held B size fuel r → data ≠ [] →
      BrokenOut (fun _ r' => 0 < bqLen r'.buf ∧ Held B size fuel r') (read1Loop S D cfg dc fuel r data) := by
  intro fuel
  induction fuel with
  | zero =>
    intro r _ h
    exact absurd h.2.1 (Nat.not_lt_zero _)
  | succ k ih =>
    intro r data h hdata
    unfold read1Loop
    dsimp only
    refine BrokenOut.bind (decode_broken D r data dc data.isEmpty) (fun dd r2 ⟨od, hd, hr2⟩ => ?_)
    subst hr2
    by_cases hc : (!dd.isEmpty) = true ∨ data.isEmpty = true
    · rw [if_pos hc]
      refine .ok ⟨?_, h⟩
      have : dd ≠ [] := by simpa [hdata] using hc
      show 0 < bqLen (bqPut r.buf dd)
      rw [bqLen_put]
      have := List.length_pos_iff.mpr this
      omega
    · rw [if_neg hc]
      refine BrokenOut.bind (rawRead_broken S cfg hB _ (some 8192) true (by simp) (.inl rfl) h
        (Nat.le_of_lt_succ h.2.1)) (fun d r1 ⟨hd, h1⟩ => ?_)
      exact (ih r1 d h1 hd).mono (fun _ r' h' => ⟨h'.1, h'.2.mono (Nat.le_succ k)⟩)

theorem read1_broken (hB : RawBrokenSpec S cfg B size) (amt : Option Nat) (dco : Option Bool)
    (r : R σ δ) (h : Held B size cfg.fuel r) :
    BrokenOut (fun d r' => (amt ≠ some 0 → d ≠ []) ∧ Held B size cfg.fuel r') (read1 S D cfg r amt dco) := by
  unfold read1
  dsimp only
  split
  · -- the early returns: RuntimeError, or what is buffered
    rename_i hearly
    by_cases hhd : r.hasDecoded = true
    · rw [if_pos hhd] at hearly
      by_cases hdc : (!dco.getD cfg.decodeDefault) = true
      · rw [if_pos hdc] at hearly
        cases hearly
        exact .error (brokenErr_of_ne r (by simp))
      · rw [if_neg hdc] at hearly
        by_cases hbuf : bqLen r.buf > 0
        · obtain ⟨o, q, e2, ho⟩ := serve_ok amt r (.inr hbuf)
          rw [if_pos hbuf] at hearly
          cases amt
          all_goals
            cases hearly
            dsimp only at e2 ⊢
            rw [e2]
            exact .ok ⟨ho, h⟩
        · rw [if_neg hbuf] at hearly
          cases hearly
    · rw [if_neg hhd] at hearly
      cases hearly
  · by_cases hamt : amt = some 0
    · rw [if_pos hamt]
      exact .ok ⟨fun hne => absurd hamt hne, h⟩
    · rw [if_neg hamt]
      refine BrokenOut.bind (rawRead_broken S cfg hB r amt true hamt (.inl rfl) h (Nat.le_of_lt h.2.1))
        (fun d r1 ⟨hd, h1⟩ => ?_)
      by_cases hdc : (!dco.getD cfg.decodeDefault) = true
      · rw [if_pos hdc]
        exact .ok ⟨fun _ => hd, h1⟩
      · rw [if_neg hdc]
        rcases read1Loop_broken S D cfg hB (dco.getD cfg.decodeDefault) cfg.fuel (initDec cfg r1) d
            (by rw [initDec_eq]; exact h1) hd with ⟨e, r', e', he⟩ | ⟨_, r', e', hlen, h'⟩
        · rw [e']
          exact .error he
        · obtain ⟨o, q, e2, ho⟩ := serve_ok amt r' (.inr hlen)
          rw [e']
          cases amt
          all_goals
            dsimp only at e2 ⊢
            rw [e2]
            exact .ok ⟨ho, h'⟩

/-- does this call, returning `out`, tell the caller that the body is over?  `read()` returning at
all, or `read(n)` / `read1(n)` / `read1()` (`n ≠ 0`) returning b"" -/
def EndSignal (c : RCall) (out : Bytes) : Prop :=
  match c with
  | .read none => True
  | .read (some a) => a ≠ 0 ∧ out = []
  | .read1 a => a ≠ some 0 ∧ out = []

theorem runRCall_broken (hB : RawBrokenSpec S cfg B size) (dco : Option Bool) (c : RCall)
    (r : R σ δ) (h : Held B size cfg.fuel r) :
    BrokenOut (fun out r' => ¬ EndSignal c out ∧ Held B size cfg.fuel r') (runRCall S D cfg dco r c) := by
  cases c with
  | read amt =>
    cases amt with
    | none =>
      obtain ⟨r', e1, c1⟩ := read_none_broken S D cfg hB dco false r h.1
      exact .inl ⟨_, r', e1, by simp, fun _ => c1 h.2.2⟩
    | some a =>
      exact (read_some_broken S D cfg hB a dco r h).mono (fun d r' h' => ⟨fun hs => h'.1 hs.1 hs.2, h'.2⟩)
  | read1 amt =>
    exact (read1_broken S D cfg hB amt dco r h).mono (fun d r' h' => ⟨fun hs => h'.1 hs.1 hs.2, h'.2⟩)

/-- **no call sequence of the read family ends normally on a broken response**: an exception ends
it (never the model's `fuel`; if it is ProtocolError, the connection the response held has been closed
and handed back closed), or the sequence runs through, none of its calls has signalled an end of
body, the source is still broken and the connection still held — the next `read()` raises -/
theorem callSeq_broken (hB : RawBrokenSpec S cfg B size) (dco : Option Bool) :
    ∀ (calls : List RCall) (r : R σ δ), Held B size cfg.fuel r →
      BrokenOut (fun outs r' => outs.length = calls.length ∧
        (∀ i (hi : i < calls.length) (ho : i < outs.length), ¬ EndSignal calls[i] outs[i]) ∧
        Held B size cfg.fuel r') (callSeq S D cfg dco calls r) := by
  intro calls
  induction calls with
  | nil =>
    intro r h
    exact .ok ⟨rfl, fun i hi => absurd hi (Nat.not_lt_zero i), h⟩
  | cons c t ih =>
    intro r h
    unfold callSeq
    refine BrokenOut.bind (runRCall_broken S D cfg hB dco c r h) (fun out r1 ⟨hout, h1⟩ => ?_)
    rcases ih r1 h1 with ⟨e, r2, f1, f2⟩ | ⟨outs, r2, f1, f2, f3, f4⟩
    · rw [f1]
      exact .error f2
    · rw [f1]
      refine .ok ⟨by simp [f2], fun i hi ho => ?_, f4⟩
      cases i with
      | zero => exact hout
      | succ j => exact f3 j (by simpa using hi) (by simpa using ho)

/-- `stream(amt)` on a non-chunked broken response never ends normally: the generator is ended by
an exception (`stream(0)` spins, and with an arbitrary decoder the model's fuel may run out first — the
decoded output is not bounded by the input —; that is the outcome `fuel`, an error too, never a normal
end) -/
theorem streamLoop_broken (hB : RawBrokenSpec S cfg B size) (amt : Option Nat) (dco : Option Bool) :
    ∀ (fuel : Nat) (r : R σ δ) (acc : List Bytes), Held B size cfg.fuel r →
      ∃ e, (streamLoop S D cfg amt dco fuel r acc).1.2 = some e := by
  intro fuel
  induction fuel with
  | zero =>
    intro r acc _
    exact ⟨.fuel, rfl⟩
  | succ k ih =>
    intro r acc h
    have hstep : BrokenOut (fun _ r' => Held B size cfg.fuel r') (read S D cfg r amt dco) :=
      (runRCall_broken S D cfg hB dco (.read amt) r h).mono (fun _ _ h' => h'.2)
    unfold streamLoop
    rw [if_pos (.inl (by simp [hB.opened r.fp r.lengthRemaining h.1]))]
    rcases hstep with ⟨e, r', e1, _⟩ | ⟨d, r', e1, h'⟩
    · rw [e1]
      exact ⟨e, rfl⟩
    · rw [e1]
      exact ih r' _ h'

theorem stream_broken (hB : RawBrokenSpec S cfg B size) (hnc : cfg.chunked = false) (amt : Option Nat)
    (dco : Option Bool) (r : R σ δ) (h : Held B size cfg.fuel r) :
    ∃ e, (stream S D cfg r amt dco).1.2 = some e := by
  unfold stream
  rw [hnc]
  exact streamLoop_broken S D cfg hB amt dco cfg.fuel r [] h

/-- iteration is `stream(65536, decode_content=True)` re-split into lines -/
theorem iter_error (r : R σ δ) (h : ∃ e, (stream S D cfg r (some 65536) (some true)).1.2 = some e) :
    ∃ e, (iter S D cfg r).1.2 = some e := by
  obtain ⟨e, he⟩ := h
  unfold iter
  generalize stream S D cfg r (some 65536) (some true) = x at he ⊢
  obtain ⟨⟨ps, oe⟩, r'⟩ := x
  subst he
  exact ⟨e, rfl⟩

/-- `_raw_read` takes b"" from the file (with an amount, or in `read1` mode) for the end of the
stream; while `length_remaining` says that body bytes are owed it raises (IncompleteRead →)
ProtocolError -/
theorem rawRead_eof_owed (r : R σ δ) (amt : Option Nat) (rd1 : Bool) (fp' : σ)
    (hsrc : srcRead S r amt rd1 = (.ok [], fp')) (hamt : amt ≠ some 0) (hapi : rd1 = true ∨ amt ≠ none)
    (henf : cfg.enforce = true) (hlr : r.lengthRemaining ≠ none ∧ r.lengthRemaining ≠ some 0) :
    rawRead S cfg r amt rd1 = (.error .protocolError, caught S { r with fp := S.close fp' }) := by
  have ha : atEof amt rd1 r.lengthRemaining [] = true := by
    rcases hapi with h1 | h1 <;> simp [atEof, hamt, h1]
  have ho : owed cfg r.lengthRemaining [] = true := by simp [owed, henf, hlr]
  rw [rawRead_form, hsrc]
  dsimp only
  rw [ha, ho]
  rfl

/-- the broken-source contract, from what the file does on a broken body: `read(amt)` / `read1(amt)`
raise, or report the end of the stream while body bytes are owed, or return a non-empty piece short of
`length_remaining` and stay broken (`hstep`); `read()` raises (`hall`) -/
theorem rawBrokenSpec_of_src (hclose : ∀ h, S.isclosed (S.close h) = true)
    (hopen : ∀ h lr, B h lr → S.closed h = false ∧ S.isclosed h = false)
    (hstep : ∀ h lr amt rd1, B h lr → amt ≠ some 0 → (rd1 = true ∨ amt ≠ none) →
      (∃ h', (if rd1 then S.read1 h amt else S.read h amt) = (.error .incompleteRead, h')) ∨
      (∃ h', (if rd1 then S.read1 h amt else S.read h amt) = (.ok [], h') ∧
        cfg.enforce = true ∧ lr ≠ none ∧ lr ≠ some 0) ∨
      (∃ d h', (if rd1 then S.read1 h amt else S.read h amt) = (.ok d, h') ∧ d ≠ [] ∧
        lr ≠ some (d.length : Int) ∧ B h' (lr.map (· - (d.length : Int))) ∧ size h' < size h))
    (hall : ∀ h lr, B h lr → ∃ h', S.read h none = (.error .incompleteRead, h')) :
    RawBrokenSpec (δ := δ) S cfg B size := by
  have hdone : ∀ (r : R σ δ) fp, r.conn = true → ConnDone (caught S { r with fp := fp }) :=
    fun r fp hconn => (caught_done S hclose { r with fp := fp } hconn).1
  refine ⟨fun r amt rd1 hamt hapi hb => ?_, fun r hb => ?_, fun h lr hb => (hopen h lr hb).2⟩
  · have hsrc : srcRead S r amt rd1 = if rd1 then S.read1 r.fp amt else S.read r.fp amt := by
      simp only [srcRead, (hopen _ _ hb).1, Bool.false_eq_true, if_false]
    rcases hstep r.fp r.lengthRemaining amt rd1 hb hamt hapi with
      ⟨h', e1⟩ | ⟨h', e1, henf, hlr⟩ | ⟨d, h', e1, hd, hlr, hb', hs⟩
    · rw [rawRead_form, hsrc, e1]
      exact .inl ⟨_, rfl, hdone r h'⟩
    · exact .inl ⟨_, rawRead_eof_owed S cfg r amt rd1 h' (hsrc.trans e1) hamt hapi henf hlr, hdone r _⟩
    · have ha : atEof amt rd1 r.lengthRemaining d = false := by simp [atEof, hd, hlr]
      have hop := (hopen _ _ hb').2
      rw [rawRead_form, hsrc, e1]
      dsimp only
      rw [ha, relIf_eq]
      refine .inr ⟨d, _, rfl, hd, hb', hs, rfl, ?_⟩
      simp [tally, hop]
  · obtain ⟨h', e1⟩ := hall _ _ hb
    rw [rawRead_form]
    simp only [srcRead, (hopen _ _ hb).1, e1, Bool.false_eq_true, if_false]
    exact ⟨_, rfl, hdone r h'⟩

end

section
variable {δ : Type} (cfg : Cfg δ)

/-- a non-chunked body that ends before its Content-Length: `l` bytes are owed, fewer are there
before the peer's FIN, and `length_remaining` is in step with `http.client` -/
structure LShort (h : H) (lr : Option Int) : Prop where
  head : h.head = false
  chunked : h.chunked = false
  closed : h.closed = false
  short : ∃ f l, h.fp = some f ∧ h.length = some l ∧ f.content.length < l ∧ lr = some (l : Int)

theorem LShort.opened {h : H} {lr : Option Int} (hs : LShort h lr) : hSrc.isclosed h = false := by
  obtain ⟨f, _, hf, _⟩ := hs.short
  simp [hSrc, H.isclosed, hf]

/-- `read(a)` / `read1(n)` of `http.client` with `l` bytes owed and fewer there: the piece `d` the
`BufferedReader` hands over, be it empty (the connection is closed: end of the stream) or not -/
theorem hRead_short (h : H) (f : Fp) (l : Nat) (hh : h.head = false) (hc : h.chunked = false)
    (hf : h.fp = some f) (hl : h.length = some l) (hlen : f.content.length < l)
    (amt : Option Nat) (rd1 : Bool) (hamt : amt ≠ some 0) (hapi : rd1 = true ∨ amt ≠ none) :
    ∃ d f', d ++ f'.content = f.content ∧ (if rd1 then hRead1 h amt else hRead h amt) =
      if d.isEmpty then (.ok d, ({ h with fp := some f' } : H).closeConn)
      else (.ok d, { h with fp := some f', length := some (l - d.length) }) := by
  -- the amount asked of the BufferedReader
  obtain ⟨m, hm0, hm⟩ : ∃ m, 0 < m ∧ m = match amt with | none => l | some a => if a > l then l else a := by
    cases amt with
    | none => exact ⟨l, by omega, rfl⟩
    | some a =>
      have : a ≠ 0 := fun h0 => hamt (by rw [h0])
      exact ⟨if a > l then l else a, by split <;> omega, rfl⟩
  have hm' : m ≠ 0 := by omega
  cases rd1 with
  | false =>
    obtain ⟨a, rfl⟩ : ∃ a, amt = some a := by
      cases amt with
      | none => exact absurd rfl (hapi.resolve_left (by simp))
      | some a => exact ⟨a, rfl⟩
    dsimp only at hm
    obtain ⟨s1, s2, _⟩ := fpRead_spec f m
    have hd : (fpRead f m).1 ++ (fpRead f m).2.content = f.content := by rw [s1, s2, List.take_append_drop]
    have hdl := congrArg List.length hd
    rw [List.length_append] at hdl
    refine ⟨_, _, hd, ?_⟩
    unfold hRead
    simp only [hf, hh, hc, hl, ← hm, Bool.false_eq_true, if_false]
    by_cases he : (fpRead f m).1.isEmpty = true
    · simp [he, hm']
    · have : ¬ (l - (fpRead f m).1.length = 0) := by omega
      simp [he, this]
  | true =>
    obtain ⟨d, hd1, hd2, _⟩ := fpRead1_spec f m
    refine ⟨_, _, hd1 ▸ hd2, ?_⟩
    unfold hRead1
    simp only [hf, hh, hc, hl, Bool.false_eq_true, if_false, if_true]
    cases amt with
    | none =>
      subst hm
      simp [hm']
    | some a =>
      dsimp only at hm ⊢
      by_cases hal : a > l
      · rw [if_pos hal] at hm
        subst hm
        simp [hal, hm']
      · rw [if_neg hal] at hm
        subst hm
        simp [hal, hm']

/-- **`http.client` on a body short of its Content-Length obeys the broken-source contract**
(with `enforce_content_length`, the default) -/
theorem hSrc_rawBroken_short (henf : cfg.enforce = true) : RawBrokenSpec (δ := δ) hSrc cfg LShort H.avail := by
  refine rawBrokenSpec_of_src hSrc cfg hSrc_close_isclosed (fun h lr hs => ⟨hs.closed, hs.opened⟩)
    (fun h lr amt rd1 hs hamt hapi => .inr ?_) (fun h lr hs => ?_)
  · obtain ⟨f, l, hf, hl, hlen, hlr⟩ := hs.short
    obtain ⟨d, f', hd, e⟩ := hRead_short h f l hs.head hs.chunked hf hl hlen amt rd1 hamt hapi
    have hdl := congrArg List.length hd
    rw [List.length_append] at hdl
    subst hlr
    by_cases hde : d = []
    · subst hde
      exact .inl ⟨_, e, henf, by simp, by simp; omega⟩
    · have hpos := List.length_pos_iff.mpr hde
      rw [if_neg (show ¬ d.isEmpty = true by simpa using hde)] at e
      refine .inr ⟨d, _, e, hde, by simp; omega,
        ⟨hs.head, hs.chunked, hs.closed, f', l - d.length, rfl, rfl, by omega, ?_⟩, ?_⟩
      · simp only [Option.map_some, Option.some.injEq]
        omega
      · simp only [H.avail, hf]
        omega
  · obtain ⟨f, l, hf, hl, hlen, _⟩ := hs.short
    exact ⟨_, Prod.ext (hRead_length_short h f l hf hs.head hs.chunked hl hlen).1 rfl⟩

/-- a chunked body the lenient reference reader finds incomplete / unparseable, as `_raw_read`
sees it (`length_remaining` of a chunked response is `None`) -/
structure CBroken (h : H) (lr : Option Int) : Prop where
  head : h.head = false
  chunked : h.chunked = true
  closed : h.closed = false
  broken : ∃ f, h.fp = some f ∧ Broken h.chunkLeft f.content
  lr : lr = none

theorem CBroken.opened {h : H} {lr : Option Int} (hs : CBroken h lr) : hSrc.isclosed h = false := by
  obtain ⟨f, hf, _⟩ := hs.broken
  simp [hSrc, H.isclosed, hf]

theorem CBroken.ref {h : H} {lr : Option Int} (hs : CBroken h lr) :
    ∃ f p, h.fp = some f ∧ Ref h.chunkLeft f.content p false :=
  let ⟨f, hf, hb⟩ := hs.broken
  let ⟨p, hp⟩ := Ref.of_broken hb
  ⟨f, p, hf, hp⟩

theorem CBroken.moved {h : H} {lr : Option Int} (hs : CBroken h lr) {f : Fp} {p : Bytes} {k : Nat}
    {x : Except HErr Bytes × H} (hf : h.fp = some f) (hk : 0 < k) (hm : Moved h f p false [] k x) :
    ∃ d h', x = (.ok d, h') ∧ d ≠ [] ∧ lr ≠ some (d.length : Int) ∧
      CBroken h' (lr.map (· - (d.length : Int))) ∧ H.avail h' < H.avail h := by
  obtain ⟨hkp, f', cl', rfl, hr, hl⟩ := hm
  cases hs.lr
  exact ⟨_, _, rfl, List.ne_nil_of_length_pos (by rw [List.nil_append, List.length_take]; omega), nofun,
    ⟨hs.head, hs.chunked, hs.closed, ⟨f', rfl, hr.sound.2 rfl⟩, rfl⟩, by simp only [H.avail, hf]; omega⟩

theorem hRead_broken_none (h : H) (f : Fp) (hf : h.fp = some f) (hh : h.head = false)
    (hc : h.chunked = true) (hb : Broken h.chunkLeft f.content) :
    ∃ h', hRead h none = (.error .incompleteRead, h') := by
  obtain ⟨p, hr⟩ := Ref.of_broken hb
  rcases hRead_ref h f none nofun hf hh hc hr with ⟨_, e⟩ | ⟨hv, _⟩ | ⟨a, ha, _⟩
  · exact e
  · cases hv
  · cases ha

/-- **`http.client`'s chunk reader on a broken chunked body obeys the broken-source contract** -/
theorem hSrc_rawBroken_chunked : RawBrokenSpec (δ := δ) hSrc cfg CBroken H.avail := by
  refine rawBrokenSpec_of_src hSrc cfg hSrc_close_isclosed (fun h lr hs => ⟨hs.closed, hs.opened⟩)
    (fun h lr amt rd1 hs hamt hapi => ?_) (fun h lr hs => ?_)
  · obtain ⟨f, p, hf, hr⟩ := hs.ref
    cases rd1 with
    | true =>
      rcases hRead1_ref h f amt hamt hf hs.head hs.chunked hr with ⟨_, e⟩ | ⟨hv, _⟩ | ⟨k, hk, _, hm⟩
      · exact .inl e
      · cases hv
      · exact .inr (.inr (hs.moved hf hk hm))
    | false =>
      rcases hRead_ref h f amt hamt hf hs.head hs.chunked hr with ⟨_, e⟩ | ⟨hv, _⟩ | ⟨a, rfl, hm⟩
      · exact .inl e
      · cases hv
      · exact .inr (.inr (hs.moved hf (pos_of_some_ne_zero hamt) hm))
  · obtain ⟨f, hf, hb⟩ := hs.broken
    exact hRead_broken_none h f hf hs.head hs.chunked hb

variable (D : Dec δ)

/-- the verdict `Broken` over urllib3's own bookkeeping (`self.chunk_left`): `none` = at a size line,
`some (k+1)` = inside a chunk; `some 0` = the last-chunk line has been seen (never a broken state) -/
def BrokenU (cl : Option Nat) (c : Bytes) : Prop :=
  match cl with
  | none => Broken none c
  | some 0 => False
  | some (k + 1) => Broken (some (k + 1)) c

theorem BrokenU.ref {cl : Option Nat} {c : Bytes} (h : BrokenU cl c) : cl ≠ some 0 ∧ ∃ p, Ref cl c p false := by
  rcases cl with _ | _ | k
  · exact ⟨nofun, Ref.of_broken h⟩
  · exact h.elim
  · exact ⟨nofun, Ref.of_broken h⟩

/-- **the chunk loop of `read_chunked` on a broken body never ends normally** — whatever the amount,
the decoder and the segmentation, it ends in an exception (the model's `fuel` where it does not end:
`amt = 0` spins) — and does not touch `_connection` -/
theorem rcLoop_broken (amt : Option Nat) (dc : Bool) :
    ∀ (fuel : Nat) (r : R H δ) (f : Fp) (p : Bytes) (acc : List Bytes),
      r.fp.fp = some f → r.chunkLeft ≠ some 0 → Ref r.chunkLeft f.content p false →
      ∃ ps e r', rcLoop hSrc D amt dc fuel r acc = ((ps, .error e), r') ∧ r'.conn = r.conn := by
  intro fuel
  induction fuel with
  | zero =>
    intro r f p acc _ _ _
    exact ⟨acc, _, r, rfl, rfl⟩
  | succ k ih =>
    intro r f p acc hf hcl hp
    unfold rcLoop
    rcases updateChunkLength_ref r f hf hcl hp with ⟨_, e, r1, e1, c1⟩ | ⟨hv, _⟩ | ⟨n, f1, e1, hp1, _⟩
    · rw [e1]
      exact ⟨acc, e, r1, rfl, c1⟩
    · cases hv
    · rw [e1]
      dsimp only
      rw [if_neg (by simp [R.at])]
      rcases handleChunk_ref (r.at f1 (some (n + 1))) f1 n amt rfl rfl hp1 with
        ⟨_, e, r2, g1, c2⟩ | ⟨kk, f2, cl2, e2, _, _, hp2, hcl2, _⟩
      · rw [g1]
        exact ⟨acc, e, r2, rfl, c2⟩
      · rw [e2]
        obtain ⟨res, od, hd, hdec, _⟩ := decode_cases D ((r.at f1 (some (n + 1))).at f2 cl2) (p.take kk) dc false
        dsimp only
        rw [hdec]
        cases res with
        | error e => exact ⟨acc, _, _, rfl, rfl⟩
        | ok dd => exact ih _ f2 _ _ rfl hcl2 hp2

/-- **`read_chunked(amt)` on a broken chunked response ends in an exception** (urllib3's own chunk
parser; any amount, any decoder, decoding on or off; so do `stream(amt)` and iteration, which run it),
and — the whole loop runs inside `_error_catcher` — the connection the response held is closed and
handed back -/
theorem readChunked_broken (hch : cfg.chunked = true) (hhd : cfg.head = false) (amt : Option Nat)
    (r : R H δ) (f : Fp) (hf : r.fp.fp = some f) (hb : BrokenU r.chunkLeft f.content) (dc : Bool) :
    (∃ e, (readChunked hSrc D cfg r amt dc).1.2 = some e) ∧
    (r.conn = true → ConnDone (readChunked hSrc D cfg r amt dc).2) := by
  obtain ⟨hcl, p, hr⟩ := hb.ref
  have hi := initDec_eq cfg r
  obtain ⟨ps, e, r', hrc, hconn⟩ := rcLoop_broken D amt dc cfg.fuel (initDec cfg r) f p []
    (by rw [hi]; exact hf) (by rw [hi]; exact hcl) (by rw [hi]; exact hr)
  have hopen : hSrc.isclosed (initDec cfg r).fp = false := by
    rw [hi]
    simp [hSrc, H.isclosed, hf]
  unfold readChunked
  simp only [hch, hhd, hopen, hrc, Bool.not_true, Bool.false_eq_true, if_false]
  exact ⟨⟨_, rfl⟩, fun hc => (caught_done hSrc hSrc_close_isclosed r' (hconn.trans (by rw [hi]; exact hc))).1⟩

end
end U3.Resp
