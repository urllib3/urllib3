import U3.Lemmas.RespRead1
/-! `drain_conn()` = `try: self.read() except (HTTPError, OSError, BaseSSLError, HTTPException): pass`.

* the connection bookkeeping of `read()`: only `_raw_read` (through `_error_catcher`) touches the
  file and the connection; an exception out of `_raw_read` leaves the connection closed and handed
  back closed, a normal return leaves `connClosed` alone and releases once the file is closed;
* `drain_conn()` on a well-framed body: returns, leaves nothing to read, the file closed, the
  connection released and not closed by the response. -/
namespace U3.Resp
open U3

section
variable {σ δ : Type} (S : Src σ) (D : Dec δ) (cfg : Cfg δ)

/-- the connection has been closed and handed back (closed) to the pool -/
def ConnDone (r : R σ δ) : Prop := r.connClosed = true ∧ r.released = true ∧ r.conn = false

theorem caught_done (hclose : ∀ h, S.isclosed (S.close h) = true) (r : R σ δ) (hconn : r.conn = true) :
    ConnDone (caught S r) ∧ S.isclosed (caught S r).fp = true := by
  unfold caught
  rw [relIf_eq]
  simp [ConnDone, hclose, hconn]

theorem read_none_error (r : R σ δ) (dco : Option Bool) (cache : Bool) (e : Exc) (r1 : R σ δ)
    (h : rawRead S cfg (initDec cfg r) none false = (.error e, r1)) :
    read S D cfg r none dco cache = (.error e, r1) := by
  unfold read
  simp only [h]

/-- after a normal return of `_raw_read()`, the rest of `read()` (decoding, flushing, the decoded
buffer, the cache) touches neither the file nor the connection -/
theorem read_none_ok (r : R σ δ) (dco : Option Bool) (cache : Bool) (d : Bytes) (r1 : R σ δ)
    (h : rawRead S cfg (initDec cfg r) none false = (.ok d, r1)) :
    ∃ res od hd q b, read S D cfg r none dco cache =
      (res, { r1 with decoder := od, hasDecoded := hd, buf := q, body := b }) := by
  unfold read
  simp only [h]
  split
  · exact ⟨_, r1.decoder, r1.hasDecoded, r1.buf, r1.body, rfl⟩
  · obtain ⟨res, od, hd, hdec, _⟩ := decode_cases D r1 d (dco.getD cfg.decodeDefault)
      (Option.isNone (none : Option Nat) || (decide ((none : Option Nat) ≠ some 0) && d.isEmpty))
    rw [hdec]
    cases res with
    | error e => exact ⟨_, od, hd, r1.buf, r1.body, rfl⟩
    | ok out =>
      dsimp only
      unfold prependBuffered
      split <;> cases cache <;> exact ⟨_, od, hd, _, _, rfl⟩

theorem rawRead_ok_conn (r : R σ δ) (amt : Option Nat) (rd1 : Bool) (d : Bytes) (r' : R σ δ)
    (h : rawRead S cfg r amt rd1 = (.ok d, r')) :
    r'.connClosed = r.connClosed ∧
    (S.isclosed r'.fp = true → r.conn = true → r'.released = true ∧ r'.conn = false) ∧
    (S.isclosed r'.fp = false → r'.conn = r.conn) := by
  rw [rawRead_form] at h
  generalize srcRead S r amt rd1 = x at h
  obtain ⟨_ | d0, fp0⟩ := x
  · cases h
  · dsimp only at h
    generalize (if atEof amt rd1 r.lengthRemaining d0 = true then S.close fp0 else fp0) = fp at h
    split at h
    · cases h
    · cases h
      rw [relIf_eq]
      refine ⟨rfl, fun hc hconn => ?_, fun hc => ?_⟩
      · change S.isclosed fp = true at hc
        simp [tally, hc, hconn]
      · change S.isclosed fp = false at hc
        simp [tally, hc]

theorem read_none_ok_conn (r : R σ δ) (dco : Option Bool) (cache : Bool) (out : Bytes) (r' : R σ δ)
    (h : read S D cfg r none dco cache = (.ok out, r')) :
    r'.connClosed = r.connClosed ∧
    (S.isclosed r'.fp = true → r.conn = true → r'.released = true ∧ r'.conn = false) := by
  generalize hx : rawRead S cfg (initDec cfg r) none false = x
  obtain ⟨res, r1⟩ := x
  cases res with
  | error e =>
    rw [read_none_error S D cfg r dco cache e r1 hx] at h
    cases h
  | ok d =>
    obtain ⟨k1, k2, _⟩ := rawRead_ok_conn S cfg _ none false d r1 hx
    obtain ⟨res, od, hd, q, b, h2⟩ := read_none_ok S D cfg r dco cache d r1 hx
    rw [h2] at h
    obtain ⟨_, rfl⟩ := Prod.mk.inj h
    rw [initDec_eq] at k1 k2
    exact ⟨k1, k2⟩

theorem drainConn_of_read_ok (r : R σ δ) (out : Bytes) (r' : R σ δ)
    (h : read S D cfg r none none = (.ok out, r')) : drainConn S D cfg r = (.ok (), r') := by
  unfold drainConn
  rw [h]

/-- the file raising inside `_raw_read()`: `read()` raises what `_error_catcher` makes of the
exception, `drain_conn()` swallows it if that is an `HTTPError`, and in any case the file is closed
and the connection is closed and handed back closed — never released open -/
theorem read_none_src_error (hclose : ∀ h, S.isclosed (S.close h) = true) (r : R σ δ) (e : HErr) (fp' : σ)
    (hcl : S.closed r.fp = false) (h : S.read r.fp none = (.error e, fp')) (hconn : r.conn = true) :
    ∃ r1, ConnDone r1 ∧ S.isclosed r1.fp = true ∧
      (∀ dco cache, read S D cfg r none dco cache = (.error (mapExc (.h e)), r1)) ∧
      drainConn S D cfg r =
        (if drainSwallows (mapExc (.h e)) then .ok () else .error (mapExc (.h e)), r1) := by
  have hr : rawRead S cfg (initDec cfg r) none false =
      (.error (mapExc (.h e)), caught S { initDec cfg r with fp := fp' }) := by
    rw [rawRead_form]
    simp only [srcRead, initDec_eq, hcl, h, Bool.false_eq_true, if_false]
  have hread := fun dco cache => read_none_error S D cfg r dco cache _ _ hr
  obtain ⟨c1, c2⟩ := caught_done S hclose { initDec cfg r with fp := fp' } (by rw [initDec_eq]; exact hconn)
  refine ⟨_, c1, c2, hread, ?_⟩
  unfold drainConn
  rw [hread none false]
  dsimp only
  split <;> rfl

variable {G : δ → Bytes → Bytes → Prop}

/-- `drain_conn()` on a well-framed body (decoding on by default): it returns and leaves the
response at its end (`Inv … []`: every later read returns b"") -/
theorem drainConn_spec {rem : σ → Bytes} {I : σ → Option Int → Prop}
    (hA : RawReadAllSpec S cfg rem I) (hD : StreamLaw D G)
    (hdef : cfg.decodeDefault = true) (r : R σ δ) (rest : Bytes) (hinv : Inv cfg rem I G r rest) :
    ∃ r', drainConn S D cfg r = (.ok (), r') ∧ Inv cfg rem I G r' [] ∧ rem r'.fp = [] := by
  obtain ⟨r', h1, hinv', hrem, _⟩ := read_all_spec S D cfg hA hD r rest none false (by simpa using hdef) hinv
  exact ⟨r', drainConn_of_read_ok S D cfg r _ r' h1, hinv', hrem⟩

/-- … and under the closing law the file is closed, the response has not closed the connection
and — if it still held it — has released it -/
theorem drainConn_complete {rem : σ → Bytes} {I : σ → Option Int → Prop}
    (hA : RawReadAllSpec S cfg rem I) (hD : StreamLaw D G) (hCA : ClosesAll S cfg I)
    (hdef : cfg.decodeDefault = true) (r : R σ δ) (rest : Bytes) (hinv : Inv cfg rem I G r rest) :
    ∃ r', drainConn S D cfg r = (.ok (), r') ∧ S.isclosed r'.fp = true ∧ r'.connClosed = r.connClosed ∧
      (r.conn = true → r'.released = true ∧ r'.conn = false) := by
  obtain ⟨r', h1, _, _, _, hcl⟩ := read_all_spec S D cfg hA hD r rest none false (by simpa using hdef) hinv
  obtain ⟨k1, k2⟩ := read_none_ok_conn S D cfg r none false rest r' h1
  exact ⟨r', drainConn_of_read_ok S D cfg r _ r' h1, hcl hCA, k1, k2 (hcl hCA)⟩

/-- the same when the response default is `decode_content=False` (nothing decoded so far) -/
theorem drainConn_spec_raw {rem : σ → Bytes} {I : σ → Option Int → Prop}
    (hA : RawReadAllSpec S cfg rem I)
    (hdef : cfg.decodeDefault = false) (r : R σ δ) (raw : Bytes) (hinv : RawInv rem I r raw) :
    ∃ r', drainConn S D cfg r = (.ok (), r') ∧ RawInv rem I r' [] := by
  obtain ⟨r', h1, hinv', _⟩ := read_raw_none S D cfg hA none (by simpa using hdef) r raw hinv
  exact ⟨r', drainConn_of_read_ok S D cfg r _ r' h1, hinv'⟩

theorem drainConn_complete_raw {rem : σ → Bytes} {I : σ → Option Int → Prop}
    (hA : RawReadAllSpec S cfg rem I) (hCA : ClosesAll S cfg I)
    (hdef : cfg.decodeDefault = false) (r : R σ δ) (raw : Bytes) (hinv : RawInv rem I r raw) :
    ∃ r', drainConn S D cfg r = (.ok (), r') ∧ S.isclosed r'.fp = true ∧ r'.connClosed = r.connClosed ∧
      (r.conn = true → r'.released = true ∧ r'.conn = false) := by
  obtain ⟨r', h1, _, hcl⟩ := read_raw_none S D cfg hA none (by simpa using hdef) r raw hinv
  obtain ⟨k1, k2⟩ := read_none_ok_conn S D cfg r none false raw r' h1
  exact ⟨r', drainConn_of_read_ok S D cfg r _ r' h1, hcl hCA, k1, k2 (hcl hCA)⟩

end

theorem hSrc_close_isclosed (h : H) : hSrc.isclosed (hSrc.close h) = true := rfl

end U3.Resp
