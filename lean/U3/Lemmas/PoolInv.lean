import U3.Model.Pool
import U3.Lemmas.Pool
import U3.Lemmas.PoolProv
import U3.Lemmas.PoolExc
/-!
# The slot invariant is an invariant of every history (C01)

`run_inv`: `InvL` (`U3/Lemmas/Pool.lean`) is kept by `request`, by every way of disposing of a response and by `closePool`.
Every function of the read family is exhibited as `Pres` (it keeps `InvL` and is `Mono`: no response starts holding a
connection; `Keep X` excepts the responses in `X`); the three moves that change who owns a connection are handled
one by one: `_get_conn` (`getConn_inv`, in `Pool.lean`: queue → lease), attaching the connection to the response
(`attachResp_spec`: lease → held, or lease kept), `release_conn` (`releaseConn_inv`: held → queue).  What `urlopen`'s
`except` clauses hand to the caller is read off the generated table (`U3.Props.raisable`, `handled_table`).  Of the
responses a `urlopen` call creates only the one it returns may hold a connection afterwards (`request_good`): an
intermediate response is drained before anything else that can fail, and a drain, successful or not, gives the
connection back (`drainConn_unholds`).

To carry another invariant through the model: a history by `run_closure`, `pool.close()` by `closePool_closure`, what the
caller does with a response by `dispose_closure` / `respStream_closure` (`Pool.lean`); one `urlopen` invocation by the rules
`request_early` / `_unclean` / `_clean` with one's own `Q`, `getresponse()` by `GetResp`, `_make_request` and `_raw_read` along
`makeRequest_eq` / `rawRead_eq` (`PoolCases`); the closers and the pool's traffic by an instance of `Closing` / `Pooling`;
the reader below `_raw_read` by an instance of `RFrame` (`httpRead_frame`) and the `Dirty` conclusions of the chunk parsers.
Walked for each invariant, as here: the read family from `rawRead` to `readChunked`, and `connRequestH`.
-/
namespace U3.Pool

/-- `response._connection = …`: the connection the response gives up joins the leases, the one it gets leaves them;
`InvL` only looks at the owned connections up to permutation -/
theorem setResp_inv {s : State} {L L' : List Nat} {r : Nat} {rs : Resp} (g : Resp → Resp) (hr : s.resps[r]? = some rs)
    (hp : (L' ++ (g rs).conn.toList).Perm (L ++ rs.conn.toList)) (h : InvL s L) : InvL (setResp s r g) L' := by
  have hh : (held (setResp s r g) ++ rs.conn.toList).Perm (held s ++ (g rs).conn.toList) :=
    filterMap_modify_perm (fun x : Resp => x.conn) g s.resps r rs hr
  have hp' : (L' ++ held (setResp s r g)).Perm (L ++ held s) := by
    rw [List.perm_iff_count] at hh hp ⊢
    intro x
    have h1 := hh x
    have h2 := hp x
    simp only [List.count_append] at h1 h2 ⊢
    omega
  exact h.transfer [] [] rfl rfl id h.closedq h.len (.inl (congrArg (s.queue.length + ·) (by simpa using hp'.length_eq)))
    (hp'.append_left _) ⟨.nil, nofun⟩ (fun _ hd => nomatch hd) h.live (Nat.le_refl _)

theorem unhold_inv {s : State} {L : List Nat} {r c : Nat} {rs : Resp} (h : InvL s L) (hr : s.resps[r]? = some rs)
    (hc : rs.conn = some c) : InvL (setResp s r fun x => { x with conn := none }) (c :: L) :=
  setResp_inv _ hr (by simpa [hc] using (List.perm_append_singleton c L).symm) h

/-- no response of `s'` holds a connection it did not hold in `s`; no response or connection object
is dropped -/
structure Mono (s s' : State) : Prop where
  conn : ∀ (r : Nat) (rs' : Resp), s'.resps[r]? = some rs' → rs'.conn ≠ none → ∃ rs : Resp, s.resps[r]? = some rs ∧ rs.conn = rs'.conn
  rlen : s.resps.length ≤ s'.resps.length
  clen : s.conns.length ≤ s'.conns.length
  msz : s'.maxsize = s.maxsize
  blk : s'.block = s.block

/-- apart from the responses with an index in `X`, no response of `s'` holds a connection it did not hold in `s`; no
response is dropped; the pool's configuration is never written.  `X` is the response a `urlopen` call hands out
(`(R = some ·)`: `HoldOnly R`; nobody, `(none = some ·)`, when the call raised), or the responses that did not exist
yet (`(n ≤ ·)`); for `Mono` it is empty -/
structure Keep (X : Nat → Prop) (s s' : State) : Prop where
  old : ∀ (r : Nat) (rs' : Resp), s'.resps[r]? = some rs' → rs'.conn ≠ none →
    X r ∨ ∃ rs : Resp, s.resps[r]? = some rs ∧ rs.conn = rs'.conn
  rlen : s.resps.length ≤ s'.resps.length
  msz : s'.maxsize = s.maxsize
  blk : s'.block = s.block

theorem Mono.keep {s s' : State} (a : Mono s s') (X : Nat → Prop) : Keep X s s' :=
  ⟨fun r rs' h hn => .inr (a.conn r rs' h hn), a.rlen, a.msz, a.blk⟩

theorem Keep.trans {X : Nat → Prop} {s t u : State} (a : Keep X s t) (b : Keep X t u) : Keep X s u := by
  refine ⟨fun r rs' h hn => ?_, Nat.le_trans a.rlen b.rlen, by rw [b.msz, a.msz], by rw [b.blk, a.blk]⟩
  rcases b.old r rs' h hn with q | ⟨rt, h1, e1⟩
  · exact .inl q
  · rcases a.old r rt h1 (e1 ▸ hn) with q | ⟨rs, h0, e0⟩
    · exact .inl q
    · exact .inr ⟨rs, h0, e0.trans e1⟩

theorem Keep.mono {X Y : Nat → Prop} {s s' : State} (a : Keep X s s') (h : ∀ r, X r → Y r) : Keep Y s s' :=
  ⟨fun r rs' g hn => (a.old r rs' g hn).imp_left (h r), a.rlen, a.msz, a.blk⟩

/-- `r._connection is None`: what `release_conn()`, a drain and a read to the end leave behind -/
def Unheld (s : State) (r : Nat) : Prop := ∀ rs : Resp, s.resps[r]? = some rs → rs.conn = none

/-- the response that was exempted holds nothing after all -/
theorem Keep.drop {r0 : Nat} {s t : State} (a : Keep (some r0 = some ·) s t) (hu : Unheld t r0) :
    Keep (none = some ·) s t := by
  refine ⟨fun r rs' h hn => ?_, a.rlen, a.msz, a.blk⟩
  rcases a.old r rs' h hn with q | q
  · cases q
    exact absurd (hu rs' h) hn
  · exact Or.inr q

theorem setResp_keep (s : State) (r : Nat) (g : Resp → Resp) : Keep (some r = some ·) s (setResp s r g) := by
  refine ⟨fun i rs' h _ => ?_, by simp [setResp], rfl, rfl⟩
  obtain ⟨x, hx, rfl⟩ := modify_some h
  by_cases hi : r = i
  · exact .inl (hi ▸ rfl)
  · exact .inr ⟨x, hx, by rw [if_neg hi]⟩

theorem Mono.refl (s : State) : Mono s s := ⟨fun _ rs' h _ => ⟨rs', h, rfl⟩, Nat.le_refl _, Nat.le_refl _, rfl, rfl⟩

theorem Keep.refl (X : Nat → Prop) (s : State) : Keep X s s := (Mono.refl s).keep X

theorem Mono.trans {s t u : State} (a : Mono s t) (b : Mono t u) : Mono s u :=
  ⟨fun r rs' h hn => (((a.keep fun _ => False).trans (b.keep _)).old r rs' h hn).resolve_left id,
    Nat.le_trans a.rlen b.rlen, Nat.le_trans a.clen b.clen, by rw [b.msz, a.msz], by rw [b.blk, a.blk]⟩

theorem Mono.of_eq {s s' : State} (hr : s'.resps = s.resps) (hc : s.conns.length ≤ s'.conns.length := by exact Nat.le_refl _)
    (hm : s'.maxsize = s.maxsize := by rfl) (hb : s'.block = s.block := by rfl) : Mono s s' :=
  ⟨fun r rs' h _ => ⟨rs', by rw [← hr]; exact h, rfl⟩, by rw [hr]; exact Nat.le_refl _, hc, hm, hb⟩

theorem setResp_mono (s : State) (r : Nat) (f : Resp → Resp) (hf : ∀ x, (f x).conn = x.conn ∨ (f x).conn = none) :
    Mono s (setResp s r f) := by
  refine ⟨?_, by simp [setResp], by simp [setResp], rfl, rfl⟩
  intro i rs' h hn
  obtain ⟨x, hx, rfl⟩ := modify_some h
  refine ⟨x, hx, ?_⟩
  split
  · rename_i hri
    rw [if_pos hri] at hn
    exact ((hf x).resolve_right hn).symm
  · rfl

theorem Mono.of_step {C : List Nat} {s s' : State} (st : Step C s s') : Mono s s' := by
  cases st with
  | frame h1 h2 h4 h5 h6 h7 => exact .of_eq h7 (by rw [h6]; exact Nat.le_refl _) h1 h2
  | resp r f hf => exact setResp_mono s r f fun x => .inl (hf x)
  | conn c f hf => exact .of_eq rfl (by simp [setConn])
  | opn c f hc => exact .of_eq rfl (by simp [setConn])
  | newResp x hx =>
    refine ⟨?_, by simp, Nat.le_refl _, rfl, rfl⟩
    intro r rs' h hn
    rcases append_one_some (l := s.resps) h with h' | ⟨_, rfl⟩
    · exact ⟨rs', h', rfl⟩
    · exact absurd hx hn

theorem Mono.of_steps {C : List Nat} {s s' : State} (st : Steps C s s') : Mono s s' := by
  induction st with
  | refl => exact Mono.refl _
  | cons a _ ih => exact (Mono.of_step a).trans ih

theorem Mono.fresh {s s' : State} {r : Nat} (m : Mono s s') (h1 : s.resps.length ≤ r) (h2 : r < s'.resps.length) :
    ∃ rs : Resp, s'.resps[r]? = some rs ∧ rs.conn = none := by
  refine ⟨_, List.getElem?_eq_getElem h2, Decidable.byContradiction fun hq => ?_⟩
  obtain ⟨rs0, g1, _⟩ := m.conn r _ (List.getElem?_eq_getElem h2) hq
  have := getElem?_lt g1
  omega

/-- `s'` is reached from `s` by moves that keep `InvL · L` for every lease list `L ⊇ C`, never make a
response hold a connection it did not hold before, and never drop a response or a connection object -/
structure Pres (C : List Nat) (s s' : State) : Prop where
  inv : ∀ L, (∀ c ∈ C, c ∈ L) → InvL s L → InvL s' L
  mono : Mono s s'

theorem Pres.refl (C : List Nat) (s : State) : Pres C s s := ⟨fun _ _ h => h, Mono.refl s⟩

theorem Pres.trans {C : List Nat} {s t u : State} (a : Pres C s t) (b : Pres C t u) : Pres C s u :=
  ⟨fun L hC h => b.inv L hC (a.inv L hC h), a.mono.trans b.mono⟩

theorem Pres.of_steps {C : List Nat} {s s' : State} (st : Steps C s s') : Pres C s s' :=
  ⟨fun _ hC h => steps_inv hC st h, Mono.of_steps st⟩

theorem Pres.of_step {C : List Nat} {s s' : State} (st : Step C s s') : Pres C s s' := Pres.of_steps (.one st)

theorem Pres.mono' {C D : List Nat} {s s' : State} (h : Pres C s s') (hCD : ∀ c ∈ C, c ∈ D) : Pres D s s' :=
  ⟨fun L hD hi => h.inv L (fun c hc => hD c (hCD c hc)) hi, h.mono⟩

/-- apart from response `R`, no response of `s'` holds a connection it did not hold in `s` -/
def HoldOnly (R : Option Nat) (s s' : State) : Prop :=
  ∀ (r : Nat) (rs' : Resp), s'.resps[r]? = some rs' → rs'.conn ≠ none →
    R = some r ∨ ∃ rs : Resp, s.resps[r]? = some rs ∧ rs.conn = rs'.conn

theorem HoldOnly.weaken {R : Option Nat} {s t : State} (a : HoldOnly none s t) : HoldOnly R s t :=
  fun r rs' h hn => (a r rs' h hn).elim (fun q => by cases q) Or.inr

theorem HoldOnly.held_nil {s s' : State} (a : HoldOnly none s s') (hq : held s = []) : held s' = [] := by
  simp only [held, List.filterMap_eq_nil_iff] at hq ⊢
  intro rs hm
  obtain ⟨r, hr, rfl⟩ := List.mem_iff_getElem.mp hm
  refine Decidable.byContradiction fun hn => ?_
  obtain ⟨rs0, g0, e0⟩ := (a r _ (List.getElem?_eq_getElem hr) hn).resolve_left nofun
  exact hn (e0 ▸ hq rs0 (List.mem_of_getElem? g0))

theorem mono_pooling : Pooling Mono where
  refl := Mono.refl
  trans := Mono.trans
  log := fun _ _ => .of_eq rfl
  fp := fun s r => setResp_mono s r _ fun _ => .inl rfl
  conn := fun _ _ => .of_eq rfl (by simp [setConn])
  queue := fun _ _ _ => .of_eq rfl
  unhold := fun s r => setResp_mono s r _ fun _ => .inr rfl
  new := fun _ => .of_eq rfl (by simp [newConn])

/-- no response has come or gone, and each has kept its `_connection` and `_pool` attributes -/
structure SameHold (s s' : State) : Prop where
  len : s'.resps.length = s.resps.length
  same : ∀ (i : Nat) (rs' : Resp), s'.resps[i]? = some rs' →
    ∃ rs : Resp, s.resps[i]? = some rs ∧ rs'.conn = rs.conn ∧ rs'.hasPool = rs.hasPool

theorem SameHold.of_eq {s s' : State} (h : s'.resps = s.resps) : SameHold s s' :=
  ⟨by rw [h], fun _ rs' g => ⟨rs', h ▸ g, rfl, rfl⟩⟩

theorem sameHold_closing : Closing SameHold where
  refl := fun _ => .of_eq rfl
  trans := fun a b => ⟨b.len.trans a.len, fun i rs' h => by
    obtain ⟨rt, g1, e1, e2⟩ := b.same i rs' h
    obtain ⟨rs, g0, f1, f2⟩ := a.same i rt g1
    exact ⟨rs, g0, e1.trans f1, e2.trans f2⟩⟩
  log := fun _ _ => .of_eq rfl
  fp := fun s r => ⟨by simp [setResp], fun i rs' h => by
    obtain ⟨x, hx, rfl⟩ := modify_some h
    exact ⟨x, hx, by split <;> rfl, by split <;> rfl⟩⟩
  conn := fun _ _ => .of_eq rfl

theorem SameHold.at {s s' : State} (a : SameHold s s') {r : Nat} {rs : Resp} (h : s.resps[r]? = some rs) :
    ∃ rs', s'.resps[r]? = some rs' ∧ rs'.conn = rs.conn := by
  have h' := List.getElem?_eq_getElem (a.len ▸ getElem?_lt h)
  obtain ⟨rs0, g, e, _⟩ := a.same r _ h'
  exact ⟨_, h', by cases h.symm.trans g; exact e⟩

/-- `release_conn()` keeps the invariant, and its `_put_conn` never raises `FullPoolError`: a pool
that blocks is never full while a response still holds a connection -/
theorem releaseConn_inv {s : State} {L : List Nat} (r : Nat) (h : InvL s L) :
    InvL (releaseConn s r).1 L ∧ (releaseConn s r).2 = none := by
  rcases releaseConn_cases s r with ⟨e, _⟩ | ⟨rs, c, hrs, _, hc, q⟩
  · rw [e]; exact ⟨h, rfl⟩
  suffices hs : (putConn s (some c)).2 = none ∧ InvL (setResp (putConn s (some c)).1 r fun x => { x with conn := none }) L by
    obtain ⟨_, e⟩ := q.resolve_left fun ⟨e, he, _⟩ => by rw [hs.1] at he; cases he
    rw [e]; exact ⟨hs.2, rfl⟩
  have h0 : InvL (logEv s (.put (some c))) L := logEv_inv _ h
  have hr0 : (logEv s (.put (some c))).resps[r]? = some rs := hrs
  have cs := putConn_cases s (some c)
  dsimp only at cs
  generalize logEv s (.put (some c)) = t at h0 hr0 cs
  have hheld : 1 ≤ (held t).length := List.length_pos_of_mem (List.mem_filterMap.mpr ⟨rs, List.mem_of_getElem? hr0, hc⟩)
  have dropHold : ∀ u : State, InvL u L → (∃ rs', u.resps[r]? = some rs' ∧ rs'.conn = rs.conn) → NoRoom u →
      InvL (setResp (connClose u c) r fun x => { x with conn := none }) L := by
    intro u hu ⟨rs', hr', e'⟩ hq
    obtain ⟨rs2, g2, e2⟩ := (sameHold_closing.connClose u c).at hr'
    exact drop_lease (unhold_inv (connClose_inv c hu) g2 ((e2.trans e').trans hc))
      (connClose_sock_none u c) ((connClose_frame u c).noRoom hq)
  rcases cs with ⟨hcl, hf, e⟩ | ⟨hcl, hf, hb, e⟩ | ⟨hcl, hf, hb, e⟩ | ⟨hcl, e⟩ <;> rw [e]
  · have hl : t.queue.length < t.maxsize := by
      have := h0.pos
      simp [queueFull] at hf
      omega
    exact ⟨rfl, enqueue_inv (some c) (unhold_inv h0 hr0 hc) (Or.inl rfl) hcl hl⟩
  · have := h0.slotsB hcl hb
    simp [queueFull] at hf
    omega
  · have hfull : t.maxsize ≤ t.queue.length := by simp [queueFull] at hf; exact hf.2
    exact ⟨rfl, dropHold (connClose t c) (connClose_inv c h0) ((sameHold_closing.connClose t c).at hr0)
      ((connClose_frame t c).noRoom (Or.inr ⟨hfull, hb⟩))⟩
  · exact ⟨rfl, dropHold t h0 ⟨rs, hr0, rfl⟩ (Or.inl hcl)⟩

theorem releaseConn_unholds {s : State} {L : List Nat} (h : InvL s L) {r : Nat} {rs : Resp} (hr : s.resps[r]? = some rs)
    (hp : rs.hasPool = true) : Unheld (releaseConn s r).1 r := by
  have hno := (releaseConn_inv r h).2
  rcases releaseConn_cases s r with ⟨e, q⟩ | ⟨_, c, _, _, _, ⟨_, he, e⟩ | ⟨_, e⟩⟩ <;> rw [e] at hno ⊢ <;> intro rs' h'
  · cases hr.symm.trans h'
    exact (q rs hr).resolve_left (by rw [hp]; nofun)
  · rw [hno] at he
    cases he
  · obtain ⟨x, _, rfl⟩ := modify_some h'
    rw [if_pos rfl]

theorem releaseConn_pres (C : List Nat) (s : State) (r : Nat) : Pres C s (releaseConn s r).1 :=
  ⟨fun _ _ h => (releaseConn_inv r h).1, mono_pooling.releaseConn s r⟩

section
variable (C : List Nat)

theorem setResp_steps (s : State) (r : Nat) (f : Resp → Resp) (hf : ∀ x, (f x).conn = x.conn := by exact fun _ => rfl) :
    Steps C s (setResp s r f) := .one (.resp s r f hf)

theorem readHead_steps (r k fuel : Nat) (s : State) : Steps C s (readHead fuel s r k).1 :=
  let ⟨_, rel, _⟩ := readHead_rel fuel s r k _ _ rfl
  rel.toP.dirty.steps C

theorem Steps.ite {C : List Nat} {s a b : State} {c : Prop} [Decidable c] (ha : Steps C s a) (hb : Steps C s b) :
    Steps C s (if c then a else b) := by
  split <;> assumption

theorem httpRead_steps (s : State) (r : Nat) (amt : Option Nat) : Steps C s (httpRead s r amt).1 :=
  httpRead_frame (steps_rframe C r) s amt

theorem rawMid_steps (r : Nat) (amt : Option Nat) (s : State) (o : DataOut) : Steps C s (rawMid r amt s o).1 := by
  rcases rawMid_spec r amt s o with ⟨e, _⟩ | ⟨_, _, e | ⟨e, _⟩⟩ <;> rw [e]
  · exact .refl _
  · exact (steps_closing C).closeFp s r
  · exact (steps_closing C).closeFp s r

theorem pres_closing : Closing (Pres C) :=
  ⟨⟨Pres.refl C, Pres.trans⟩, fun s e => .of_steps (logEv_steps C s e), fun s r => .of_steps ((steps_closing C).fp s r),
    fun s c => .of_steps ((steps_closing C).conn s c)⟩

theorem catcherExit_pres (s : State) (r : Nat) (o : DataOut) : Pres C s (catcherExit s r o).1 :=
  (pres_closing C).catcherExit (releaseConn_pres C) s r o

theorem rawRead_pres (s : State) (r : Nat) (amt : Option Nat) : Pres C s (rawRead s r amt).1 := by
  rw [rawRead_eq]
  exact (Pres.of_steps ((httpRead_steps C s r amt).trans (rawMid_steps C r amt _ _))).trans (catcherExit_pres C _ r _)

theorem readAmt_pres (r n : Nat) : ∀ (fuel : Nat) (s : State) (acc : List Cell),
    Pres C s (readAmt fuel s r n acc).1
  | 0, s, _ => .refl C s
  | fuel + 1, s, acc => by
    have h1 := rawRead_pres C s r (some n)
    unfold readAmt
    split <;> rename_i h <;> rw [h] at h1
    · exact h1
    · split
      · exact h1
      · exact h1.trans (readAmt_pres r n fuel _ _)

theorem deliver_steps (s : State) (r : Nat) (d : List Cell) : Steps C s (deliver s r d) :=
  setResp_steps C s r _

theorem respRead_pres (s : State) (r : Nat) (amt : Option Nat) : Pres C s (respRead s r amt).1 := by
  have tail : ∀ q : State × DataOut, Pres C s q.1 → Pres C s (match q with
      | (s, DataOut.data d) => (deliver s r d, DataOut.data d)
      | (s, DataOut.exc e) => (s, DataOut.exc e)).1 := by
    intro ⟨t, o⟩ h1
    cases o with
    | data d => exact h1.trans (Pres.of_steps (deliver_steps C t r d))
    | exc e => exact h1
  cases amt with
  | none => exact tail _ (rawRead_pres C s r none)
  | some n => exact tail _ (readAmt_pres C r n (n + 1) s [])

theorem drainConn_pres (s : State) (r : Nat) : Pres C s (drainConn s r).1 :=
  drainConn_fst s r ▸ rawRead_pres C s r none

theorem updateChunkLength_steps (s : State) (r k : Nat) : Steps C s (updateChunkLength s r k).1 := by
  rcases h : updateChunkLength s r k with ⟨s', oe⟩
  obtain ⟨s1, d, rfl | ⟨_, rfl⟩⟩ := (updateChunkLength_spec h).1
  · exact d.steps C
  · exact (d.steps C).trans ((steps_closing C).respClose s1 r)

theorem chunkLoop_steps (r k amt : Nat) : ∀ (fuel : Nat) (s : State) (acc : List Cell),
    Steps C s (chunkLoop fuel s r k amt acc).1
  | 0, s, _ => .refl s
  | fuel + 1, s, acc => by
    have s0 := updateChunkLength_steps C s r k
    unfold chunkLoop
    split
    next h => rw [h] at s0; exact s0
    next s1 h =>
      rw [h] at s0
      split
      · exact s0
      · have st := s0.trans ((handleChunk_dirty s1 r k amt).steps C)
        split <;> rename_i h <;> rw [h] at st
        · exact st
        · exact (st.trans (deliver_steps C _ r _)).trans (chunkLoop_steps r k amt fuel _ _)

theorem readChunkedBody_steps (s : State) (r amt : Nat) : Steps C s (readChunkedBody s r amt).1 := by
  unfold readChunkedBody
  split
  · exact .refl _
  · split
    · exact (steps_closing C).closeFp s r
    · split
      · exact .refl _
      · rename_i k _
        dsimp only
        split
        next h => exact h ▸ chunkLoop_steps C r k amt _ s []
        next s1 _ h =>
          have s0 := h ▸ chunkLoop_steps C r k amt _ s []
          split <;> rename_i h <;> have st := s0.trans (h ▸ (skipTrailers_dirty r k _ s1).steps C)
          · exact st
          · exact st.trans ((steps_closing C).closeFp _ r)

theorem readChunked_pres (s : State) (r amt : Nat) : Pres C s (readChunked s r amt).1 :=
  (Pres.of_steps (readChunkedBody_steps C s r amt)).trans (catcherExit_pres C _ r _)

theorem dispose_pres (s : State) (rid : Nat) (how : How) : Pres C s (dispose s rid how).1 :=
  dispose_closure (pres_closing C).toPre rid how (respRead_pres C) (drainConn_pres C)
    (pres_closing C).respClose (fun s r k _ => readChunked_pres C s r k)
    (fun _ => releaseConn_pres C) s

end

/-- the connections of a closing pool's queue are leases that are given up one by one -/
theorem foldl_close_inv : ∀ (q : List (Option Nat)) (u : State), u.closed = true → InvL u (q.filterMap id) →
    Inv (q.foldl closeItem u)
  | [], _, _, h => h
  | none :: q, u, hc, h => foldl_close_inv q u hc h
  | some c :: q, u, hc, h =>
    have hc' : (connClose u c).closed = true := by rw [(connClose_frame u c).closed]; exact hc
    foldl_close_inv q (connClose u c) hc'
      (drop_lease (connClose_inv c h) (connClose_sock_none u c) (Or.inl hc'))

theorem closePool_inv {s : State} (h : Inv s) : Inv (closePool s) := by
  rw [closePool_eq]
  split
  · exact h
  · exact foldl_close_inv s.queue _ rfl (h.transfer [] [] rfl rfl (fun e => nomatch e) (fun _ => rfl) (Nat.zero_le _) (.inr (.inl rfl))
      (by simp [owned, queued, held]) ⟨.nil, nofun⟩ nofun h.live (Nat.le_refl _))

/-- `_raise_timeout` looks at the class only -/
def recvCls (c : Nat) : Nat := (translateRecv { cls := c }).cls

/-- classes `conn.request()` raises -/
def sendCls : List Nat :=
  [Gen.cCannotSendRequest, (translateNewConn Gen.cGaierror).cls, (translateNewConn Gen.cConnectionRefusedError).cls,
   (translateNewConn Gen.cTimeoutError).cls, (translateNewConn Gen.cKeyboardInterrupt).cls,
   Gen.cBrokenPipeError, Gen.cConnectionResetError, Gen.cOSError, Gen.cKeyboardInterrupt]

/-- every class that can leave `_make_request`, for a connection object that exists and headers that can be encoded -/
def mrCls : List Nat := sendCls ++ [Gen.cU3FullPoolError] ++ headCls.map recvCls ++ rawCls.map trCls

theorem forget_steps (C : List Nat) (s : State) (c : Nat) : Steps C s (forgetClosedPending s c) := by
  unfold forgetClosedPending
  split
  · exact .refl _
  · split
    · exact .refl _
    · split
      · exact .refl _
      · split
        · exact .one (.conn s c _ (fun _ => Or.inl rfl))
        · exact .refl _

theorem connect_moves {s : State} {c : Nat} (a : Attempt) (hc : c < s.conns.length) :
    Steps [c] s (connect s c a).1 ∧
    (∀ e, (connect s c a).2 = .error e → e.cls ∈ sendCls ∧ sendSwallowed e = false) ∧
    ∀ k, (connect s c a).2 = .ok k → ∃ cn : Conn, (connect s c a).1.conns[c]? = some cn ∧ cn.sock = some k := by
  have cls : ∀ x ∈ [Gen.cGaierror, Gen.cConnectionRefusedError, Gen.cTimeoutError, Gen.cKeyboardInterrupt],
      (translateNewConn x).cls ∈ sendCls ∧ sendSwallowed (translateNewConn x) = false := by decide
  have s1 : Steps [c] s (logEv { s with socks := s.socks ++ [{ seg := a.seg }] } (.connect s.socks.length)) :=
    .one (.frame rfl rfl rfl rfl rfl rfl)
  unfold connect
  dsimp only
  split
  · exact ⟨.refl _, fun e he => by cases he; exact cls _ (by simp), nofun⟩
  · exact ⟨s1.trans (logEv_steps [c] _ _), fun e he => by cases he; exact cls _ (by simp), nofun⟩
  · exact ⟨s1.trans (logEv_steps [c] _ _), fun e he => by cases he; exact cls _ (by simp), nofun⟩
  · exact ⟨s1, fun e he => by cases he; exact cls _ (by simp), nofun⟩
  · refine ⟨s1.trans (.one (.opn _ c _ (by simp))), nofun, fun k hk => ?_⟩
    cases hk
    exact ⟨{ s.conns[c] with sock := some s.socks.length, proxyConnected := s.proxy },
      by simp [setConn, logEv, List.getElem?_eq_getElem hc], rfl⟩

theorem sendExc_cls (o : SendOut) (e : Exc) (h : sendExc o = some e) : e.cls ∈ sendCls := by
  cases o <;> simp [sendExc, exc] at h <;> subst h <;> simp [sendCls]

theorem connRequest_moves {s s' : State} {c rid : Nat} {a : Attempt} {o : Except Exc Nat} (hc : c < s.conns.length)
    (h : connRequest s c rid a = (s', o)) :
    Steps [c] s s' ∧ ∀ e, o = .error e → e.cls ∈ sendCls ∧
      (sendSwallowed e = true → ∃ (cn : Conn) (k : Nat), s'.conns[c]? = some cn ∧ cn.sock = some k) := by
  unfold connRequest at h
  have s0 := forget_steps [c] s c
  have hl := s0.conns_length
  generalize forgetClosedPending s c = t at h hl s0
  dsimp only at h
  split at h
  · rename_i hn
    have := List.getElem?_eq_none_iff.mp hn
    omega
  · rename_i cn hcn
    split at h
    · cases h
      exact ⟨s0, fun e he => by cases he; exact ⟨by simp [sendCls, exc], fun hs => absurd hs (by decide)⟩⟩
    · have s1 := s0.trans (.one (.conn t c (fun x => { x with http := .reqSent }) (fun _ => Or.inl rfl)))
      have hcu : (setConn t c fun x => { x with http := .reqSent }).conns[c]? = some { cn with http := .reqSent } := by
        simp [setConn, hcn]
      have hlu : c < (setConn t c fun x => { x with http := .reqSent }).conns.length := by simp [setConn]; omega
      generalize (setConn t c fun x => { x with http := .reqSent }) = u at h s1 hcu hlu
      have tail : ∀ (v : State) (k : Nat), Steps [c] s v → (∃ cn' : Conn, v.conns[c]? = some cn' ∧ cn'.sock = some k) →
          (match sendExc a.send with
            | some e => (v, (Except.error e : Except Exc Nat))
            | none =>
              (setSock (logEv v (.send k)) k fun sk => { sk with inbound := sk.inbound ++ (sk.held ++ serverNow rid a), held := serverHeld rid a, after := a.after }, .ok k))
            = (s', o) →
          Steps [c] s s' ∧ ∀ e, o = .error e → e.cls ∈ sendCls ∧
            (sendSwallowed e = true → ∃ (cn : Conn) (k : Nat), s'.conns[c]? = some cn ∧ cn.sock = some k) := by
        intro v k sv ⟨cn', g1, g2⟩ hh
        cases hse : sendExc a.send with
        | none =>
          rw [hse] at hh
          cases hh
          exact ⟨(sv.trans (logEv_steps [c] _ _)).trans (setSock_steps [c] _ _ _), nofun⟩
        | some e' =>
          rw [hse] at hh
          cases hh
          exact ⟨sv, fun e he => by cases he; exact ⟨sendExc_cls _ _ hse, fun _ => ⟨cn', k, g1, g2⟩⟩⟩
      cases hsk : cn.sock with
      | some k =>
        simp only [hsk] at h
        exact tail u k s1 ⟨_, hcu, hsk⟩ h
      | none =>
        simp only [hsk] at h
        obtain ⟨c0, c1, c2⟩ := connect_moves (s := u) a hlu
        rcases hq : connect u c a with ⟨v, e' | k⟩ <;> rw [hq] at h c0 c1 c2 <;> dsimp only at h
        · cases h
          obtain ⟨g1, g2⟩ := c1 e' rfl
          exact ⟨s1.trans c0, fun e he => by cases he; exact ⟨g1, fun hs => by rw [g2] at hs; cases hs⟩⟩
        · exact tail v k (s1.trans c0) (c2 k rfl) h

/-- a request rejected between `putrequest()` and `endheaders()` raises `CannotSendRequest` (state check of
`putrequest`) or the `ValueError` of `putheader` -/
theorem connReject_moves {s s' : State} {c : Nat} {o : Except Exc Nat} (hc : c < s.conns.length)
    (h : connReject s c = (s', o)) :
    Steps [c] s s' ∧ ∀ e, o = .error e → (e.cls ∈ sendCls ∨ e.cls = Gen.cValueError) ∧ sendSwallowed e = false := by
  unfold connReject at h
  have s0 := forget_steps [c] s c
  have hl := s0.conns_length
  generalize forgetClosedPending s c = t at h hl s0
  dsimp only at h
  split at h
  · rename_i hn
    have := List.getElem?_eq_none_iff.mp hn
    omega
  · split at h <;> cases h
    · exact ⟨s0, fun e he => by cases he; exact ⟨Or.inl (by simp [sendCls, exc]), by decide⟩⟩
    · exact ⟨s0.trans (.one (.conn t c _ (fun _ => Or.inl rfl))), fun e he => by cases he; exact ⟨Or.inr rfl, by decide⟩⟩

theorem connRequestH_moves {s s' : State} {c rid : Nat} {a : Attempt} {bad : Bool} {o : Except Exc Nat} (hc : c < s.conns.length)
    (h : connRequestH s c rid a bad = (s', o)) :
    Steps [c] s s' ∧ ∀ e, o = .error e → (e.cls ∈ sendCls ∨ (bad = true ∧ e.cls = Gen.cValueError)) ∧
      (sendSwallowed e = true → ∃ (cn : Conn) (k : Nat), s'.conns[c]? = some cn ∧ cn.sock = some k) := by
  cases bad with
  | false =>
    obtain ⟨st, g⟩ := connRequest_moves hc h
    exact ⟨st, fun e he => ⟨Or.inl (g e he).1, (g e he).2⟩⟩
  | true =>
    obtain ⟨st, g⟩ := connReject_moves hc h
    exact ⟨st, fun e he => ⟨(g e he).1.imp id (fun q => ⟨rfl, q⟩), fun hs => by rw [(g e he).2] at hs; cases hs⟩⟩

theorem GetResp.steps (C : List Nat) {sF t : State} {c k rid : Nat} {isHead : Bool} {o : RespOut} (g : GetResp sF c k rid isHead t o) :
    Steps C sF t ∧ (∀ e, o = .exc e → c < sF.conns.length → e.cls ∈ headCls) ∧
    ∀ r, o = .resp r → sF.resps.length ≤ r ∧ r < t.resps.length := by
  have s1 : Steps C sF { sF with resps := sF.resps ++ [{ rid := rid, fp := some k, isHead := isHead }] } := .one (.newResp sF _ rfl)
  cases g with
  | noConn hn => exact ⟨.refl _, fun _ _ hc => by have := List.getElem?_eq_none_iff.mp hn; omega, nofun⟩
  | notReady => exact ⟨.refl _, fun _ he _ => by cases he; simp [headCls, exc], nofun⟩
  | @failed cn fuel s2 e _ _ hrh =>
    have s2' := fst_of_eq hrh (readHead_steps C sF.resps.length k fuel _)
    refine ⟨(s1.trans s2').trans (.trans (.ite ?_ (.refl _)) ((steps_closing C).closeFp _ _)), fun e' he _ => ?_, nofun⟩
    · exact ((steps_closing C).connClose _ c).trans (.one (.conn _ c _ fun _ => Or.inl rfl))
    · cases he
      obtain ⟨_, _, _, cls⟩ := readHead_rel _ _ _ _ _ _ hrh
      exact cls e rfl (by simp)
  | @ok cn fuel s2 hd _ _ hrh =>
    have s4 := ((fst_of_eq hrh (readHead_steps C sF.resps.length k fuel _)).trans
      (setResp_steps C s2 sF.resps.length fun x => { x with length := initLength hd isHead, status := hd.status, chunked := hd.chunked })).trans
      (.one (.conn _ c (fun x => { x with http := .idle }) fun _ => Or.inl rfl))
    have s5 := Steps.ite (c := (hd.close || ((initLength hd isHead).isNone && !hd.chunked)) = true)
      (s4.trans ((steps_closing C).connClose _ c)) (s4.trans (.one (.conn _ c (fun x => { x with pending := some sF.resps.length }) fun _ => Or.inl rfl)))
    refine ⟨s1.trans s5, nofun, fun r hr => ?_⟩
    cases hr
    have := (Mono.of_steps s5).rlen
    simp only [List.length_append, List.length_singleton] at this
    exact ⟨Nat.le_refl _, this⟩

theorem getResponse_pres (C : List Nat) {s s' : State} {c k rid : Nat} {rc : ReqCfg} {out : RespOut}
    (h : getResponse s c k rid rc = (s', out)) :
    Pres C s s' ∧ (∀ r, out = .resp r → s.resps.length ≤ r ∧ r < s'.resps.length) ∧
    (∀ e, out = .exc e → c < s.conns.length → (translateRecv e).cls ∈ mrCls) := by
  have inHead : ∀ e : Exc, e.cls ∈ headCls → (translateRecv e).cls ∈ mrCls := by
    intro e he
    rw [translateRecv_cls]
    simp only [mrCls, List.mem_append, List.mem_map]
    exact Or.inl (Or.inr ⟨e.cls, he, rfl⟩)
  obtain ⟨s5, o, g, e⟩ := getResponse_cases s c k rid rc
  obtain ⟨st, cls, idx⟩ := g.steps C
  have f1 := forget_steps C s c
  have p5 : Pres C s s5 := .of_steps (f1.trans st)
  have fl : (forgetClosedPending s c).resps.length = s.resps.length := by rw [(forget_fields s c).1]
  rw [h] at e
  cases o with
  | exc e' => cases e; exact ⟨p5, nofun, fun e he hc => by cases he; exact inHead _ (cls _ rfl (f1.conns_length ▸ hc))⟩
  | resp r =>
    have l5 : s.resps.length ≤ r ∧ r < s5.resps.length := fl ▸ idx r rfl
    dsimp only at e
    split at e
    · rcases hrr : respRead s5 r none with ⟨s6, d | e'⟩ <;> rw [hrr] at e <;> cases e <;>
        have p6 := p5.trans (fst_of_eq hrr (respRead_pres C s5 r none))
      · exact ⟨p6, fun r hr => by cases hr; exact ⟨l5.1, Nat.lt_of_lt_of_le l5.2 (fst_of_eq hrr (respRead_pres C s5 r none)).mono.rlen⟩, nofun⟩
      · refine ⟨p6, nofun, fun e he _ => ?_⟩
        cases he
        rw [translateRecv_cls]
        exact rawRead_cls (P := (recvCls · ∈ mrCls)) (respRead_none_exc hrr) (by decide)
          fun c hc => List.mem_append_right _ (List.mem_map.mpr ⟨c, hc, translateRecv_cls _⟩)
    · cases e; exact ⟨p5, fun r hr => by cases hr; exact l5, nofun⟩

/-- what `_make_request` leaves when it hands the connection `c`, leased in `s`, to response `r`: with `release_conn` the
lease stays with `urlopen`; without, it has ended — `r` holds `c`, or has given it back already when its body was
preloaded.  No other response has started holding, and `r` holds only without `release_conn`, knowing its pool -/
structure Handed (rc : ReqCfg) (c r : Nat) (L : List Nat) (s s' : State) : Prop where
  inv : if rc.release = true then InvL s' (c :: L) else InvL s' L
  keep : Keep (some r = some ·) s s'
  pool : ∀ rs' : Resp, s'.resps[r]? = some rs' → rs'.conn ≠ none → rs'.hasPool = true ∧ rc.release = false

theorem attachResp_spec {s : State} {L : List Nat} {c r : Nat} {rs : Resp} (rc : ReqCfg) (h : InvL s (c :: L))
    (hr : s.resps[r]? = some rs) (hc : rs.conn = none) :
    (attachResp s c r rc).2 = .resp r ∧ Handed rc c r L s (attachResp s c r rc).1 := by
  unfold attachResp
  dsimp only
  have k1 := setResp_keep s r fun x => { x with conn := if rc.release = true then none else some c, hasPool := true }
  have hget : (setResp s r fun x => { x with conn := if rc.release = true then none else some c, hasPool := true }).resps[r]?
      = some { rs with conn := if rc.release = true then none else some c, hasPool := true } := by
    simp [setResp, hr]
  cases hrel : rc.release with
  | true =>
    simp only [hrel, Bool.not_true, Bool.false_and, Bool.false_eq_true, if_false, if_true] at k1 hget ⊢
    exact ⟨trivial, by rw [hrel]; exact setResp_inv _ hr (by simp [hc]) h, k1, fun rs' g hn => by rw [hget] at g; cases g; exact absurd rfl hn⟩
  | false =>
    simp only [hrel, Bool.not_false, Bool.true_and, Bool.false_eq_true, if_false] at k1 hget ⊢
    have h1 : InvL (setResp s r fun x => { x with conn := some c, hasPool := true }) L := setResp_inv _ hr (by simp [hc]) h
    generalize (setResp s r fun x => { x with conn := some c, hasPool := true }) = t at h1 k1 hget
    split
    · obtain ⟨g1, g2⟩ := releaseConn_inv r h1
      have u := releaseConn_unholds h1 hget rfl
      have m := (releaseConn_pres [] t r).mono
      rcases hq : releaseConn t r with ⟨t', o⟩
      rw [hq] at g1 g2 u m
      cases g2
      exact ⟨rfl, by rw [hrel]; exact g1, k1.trans (m.keep _), fun rs' g hn => absurd (u rs' g) hn⟩
    · exact ⟨rfl, by rw [hrel]; exact h1, k1, fun rs' g _ => by rw [hget] at g; cases g; exact ⟨rfl, hrel⟩⟩

/-- `_make_request` with the connection `c` leased.  An exception leaves the lease in place, its class is one of
`mrCls` (or `putheader`'s `ValueError`), and no response has started holding.  Otherwise a brand-new response `r` is
handed the connection -/
theorem makeRequest_inv {s s' : State} {L : List Nat} {c rid : Nat} {a : Attempt} {rc : ReqCfg} {out : RespOut}
    (h : InvL s (c :: L)) (hm : makeRequest s c rid a rc = (s', out)) :
    (∀ e, out = .exc e → InvL s' (c :: L) ∧ Mono s s' ∧ (e.cls ∈ mrCls ∨ (rc.badHeader = true ∧ e.cls = Gen.cValueError))) ∧
    (∀ r, out = .resp r → s.resps.length ≤ r ∧ Handed rc c r L s s') := by
  have hcl : c < s.conns.length := h.bound c (by simp [mem_owned])
  have lease : ∀ x ∈ [c], x ∈ c :: L := by simp
  rw [makeRequest_eq] at hm
  rcases hq : connRequestH s c rid a rc.badHeader with ⟨s1, ek⟩
  rw [hq] at hm
  obtain ⟨st1, c1⟩ := connRequestH_moves hcl hq
  have p1 : Pres [c] s s1 := .of_steps st1
  generalize hek : sendFix s1 c ek = ek' at hm
  unfold makeTail at hm
  cases ek' with
  | error e =>
    cases hm
    refine ⟨fun e' he' => ?_, nofun⟩
    cases he'
    refine ⟨p1.inv _ lease h, p1.mono, ?_⟩
    -- the error was not swallowed: it is the one `conn.request()` raised
    unfold sendFix at hek
    cases ek with
    | ok k => cases hek
    | error e0 =>
      dsimp only at hek
      split at hek
      · rename_i hsw
        obtain ⟨cn, k, g1, g2⟩ := (c1 e0 rfl).2 hsw
        simp [g1, g2] at hek
      · cases hek
        exact (c1 e rfl).1.imp_left fun q => by simp only [mrCls, List.mem_append]; exact .inl (.inl (.inl q))
  | ok k =>
    dsimp only at hm
    rcases hgr : getResponse s1 c k rid rc with ⟨s2, r | e⟩ <;> rw [hgr] at hm <;> dsimp only at hm <;>
      obtain ⟨p2, idx, cls⟩ := getResponse_pres [c] hgr
    · obtain ⟨i1, i2⟩ := idx r rfl
      have m2 := p1.mono.trans p2.mono
      obtain ⟨rs, hrs, hcn⟩ := m2.fresh (Nat.le_trans p1.mono.rlen i1) i2
      obtain ⟨a1, a2⟩ := attachResp_spec rc (p2.inv _ lease (p1.inv _ lease h)) hrs hcn
      rw [hm] at a1 a2
      cases a1
      exact ⟨nofun, fun r' hr' => by cases hr'; exact ⟨Nat.le_trans p1.mono.rlen i1, a2.inv, (m2.keep _).trans a2.keep, a2.pool⟩⟩
    · cases hm
      refine ⟨fun e' he' => ?_, nofun⟩
      cases he'
      exact ⟨p2.inv _ lease (p1.inv _ lease h), p1.mono.trans p2.mono,
        .inl (cls e rfl (Nat.lt_of_lt_of_le hcl p1.mono.clen))⟩

theorem markReturned_pres (s : State) (r : Nat) : Pres [] s (markReturned s r) :=
  .of_steps (setResp_steps [] s r fun x => { x with returned := true })

/-- the `finally` clause of a clean exit: with `release_conn` the leased connection goes back to the pool -/
theorem putBack_inv {s : State} {L : List Nat} {c : Nat} {rc : ReqCfg}
    (h : if rc.release = true then InvL s (c :: L) else InvL s L) :
    InvL (putBack rc c s).1 L ∧ Mono s (putBack rc c s).1 ∧
    ∀ e, (putBack rc c s).2 = some e → rc.release = true ∧ e.cls = Gen.cU3FullPoolError := by
  unfold putBack
  split <;> rename_i hr
  · rw [if_pos hr] at h
    exact ⟨putConn_lease_inv h, mono_pooling.putConn s _, fun e he => ⟨hr, putConn_exc s _ e he⟩⟩
  · rw [if_neg hr] at h
    exact ⟨h, Mono.refl s, nofun⟩

end U3.Pool

/- The predicates in which `Props/C01.lean` states what a `urlopen` call may raise; they stand here, in the namespace of
the statements, because `handled_table` and `request_good` below are proved about them. -/
namespace U3.Props
open U3 U3.Pool

def isUrllib3 (c : Cls) : Bool := isSub c Gen.cU3HTTPError
/-- a `BaseException` that is not an `Exception` (what the fault scripts inject as an interrupt) -/
def isInterrupt (c : Cls) : Bool := isSub c Gen.cBaseException && !isSub c Gen.cException

/-- the classes `urlopen`'s `except` clauses are checked against: what the fault scripts raise at
connect / send / recv (after `HTTPConnection._new_conn`'s and `_error_catcher`'s translation), what
`http.client` raises on the scripted server's bytes and on its own state machine, and the
pool's own errors.  Not among them: `putheader`'s `ValueError` for a header value that cannot be encoded
(`rc.badHeader`), which no clause catches (`U3.Pool.handleError_valueError`) -/
def raisable : List Cls :=
  [Gen.cU3NameResolutionError, Gen.cU3NewConnectionError, Gen.cU3ConnectTimeoutError,       -- connect
   Gen.cBrokenPipeError, Gen.cConnectionResetError, Gen.cOSError, Gen.cConnectionRefusedError, Gen.cTimeoutError,
   Gen.cGaierror, Gen.cKeyboardInterrupt, Gen.cSystemExit,                                    -- raw faults
   Gen.cRemoteDisconnected, Gen.cBadStatusLine, Gen.cLineTooLong, Gen.cHttpIncompleteRead,
   Gen.cResponseNotReady, Gen.cCannotSendRequest, Gen.cHTTPException,                          -- http.client
   Gen.cU3ReadTimeoutError, Gen.cU3ProtocolError, Gen.cU3IncompleteRead, Gen.cU3SSLError,      -- body read
   Gen.cSslSSLError, Gen.cSslCertVerificationError, Gen.cCertificateError,
   Gen.cU3EmptyPoolError, Gen.cU3ClosedPoolError, Gen.cU3FullPoolError]

def okClass (c0 c : Cls) : Bool := isUrllib3 c || (isInterrupt c && c == c0)

def handledOk (c0 : Cls) : Handled → Bool
  | .propagate => okClass c0 c0
  | .noCleanup => okClass c0 c0
  | .raise e => okClass c0 e.cls
  | .retry _ => true

end U3.Props

namespace U3.Pool
open U3.Props

def okCls (c : Cls) : Bool := isUrllib3 c || isInterrupt c

theorem mrCls_handled : ∀ c ∈ mrCls, c ∈ raisable := by decide +kernel

theorem okCls_of_okClass {c0 c : Cls} (h : okClass c0 c = true) : okCls c = true := by
  simp only [okClass, okCls, Bool.or_eq_true, Bool.and_eq_true] at h ⊢
  exact h.imp id And.left

theorem handleError_succ (u m : Bool) (n : Nat) (c : Cls) :
    handleError u (.count (n + 1)) m c = match handleError u (.count 1) m c with
      | .retry _ => .retry (.count n)
      | x => x := by
  simp only [handleError, Retry.incrementErr, Retry.dec]
  grind

/-- for every class of `raisable`, every proxy situation, every retry budget and method class, what `urlopen`'s
`except` clauses (read from the GENERATED tuples `Gen.urlopenHandlers` / `Gen.urlopenIsinstance` and the generated
subclass relation) hand to the caller is a urllib3 exception, or the very interrupt that was raised -/
theorem handled_table : ∀ c ∈ raisable, ∀ (u m : Bool) (rt : Retry), handledOk c (handleError u rt m c) = true := by
  intro c hc u m rt
  have key : ∀ r ∈ [Retry.off, Retry.count 0, Retry.count 1], handledOk c (handleError u r m c) = true := by
    revert c u m
    decide +kernel
  match rt with
  | .off => exact key _ (by simp)
  | .count 0 => exact key _ (by simp)
  | .count (n + 1) =>
    have h1 := key (.count 1) (by simp)
    rw [handleError_succ]
    generalize handleError u (.count 1) m c = x at h1 ⊢
    cases x <;> exact h1

theorem rawRead_exc_ok {s s' : State} {r : Nat} {amt : Option Nat} {e : Exc} (h : rawRead s r amt = (s', .exc e)) :
    okCls e.cls = true :=
  rawRead_cls (P := (okCls · = true)) h (by decide) (by decide +kernel)

theorem drainConn_exc_ok {s : State} {r : Nat} {e : Exc} (h : (drainConn s r).2 = some e) : okCls e.cls = true := by
  unfold drainConn at h
  generalize hrr : rawRead s r none = q at h
  obtain ⟨t, o⟩ := q
  cases o with
  | data d => cases h
  | exc e' =>
    dsimp only at h
    split at h
    · cases h
    · cases h
      exact rawRead_exc_ok hrr

theorem discard_exc_ok {s : State} {x : Option Nat} {e : Exc} (h : (discard s x).2 = some e) : okCls e.cls = true := by
  have : e.cls = Gen.cU3FullPoolError := by
    unfold discard at h
    cases x with
    | none => cases h
    | some i => exact putConn_exc _ _ e h
  rw [this]
  decide

/-- the caller passed an argument that is rejected with `ValueError`: a per-request `timeout` that `Timeout` does not
accept, a negative `pool_timeout` (which `queue.get` rejects on a `block=True` pool), or a header value that
`putheader` cannot encode -/
def ReqCfg.badArg (rc : ReqCfg) : Bool := rc.badTimeout || rc.badPoolTimeout || rc.badHeader

/-- the `ValueError` only when the caller passed an argument that is rejected (`ba`, see `ReqCfg.badArg`) -/
def okClsB (ba : Bool) (c : Cls) : Bool := okCls c || (ba && c == Gen.cValueError)

theorem okClsB_of {ba : Bool} {c : Cls} (h : okCls c = true) : okClsB ba c = true := by
  simp [okClsB, h]

theorem preflight_cls {rc : ReqCfg} {a : Attempt} {e : Exc} (h : preflight rc a = some e) :
    okClsB rc.badArg e.cls = true := by
  unfold preflight at h
  split at h
  · cases h; exact okClsB_of (by decide)
  · split at h
    · rename_i hb
      cases h
      simp [okClsB, ReqCfg.badArg, hb, exc]
    · cases h

theorem waitExc_cls {ra : Bool} {w : WaitOut} {e : Exc} (h : waitExc ra w = some e) : okCls e.cls = true := by
  cases w <;> cases ra <;> simp [waitExc] at h <;> subst h <;> decide

theorem hop_badArg (rc : ReqCfg) : rc.hop.badArg = rc.badArg := rfl
theorem seeOther_badTimeout (rc : ReqCfg) : rc.seeOther.badArg = rc.badArg := rfl

/-- what `urlopen`'s `except` clauses make of an exception that left `_make_request`: it is never the
`EmptyPoolError` clause that catches it, and what reaches the caller is a urllib3 exception, an interrupt or the
`ValueError` for a header that cannot be encoded -/
theorem handled_leaving {ba : Bool} {c : Cls} (hc : c ∈ mrCls ∨ (ba = true ∧ c = Gen.cValueError)) (u m : Bool) (rt : Retry) :
    match handleError u rt m c with
    | .noCleanup => False
    | .propagate => okClsB ba c = true
    | .raise e => okCls e.cls = true
    | .retry _ => True := by
  rcases hc with hc | ⟨hb, rfl⟩
  · have tbl := handled_table c (mrCls_handled c hc) u m rt
    have nc : handleError u rt m c ≠ .noCleanup := by
      have : ∀ c ∈ mrCls, isInst c (Gen.urlopenHandlers.getD 1 []) = false := by decide +kernel
      exact not_noCleanup_of u rt m (this c hc)
    split <;> rename_i hh <;> rw [hh] at tbl
    · exact nc hh
    · exact okClsB_of (okCls_of_okClass tbl)
    · exact okCls_of_okClass tbl
    · trivial
  · rw [handleError_valueError]
    simp [okClsB, hb]

/-- `_raw_read()` of everything (under `_error_catcher`) leaves the response — which knows its pool — holding no
connection.  Success: `http.client` has closed the reader at the end of the body, `_error_catcher` sees `isclosed()`
and releases.  Failure: `_error_catcher` closes reader and connection and then releases. -/
theorem rawRead_none_unholds {s : State} {L : List Nat} {r : Nat} {rs : Resp} (h : InvL s L) (hr : s.resps[r]? = some rs) (hp : rs.hasPool = true) :
    Unheld (rawRead s r none).1 r := by
  rw [rawRead_eq]
  rcases hq : httpRead s r none with ⟨s1, o1⟩
  have st1 := fst_of_eq hq (httpRead_steps [] s r none)
  have k1 := fst_of_eq hq (httpRead_frame (keepCH_frame r) s none)
  have e : rawMid r none s1 o1 = (s1, o1) := by unfold rawMid; cases o1 <;> rfl
  rw [e]
  -- the `finally` clause of `_error_catcher` finds the reader closed, in a state `t` that has kept the `_pool`
  -- attribute of the response, and releases
  have fin : ∀ t : State, Steps [] s1 t → respFpClosed t r = true → SameHold s1 t →
      Unheld (errorCatcherExit t r true).1 r := by
    intro t st hc hk
    rw [errorCatcherExit_true, hc]
    have hl : r < t.resps.length :=
      Nat.lt_of_lt_of_le (getElem?_lt hr) (Mono.of_steps (st1.trans st)).rlen
    obtain ⟨r1, g1, _, e1⟩ := hk.same r _ (List.getElem?_eq_getElem hl)
    obtain ⟨r0, g0, e0⟩ := k1.2 r1 g1
    rw [hr] at g0
    cases g0
    exact releaseConn_unholds (steps_inv (by simp) (st1.trans st) h) (List.getElem?_eq_getElem hl) (by rw [e1, e0]; exact hp)
  cases o1 with
  | data d =>
    exact fst_orElse (P := (Unheld · r))
      (fin s1 (.refl _) (httpRead_none_closed hq) (.of_eq rfl))
  | exc e0 =>
    exact fst_orElse (P := (Unheld · r))
      (fin _ ((steps_closing []).respClose s1 r) (respClose_closed s1 r) (sameHold_closing.respClose s1 r))

/-- `drain_conn()` leaves the response holding no connection, provided it knows its pool whenever it holds one:
whether the drain succeeded, swallowed an error or raised -/
theorem drainConn_unholds {s : State} {L : List Nat} {r : Nat} (h : InvL s L)
    (hp : ∀ rs : Resp, s.resps[r]? = some rs → rs.conn ≠ none → rs.hasPool = true) :
    Unheld (drainConn s r).1 r := by
  rw [drainConn_fst]
  intro rs' g
  refine Decidable.byContradiction fun hq => ?_
  obtain ⟨rs, g0, e0⟩ := (rawRead_pres [] s r none).mono.conn r rs' g hq
  exact hq (rawRead_none_unholds h g0 (hp rs g0 (e0 ▸ hq)) rs' g)

def resultResp : Result → Option Nat
  | .resp r => some r
  | _ => none

/-- after a `urlopen` call entered in state `s0`: the invariant holds, what the call raised is a urllib3 exception or
an interrupt (or the `ValueError` for an invalid argument, `ba`), only the response the call returned may have started
holding a connection, and that response is a new one -/
structure Good (ba : Bool) (s0 : State) (x : State × Result) : Prop where
  inv : Inv x.1
  exc : ∀ e, x.2 = .raised e → okClsB ba e.cls = true
  keep : Keep (resultResp x.2 = some ·) s0 x.1
  fresh : ∀ r, x.2 = .resp r → s0.resps.length ≤ r

theorem Good.from {ba : Bool} {s t : State} {x : State × Result} (k : Keep (none = some ·) s t) (g : Good ba t x) : Good ba s x :=
  ⟨g.inv, g.exc, (k.mono fun _ h => nomatch h).trans g.keep, fun r hr => Nat.le_trans k.rlen (g.fresh r hr)⟩

theorem Good.raise {ba : Bool} {s0 t : State} {e : Exc} (hi : Inv t) (hk : Keep (none = some ·) s0 t)
    (he : okClsB ba e.cls = true) : Good ba s0 (t, .raised e) :=
  ⟨hi, fun _ h => by cases h; exact he, hk, nofun⟩

theorem request_good (rid : Nat) : ∀ (script : List Attempt) (s : State) (rc : ReqCfg) (retries : Retry),
    Inv s → Good rc.badArg s (request s rid rc retries script) := by
  intro script
  induction script with
  | nil => intro s rc retries h; exact ⟨h, nofun, .refl _ _, nofun⟩
  | cons a rest ih =>
    intro s rc retries h
    have again : ∀ (t : State) (rc' : ReqCfg) (rt : Retry), rc'.badArg = rc.badArg → Keep (none = some ·) s t → Inv t →
        Good rc.badArg s (request t rid rc' rt rest) :=
      fun t rc' rt hb k ht => (hb ▸ ih t rc' rt ht).from k
    -- a failure before the `try:` (unrewindable body, invalid timeout) or in the checkout changes nothing
    cases hpf : preflight rc a with
    | some e0 => rw [request_early (.inl hpf)]; exact .raise h (.refl _ _) (preflight_cls hpf)
    | none =>
    rcases hg : getConnT s rc.badPoolTimeout with ⟨s1, e | c⟩
    · rw [request_early (.inr ⟨hpf, _, hg⟩)]
      refine .raise h (.refl _ _) ?_
      rcases (getConnT_error hg).2 with ⟨hb, q⟩ | q | q <;> rw [q]
      · simp [okClsB, ReqCfg.badArg, hb]
      · exact okClsB_of (by decide)
      · exact okClsB_of (by decide)
    have hg' := getConnT_ok hg
    have m1 := fst_of_eq (P := (Mono s ·)) hg' (mono_pooling.getConn s)
    rcases hm : makeRequest s1 c rid a rc with ⟨s2, r | e⟩ <;> obtain ⟨oke, okr⟩ := makeRequest_inv (getConn_inv h hg') hm
    · -- clean exit; `finally`: the connection goes back if `release_conn`
      obtain ⟨hr, hd⟩ := okr r rfl
      obtain ⟨lp, lm, lx⟩ := putBack_inv hd.inv
      have lk : Keep (some r = some ·) s (putBack rc c s2).1 := ((m1.keep _).trans hd.keep).trans (lm.keep _)
      -- with `release_conn` the response never got hold of the connection
      have lf : ∀ rs : Resp, (putBack rc c s2).1.resps[r]? = some rs → rs.conn ≠ none → rs.hasPool = true ∧ rc.release = false := by
        intro rs g hn
        obtain ⟨rs0, g0, e0⟩ := lm.conn r rs g hn
        have q := (hd.pool rs0 g0 (e0 ▸ hn)).2
        simp only [putBack, q, Bool.false_eq_true, if_false] at g
        exact hd.pool rs g hn
      -- an intermediate response is drained first: whatever the drain does, the response holds nothing afterwards; then
      -- the budget is found exhausted, the wait between the attempts raises, or `urlopen` calls itself
      have pr := drainConn_pres [] (putBack rc c s2).1 r
      have pd := pr.inv [] (by simp) lp
      have kd := (lk.trans (pr.mono.keep _)).drop (drainConn_unholds lp fun rs g hn => (lf rs g hn).1)
      refine request_clean hpf hg hm (fun e he => .raise lp (lk.drop fun rs g => ?_) (okClsB_of (by rw [(lx e he).2]; decide)))
        ⟨(markReturned_pres _ r).inv [] nofun lp, nofun, lk.trans ((markReturned_pres _ r).mono.keep _),
          fun _ hr' => by cases hr'; exact Nat.le_trans m1.rlen hr⟩
        (fun e he => .raise pd kd (okClsB_of ?_)) fun rc' _ hr => again _ _ _ (by rcases hr with rfl | rfl <;> rfl) kd pd
      · refine Decidable.byContradiction fun hq => ?_
        have := (lf rs g hq).2
        rw [(lx e he).1] at this
        cases this
      · rcases he with he | rfl | ⟨ra, he⟩
        · exact drainConn_exc_ok he
        · decide
        · exact waitExc_cls he
    · -- unclean exit; `finally`: the connection is closed and a `None` takes its slot
      obtain ⟨h2, m2, hcls⟩ := oke e rfl
      have pd : Inv (discard s2 (some c)).1 := discard_lease_inv h2
      have md := (m1.trans m2).trans (mono_pooling.discard s2 (some c))
      have hl := handled_leaving (ba := rc.badArg) (hcls.imp_right fun ⟨hb, q⟩ => ⟨by simp [ReqCfg.badArg, hb], q⟩)
        (unconnectedProxy s2 c) rc.methodRetryable retries
      refine request_unclean hpf hg hm (fun hh => by rw [hh] at hl; exact hl.elim)
        (fun e' he => .raise pd (md.keep _) ?_) fun _ _ => again _ _ _ (hop_badArg rc) (md.keep _) pd
      rcases he with he | ⟨hh, rfl⟩ | hh
      · exact okClsB_of (discard_exc_ok he)
      · rw [hh] at hl
        exact hl
      · rw [hh] at hl
        exact okClsB_of hl

/-- the intermediate responses of a retry / redirect chain have all given their connections back, however the chain
ended, whatever the script, the configuration and the retry budget -/
theorem request_hold (rid : Nat) (script : List Attempt) (s : State) (rc : ReqCfg) (retries : Retry) (h : Inv s) :
    HoldOnly (resultResp (request s rid rc retries script).2) s (request s rid rc retries script).1 :=
  (request_good rid script s rc retries h).keep.old

theorem step_op_inv {s : State} (op : Op) (h : Inv s) : Inv (step s op).1 := by
  cases op with
  | request rid rc rt script => exact (request_good rid script s rc rt h).inv
  | dispose rid how => exact (dispose_pres [] s rid how).inv [] (by simp) h
  | closePool => exact closePool_inv h

theorem run_inv (ops : List Op) (s : State) (h : Inv s) : Inv (run s ops) :=
  run_closure ops s (fun op _ _ => step_op_inv op) h

theorem step_request_hold (n : Nat) (block proxy : Bool) (hn : 0 < n) (ops : List Op) (rid : Nat) (rc : ReqCfg)
    (retries : Retry) (script : List Attempt) {res : Result}
    (h : (step (run (init n block proxy) ops) (.request rid rc retries script)).2 = .result res) :
    HoldOnly (resultResp res) (run (init n block proxy) ops)
      (step (run (init n block proxy) ops) (.request rid rc retries script)).1 := by
  have e : (request (run (init n block proxy) ops) rid rc retries script).2 = res := Out.result.inj h
  rw [← e]
  exact request_hold rid script _ rc retries (run_inv ops _ (init_inv n block proxy hn))

theorem step_keep {s : State} (op : Op) (h : Inv s) : Keep (s.resps.length ≤ ·) s (step s op).1 := by
  cases op with
  | request rid rc rt script =>
    have g := request_good rid script s rc rt h
    exact g.keep.mono fun r hr => g.fresh r (by revert hr; cases (request s rid rc rt script).2 <;> simp [resultResp])
  | dispose rid how => exact (dispose_pres [] s rid how).mono.keep _
  | closePool => exact (mono_pooling.closePool s).keep _

theorem run_keep : ∀ (ops : List Op) (s : State), Inv s → Keep (s.resps.length ≤ ·) s (run s ops)
  | [], _, _ => .refl _ _
  | op :: rest, _, h =>
    have k1 := step_keep op h
    k1.trans ((run_keep rest _ (step_op_inv op h)).mono fun _ => Nat.le_trans k1.rlen)

theorem unheld_stays {s : State} (h : Inv s) (ops : List Op) {r : Nat} {rs : Resp} (hr : s.resps[r]? = some rs)
    (hc : rs.conn = none) : Unheld (run s ops) r := by
  intro rs' hr'
  refine Decidable.byContradiction fun hq => ?_
  rcases (run_keep ops s h).old r rs' hr' hq with q | ⟨rs0, g1, g2⟩
  · exact absurd (getElem?_lt hr) (Nat.not_lt.mpr q)
  · rw [hr] at g1
    cases g1
    exact hq (g2 ▸ hc)

end U3.Pool
