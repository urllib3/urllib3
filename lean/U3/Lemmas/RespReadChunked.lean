import U3.Lemmas.RespChunked
/-! urllib3's own chunk parser (`read_chunked` = `_update_chunk_length` + `_handle_chunk(amt)` +
decode + flush + trailer loop + close) on a well-framed chunked body, judged by the same reference
reader `refBody` as `http.client`'s: for every `amt ≠ 0` and segmentation, with decoding on (any decoder
obeying the `StreamLaw`) or off, the generator terminates, never raises, and its pieces concatenate to
the payload; afterwards the response is at its end (`Inv … []`).  The steps of the parser
(`updateChunkLength_ref`, `readAndToss_ref`, `handleChunk_ref`) are specified against `Ref`, for complete
and damaged bodies alike; the loop over a damaged body is `rcLoop_broken` in Lemmas/RespBroken. -/
namespace U3.Resp
open U3

section
variable {δ : Type} (D : Dec δ) (cfg : Cfg δ) {G : δ → Bytes → Bytes → Prop}

/-- the response with the file position moved to `f` and `chunk_left` set to `cl` -/
def R.at (r : R H δ) (f : Fp) (cl : Option Nat) : R H δ :=
  { r with fp := { r.fp with fp := some f }, chunkLeft := cl }

theorem R.at_self {r : R H δ} {f : Fp} {cl : Option Nat} (hf : r.fp.fp = some f) (hcl : r.chunkLeft = cl) :
    r.at f cl = r := by
  obtain ⟨⟨_, _, _, _, _, _, _⟩, _, _, _, _, _, _, _, _, _, _⟩ := r
  simp only [] at hf hcl
  rw [R.at, ← hf, ← hcl]

theorem hSrc_safeRead (h : H) (n : Nat) : hSrc.safeRead h n = hSafeRead h n := rfl

/-- in the error alternative of this and the next two steps `_connection` is left alone: only the
`_error_catcher` around the loop of `read_chunked` touches it -/
theorem updateChunkLength_ref (r : R H δ) (f : Fp) {p : Bytes} {v : Bool} (hf : r.fp.fp = some f)
    (hcl : r.chunkLeft ≠ some 0) (hr : Ref r.chunkLeft f.content p v) :
    (v = false ∧ ∃ e r', updateChunkLength hSrc r = (.error e, r') ∧ r'.conn = r.conn) ∨
    (v = true ∧ p = [] ∧ ∃ f', updateChunkLength hSrc r = (.ok (), r.at f' (some 0)) ∧
      f'.content.length ≤ f.content.length) ∨
    ∃ n f', updateChunkLength hSrc r = (.ok (), r.at f' (some (n + 1))) ∧
      Ref (some (n + 1)) f'.content p v ∧ f'.content.length ≤ f.content.length := by
  cases hc : r.chunkLeft with
  | some k =>
    cases k with
    | zero => exact absurd hc hcl
    | succ n =>
      rw [hc] at hr
      refine .inr (.inr ⟨n, f, ?_, hr, Nat.le_refl _⟩)
      rw [R.at_self hf hc]
      simp [updateChunkLength, hc]
  | none =>
    rw [hc] at hr
    have hrl : hSrc.readline r.fp = (.ok (lineOf f.content), { r.fp with fp := some (fpReadline f).2 }) :=
      hFpReadline_eq r.fp f hf
    have hlen : (fpReadline f).2.content.length ≤ f.content.length := by
      rw [(fpReadline_spec f).2.1, List.length_drop]
      omega
    unfold updateChunkLength
    cases hr with
    | badline _ hb =>
      refine .inl ⟨rfl, ?_⟩
      simp only [hc, hrl, hb]
      have : (closeResp hSrc { r with fp := { r.fp with fp := some (fpReadline f).2 } }).conn = r.conn := by
        unfold closeResp
        dsimp only
        split <;> rfl
      split <;> exact ⟨_, _, rfl, this⟩
    | last _ hz => exact .inr (.inl ⟨rfl, rfl, (fpReadline f).2, by simp only [hc, hrl, hz, R.at], hlen⟩)
    | line _ n _ _ hn h1 =>
      exact .inr (.inr ⟨n, (fpReadline f).2, by simp only [hc, hrl, hn, R.at],
        by rw [(fpReadline_spec f).2.1]; exact h1, hlen⟩)

theorem readAndToss_ref (r : R H δ) (f : Fp) {p : Bytes} {v : Bool} (n : Nat) (hf : r.fp.fp = some f)
    (hr : Ref (some (n + 1)) f.content p v) :
    (v = false ∧ ∃ e r', readAndToss hSrc r (n + 1) = (.error e, r') ∧ r'.conn = r.conn) ∨
    ∃ f', readAndToss hSrc r (n + 1) = (.ok (p.take (n + 1)), r.at f' none) ∧ n + 1 ≤ p.length ∧
      Ref none f'.content (p.drop (n + 1)) v ∧ f'.content.length + (n + 1) ≤ f.content.length := by
  unfold readAndToss safeRead'
  rw [hSrc_safeRead]
  rcases hSafeRead_ref r.fp f hf (Nat.le_refl _) hr with ⟨hv, h', e1⟩ | ⟨hle, f1, e1, l1, h1⟩
  · rw [e1]
    exact .inl ⟨hv, _, _, rfl, rfl⟩
  · rw [e1]
    dsimp only
    rw [hSrc_safeRead]
    rw [Nat.sub_self] at h1
    rcases hSafeRead_sep { r.fp with fp := some f1 } f1 rfl h1 with ⟨hv, h', e2⟩ | ⟨d, f2, e2, l2, h2⟩
    · rw [e2]
      exact .inl ⟨hv, _, _, rfl, rfl⟩
    · rw [e2]
      exact .inr ⟨f2, rfl, hle, h2, by omega⟩

theorem handleChunk_ref (r : R H δ) (f : Fp) {p : Bytes} {v : Bool} (n : Nat) (amt : Option Nat)
    (hf : r.fp.fp = some f) (hcl : r.chunkLeft = some (n + 1)) (hr : Ref (some (n + 1)) f.content p v) :
    (v = false ∧ ∃ e r', handleChunk hSrc r amt = (.error e, r') ∧ r'.conn = r.conn) ∨
    ∃ k f' cl, handleChunk hSrc r amt = (.ok (p.take k), r.at f' cl) ∧ (amt ≠ some 0 → 0 < k) ∧ k ≤ p.length ∧
      Ref cl f'.content (p.drop k) v ∧ cl ≠ some 0 ∧ f'.content.length + k ≤ f.content.length := by
  have whole : (v = false ∧ ∃ e r', readAndToss hSrc r (n + 1) = (.error e, r') ∧ r'.conn = r.conn) ∨
      ∃ k f' cl, readAndToss hSrc r (n + 1) = (.ok (p.take k), r.at f' cl) ∧ (amt ≠ some 0 → 0 < k) ∧ k ≤ p.length ∧
        Ref cl f'.content (p.drop k) v ∧ cl ≠ some 0 ∧ f'.content.length + k ≤ f.content.length :=
    (readAndToss_ref r f n hf hr).imp_right fun ⟨f', e1, e2, e3, e4⟩ =>
      ⟨n + 1, f', none, e1, fun _ => Nat.succ_pos n, e2, e3, nofun, e4⟩
  unfold handleChunk
  rw [hcl]
  cases amt with
  | none => exact whole
  | some a =>
    dsimp only
    by_cases hlt : a < n + 1
    · unfold safeRead'
      rw [if_pos hlt, hSrc_safeRead]
      rcases hSafeRead_ref r.fp f hf (Nat.le_of_lt hlt) hr with ⟨hv, h', e1⟩ | ⟨hle, f1, e1, l1, h1⟩
      · rw [e1]
        exact .inl ⟨hv, _, _, rfl, rfl⟩
      · rw [e1]
        obtain ⟨j, hj⟩ : ∃ j, n + 1 - a = j + 1 := ⟨n - a, by omega⟩
        exact .inr ⟨a, f1, some (n + 1 - a), rfl, pos_of_some_ne_zero, hle, h1,
          by rw [hj]; nofun, by omega⟩
    · rw [if_neg hlt]
      split
      · rename_i heq
        subst heq
        exact whole
      · exact whole

/-- the obligation of `_decode(chunk, decode_content, False)`: with decoding on what the decoder
owes for the raw bytes to come, with decoding off the raw bytes themselves (and nothing decoded yet) -/
def OwesDc (G : δ → Bytes → Bytes → Prop) (dc : Bool) (od : Option δ) (hd : Bool) (p q : Bytes) : Prop :=
  if dc then Due cfg G od p q else hd = false ∧ q = p

theorem decode_step (hD : StreamLaw D G) (dc : Bool) (r : R H δ) (a b q : Bytes)
    (h : OwesDc cfg G dc r.decoder r.hasDecoded (a ++ b) q) :
    ∃ o od hd, decode D r a dc false = (.ok o, { r with decoder := od, hasDecoded := hd }) ∧
      ∃ q', q = o ++ q' ∧ OwesDc cfg G dc od hd b q' := by
  cases dc with
  | false =>
    obtain ⟨h1, h2⟩ : r.hasDecoded = false ∧ q = a ++ b := h
    exact ⟨a, r.decoder, r.hasDecoded, decode_off D r a false h1, b, h2, h1, rfl⟩
  | true =>
    obtain ⟨o, od, hd, hdec, _, q', hq, hdue⟩ := decode_feed D cfg hD r a b q h
    exact ⟨o, od, hd, hdec, q', hq, hdue⟩

theorem rcLoop_ref (hD : StreamLaw D G) (amt : Option Nat) (hamt : amt ≠ some 0) (dc : Bool) :
    ∀ (fuel : Nat) (r : R H δ) (f : Fp) (p q : Bytes) (acc : List Bytes),
      r.fp.fp = some f → r.chunkLeft ≠ some 0 → Ref r.chunkLeft f.content p true →
      OwesDc cfg G dc r.decoder r.hasDecoded p q → f.content.length < fuel →
      ∃ ps f' od hd q', rcLoop hSrc D amt dc fuel r acc =
          ((acc ++ ps, .ok ()), { r.at f' (some 0) with decoder := od, hasDecoded := hd }) ∧
        OwesDc cfg G dc od hd [] q' ∧ ps.flatten ++ q' = q ∧ f'.content.length ≤ f.content.length := by
  intro fuel
  induction fuel with
  | zero =>
    intro r f p q acc _ _ _ _ hl
    omega
  | succ k ih =>
    intro r f p q acc hf hcl hp hO hl
    unfold rcLoop
    rcases updateChunkLength_ref r f hf hcl hp with ⟨hv, _⟩ | ⟨_, rfl, f1, e1, hl1⟩ | ⟨n, f1, e1, hp1, hl1⟩
    · cases hv
    · rw [e1]
      exact ⟨[], f1, r.decoder, r.hasDecoded, q, by simp [R.at], hO, rfl, hl1⟩
    · rw [e1]
      obtain ⟨kk, f2, cl2, e2, hk, _, hp2, hcl2, hl2⟩ :=
        (handleChunk_ref (r.at f1 (some (n + 1))) f1 n amt rfl rfl hp1).resolve_left (fun h => nomatch h.1)
      -- `amt ≠ 0`: the pass takes at least one byte off the file, which is what the fuel counts
      have := hk hamt
      rw [← List.take_append_drop kk p] at hO
      obtain ⟨o, od, hd, e3, q1, rfl, hO3⟩ := decode_step D cfg hD dc (r.at f2 cl2) _ _ q hO
      obtain ⟨ps, f', od', hd', q', e4, hO', hcat, hl'⟩ :=
        ih { r.at f2 cl2 with decoder := od, hasDecoded := hd } f2 _ q1 (if o.isEmpty then acc else acc ++ [o])
          rfl hcl2 hp2 hO3 (by omega)
      refine ⟨(if o.isEmpty then [] else [o]) ++ ps, f', od', hd', q', ?_, hO', ?_, by omega⟩
      · have hne : ¬ (some (n + 1) = some 0) := nofun
        simp only [R.at, hne, if_false] at e2 e3 e4 ⊢
        simp only [e2, e3, e4]
        split <;> simp
      · rw [← hcat]
        split
        · rename_i h
          rw [List.isEmpty_iff.mp h]
          rfl
        · simp

theorem rcTrailer_ok : ∀ (fuel : Nat) (r : R H δ) (f : Fp), r.fp.fp = some f → f.content.length < fuel →
    ∃ f', rcTrailer hSrc fuel r = (.ok (), { r with fp := { r.fp with fp := some f' } }) := by
  intro fuel
  induction fuel with
  | zero =>
    intro r f _ hl
    omega
  | succ k ih =>
    intro r f hf hl
    unfold rcTrailer
    rw [show hSrc.readline r.fp = _ from hFpReadline_eq r.fp f hf]
    dsimp only
    split
    · exact ⟨_, rfl⟩
    · rename_i hc
      have hne : 0 < (lineOf f.content).length :=
        List.length_pos_iff.mpr (fun h0 => hc (Or.inl (by rw [h0]; rfl)))
      have := lineOf_length_le f.content
      exact ih { r with fp := { r.fp with fp := some (fpReadline f).2 } } (fpReadline f).2 rfl
        (by rw [(fpReadline_spec f).2.1, List.length_drop]; omega)

/-- the state `read_chunked` must be started in: nothing buffered, urllib3's and `http.client`'s
chunk bookkeeping both at a size line (the start of the body; `read(0)` calls do not matter) -/
structure Fresh (r : R H δ) : Prop where
  nobuf : bqAll r.buf = []
  noleft : r.chunkLeft = none
  hleft : r.fp.chunkLeft = none

/-- `read_chunked(amt, decode_content)` from the start of a well-framed chunked body whose raw bytes
are `p`, `_init_decoder` done (`Settled`): its pieces are what the decoder (`dc`) or nobody (`¬ dc`)
makes of `p` -/
theorem readChunked_core (hD : StreamLaw D G) (amt : Option Nat) (hamt : amt ≠ some 0) (dc : Bool)
    (hch : cfg.chunked = true) (hhd : cfg.head = false) (r : R H δ) (f : Fp) (p q : Bytes)
    (hs : Settled cfg r.decoder) (hf : r.fp.fp = some f) (hp : Ref none f.content p true)
    (hcl : r.chunkLeft = none) (hO : OwesDc cfg G dc r.decoder r.hasDecoded p q) (hfuel : f.content.length < cfg.fuel) :
    ∃ ps od hd, readChunked hSrc D cfg r amt dc =
        ((ps, none), relIf hSrc { r with fp := r.fp.close, chunkLeft := some 0, decoder := od, hasDecoded := hd }) ∧
      ps.flatten = q ∧ (dc = true → Due cfg G od [] []) := by
  unfold readChunked
  have hopen : hSrc.isclosed r.fp = false := by simp [hSrc, H.isclosed, hf]
  simp only [hch, hhd, hopen, initDec_settled cfg r hs, Bool.not_true, Bool.false_eq_true, if_false]
  obtain ⟨ps, f1, od, hd, q', e1, hO1, hcat, hl1⟩ :=
    rcLoop_ref D cfg hD amt hamt dc cfg.fuel r f p q [] hf (by rw [hcl]; nofun) (by rw [hcl]; exact hp) hO hfuel
  rw [e1]
  have tail : ∀ od2 : Option δ, ∃ f3,
      rcTrailer hSrc cfg.fuel ({ r.at f1 (some 0) with decoder := od2, hasDecoded := hd } : R H δ) =
        (.ok (), { r.at f3 (some 0) with decoder := od2, hasDecoded := hd }) :=
    fun od2 => rcTrailer_ok cfg.fuel _ f1 rfl (Nat.lt_of_le_of_lt hl1 hfuel)
  cases dc with
  | false =>
    obtain ⟨f3, e3⟩ := tail od
    simp only [Bool.false_eq_true, if_false, e3]
    exact ⟨ps, od, hd, by simp only [List.nil_append]; rfl, by rw [← hcat, hO1.2, List.append_nil], nofun⟩
  | true =>
    -- the flush adds nothing, as the decoder owes nothing for no input
    obtain ⟨rfl, od2, e2, _, hdue⟩ := flushDecoder_done D cfg hD
      ({ r.at f1 (some 0) with decoder := od, hasDecoded := hd } : R H δ) q' hO1
    obtain ⟨f3, e3⟩ := tail od2
    simp only [if_true, e2, List.isEmpty_nil, e3]
    exact ⟨ps, od2, hd, by simp only [List.nil_append]; rfl, by rw [← hcat, List.append_nil], fun _ => hdue⟩

theorem readChunked_initDec (r : R H δ) (amt : Option Nat) (dc : Bool) :
    readChunked hSrc D cfg r amt dc = readChunked hSrc D cfg { r with decoder := effDec cfg r.decoder } amt dc := by
  unfold readChunked
  rw [initDec_eq, initDec_settled cfg { r with decoder := effDec cfg r.decoder } (settled_effDec cfg r.decoder)]

theorem readChunked_closed (hch : cfg.chunked = true) (hhd : cfg.head = false) (r : R H δ) (amt : Option Nat)
    (dc : Bool) (hf : r.fp.fp = none) :
    readChunked hSrc D cfg r amt dc = (([], none), relIf hSrc { r with decoder := effDec cfg r.decoder }) := by
  have hcl : hSrc.isclosed r.fp = true := by simp [hSrc, H.isclosed, hf]
  unfold readChunked
  simp only [hch, hhd, initDec_eq, hcl, Bool.not_true, Bool.false_eq_true, if_false, if_true]
  rfl

/-- **`read_chunked(amt, decode_content=True)`** from the start of a well-framed chunked body,
`amt ≠ 0`: terminates, never raises, the pieces concatenate to the decoded payload, and the
response is left at its end with the file closed -/
theorem readChunked_on (hD : StreamLaw D G) (amt : Option Nat) (hamt : amt ≠ some 0)
    (hch : cfg.chunked = true) (hhd : cfg.head = false) (r : R H δ) (payload : Bytes)
    (hinv : Inv cfg cRem CI G r payload) (hfr : Fresh r)
    (hfuel : ∀ f, r.fp.fp = some f → f.content.length < cfg.fuel) :
    ∃ ps r', readChunked hSrc D cfg r amt true = ((ps, none), r') ∧ ps.flatten = payload ∧
      Inv cfg cRem CI G r' [] ∧ hSrc.isclosed r'.fp = true := by
  obtain ⟨p, hdue, hp⟩ := hinv.due
  obtain ⟨hci, hlr⟩ := hinv.framing
  rw [hfr.nobuf, List.nil_append] at hp
  subst hp
  -- an `Inv … []` for a closed response
  have fin : ∀ (h : H) (od : Option δ) (hd : Bool) (cl : Option Nat), h.fp = none → CInv h → Due cfg G od [] [] →
      Inv cfg cRem CI G (relIf hSrc { r with fp := h, chunkLeft := cl, decoder := od, hasDecoded := hd }) [] ∧
      hSrc.isclosed (relIf hSrc { r with fp := h, chunkLeft := cl, decoder := od, hasDecoded := hd }).fp = true := by
    intro h od hd cl hf hc hdue0
    rw [relIf_eq]
    refine ⟨⟨⟨hc, hlr⟩, [], ?_, by rw [List.append_nil]; exact hfr.nobuf⟩, by simp [hSrc, H.isclosed, hf]⟩
    show Owes G (effDec cfg od) (cRem h) []
    rw [hdue0.1, cRem_none hf]
    exact hdue0.2
  cases hf : r.fp.fp with
  | none =>
    have hrem : cRem r.fp = [] := cRem_none hf
    rw [hrem] at hdue
    have hp : p = [] := hdue.nil D cfg hD
    obtain ⟨f1, f2⟩ := fin r.fp (effDec cfg r.decoder) r.hasDecoded r.chunkLeft hf hci (hp ▸ hdue)
    exact ⟨[], _, readChunked_closed D cfg hch hhd r amt true hf, by rw [hp]; rfl, f1, f2⟩
  | some f =>
    obtain ⟨_, href⟩ := hci.ref f hf
    rw [hfr.hleft] at href
    rw [readChunked_initDec]
    obtain ⟨ps, od, hd, h1, h2, h3⟩ := readChunked_core D cfg hD amt hamt true hch hhd
      { r with decoder := effDec cfg r.decoder } f (cRem r.fp) p hdue.1 hf href hfr.noleft hdue (hfuel f hf)
    obtain ⟨f1, f2⟩ := fin r.fp.close od hd (some 0) rfl (CInv_close r.fp hci) (h3 rfl)
    exact ⟨ps, _, h1, h2, f1, f2⟩

/-- the same with `decode_content=False`: the pieces are the de-chunked raw body -/
theorem readChunked_raw (amt : Option Nat) (hamt : amt ≠ some 0)
    (hch : cfg.chunked = true) (hhd : cfg.head = false) (r : R H δ) (raw : Bytes)
    (hinv : RawInv cRem CI r raw) (hfr : Fresh r)
    (hfuel : ∀ f, r.fp.fp = some f → f.content.length < cfg.fuel) :
    ∃ ps r', readChunked hSrc D cfg r amt false = ((ps, none), r') ∧ ps.flatten = raw ∧
      hSrc.isclosed r'.fp = true := by
  obtain ⟨⟨hci, _⟩, hnd, _, rfl⟩ := hinv
  cases hf : r.fp.fp with
  | none =>
    refine ⟨[], _, readChunked_closed D cfg hch hhd r amt false hf, by rw [cRem_none hf]; rfl, ?_⟩
    rw [relIf_eq]
    simp [hSrc, H.isclosed, hf]
  | some f =>
    obtain ⟨_, href⟩ := hci.ref f hf
    rw [hfr.hleft] at href
    rw [readChunked_initDec]
    -- the decoder law is irrelevant with decoding off: use the trivial one
    obtain ⟨ps, od, hd, h1, h2, _⟩ := readChunked_core D cfg (G := fun _ _ _ => False)
      ⟨fun _ _ _ _ h => h.elim, fun _ _ h => h.elim⟩ amt hamt false hch hhd
      { r with decoder := effDec cfg r.decoder } f (cRem r.fp) (cRem r.fp) (settled_effDec cfg _) hf href hfr.noleft
      ⟨hnd, rfl⟩ (hfuel f hf)
    refine ⟨ps, _, h1, h2, ?_⟩
    rw [relIf_eq]
    rfl

end
end U3.Resp
