import U3.Model.Lru
/-! Lemmas for C17.  `U3.Lru`: every `step` has one of the shapes of `StepRel`; `U3.Conc`: every `tstep`
one of `TRel`; the invariants are shown shape by shape and lifted to `run` / `exec`.  `U3.Mgr`: the
manager's pool cache is a container run on `cacheOps`, so it inherits what holds of `run`. -/
namespace U3.Lru

variable {l : Items} {k : Key} {v : Val} {r : Items}

theorem pop_some (h : pop l k = some (v, r)) : ∃ l1 l2, l = l1 ++ (k, v) :: l2 ∧ r = l1 ++ l2 := by
  fun_induction pop l k generalizing v r with
  | case1 | case4 => simp at h
  | case2 v' t =>
    cases h
    exact ⟨[], t, rfl, rfl⟩
  | case3 k' v' t k hk w r' hp ih =>
    cases h
    obtain ⟨l1, l2, rfl, rfl⟩ := ih hp
    exact ⟨(k', v') :: l1, l2, rfl, rfl⟩

theorem pop_none (h : pop l k = none) : ∀ p ∈ l, p.1 ≠ k := by
  fun_induction pop l k <;> grind

theorem pop_perm (h : pop l k = some (v, r)) : l.Perm ((k, v) :: r) := by
  obtain ⟨l1, l2, rfl, rfl⟩ := pop_some h
  exact List.perm_middle

theorem pop_sublist (h : pop l k = some (v, r)) : r.Sublist l := by
  obtain ⟨l1, l2, rfl, rfl⟩ := pop_some h
  simp

theorem pop_mem (h : pop l k = some (v, r)) : (k, v) ∈ l :=
  (pop_perm h).mem_iff.mpr (List.mem_cons_self ..)

theorem pop_isSome_iff {l : Items} {k : Key} : (pop l k).isSome ↔ k ∈ l.map (·.1) := by
  rw [List.mem_map]
  cases hp : pop l k with
  | none => exact ⟨nofun, fun ⟨a, ha, hk⟩ => absurd hk (pop_none hp a ha)⟩
  | some x => exact ⟨fun _ => ⟨(k, x.1), pop_mem hp, rfl⟩, fun _ => rfl⟩

theorem pop_length (h : pop l k = some (v, r)) : r.length + 1 = l.length :=
  (pop_perm h).length_eq.symm

theorem pop_fresh (h : pop l k = some (v, r)) (hn : (l.map (·.1)).Nodup) :
    ∀ a ∈ r, a.1 ≠ k := by
  have : (k :: r.map (·.1)).Nodup := ((pop_perm h).map _).nodup hn
  exact fun a ha e => (List.nodup_cons.mp this).1 (e ▸ List.mem_map_of_mem ha)

theorem pop_unique {l : Items} {k v r w} (h : pop l k = some (v, r)) (hn : (l.map (·.1)).Nodup)
    (hm : (k, w) ∈ l) : w = v := by
  rcases List.mem_cons.mp ((pop_perm h).mem_iff.mp hm) with he | hr
  · exact (Prod.mk.inj he).2
  · exact absurd rfl (pop_fresh h hn _ hr)

/-- the shapes of a `step`: the container after it and the values it disposes of.  The `Out` returned is not
carried, the invariants do not speak of it (which is why `set_popitem_total` stands apart).  `refresh` is a hit of
`get`, `in` or `.get()`: the operations with `touches op = some k` that insert nothing.  `same` is every step that
leaves the container as it is: their misses, a `del` of an absent key, `len`, `keys`. -/
inductive StepRel (c : C) : Op → C → List Val → Prop
  | refresh {op : Op} {k : Key} {v : Val} {rest : Items} (hp : pop c.items k = some (v, rest))
      (hop : touches op = some k) (hins : inserted [op] = []) :
      StepRel c op { c with items := rest ++ [(k, v)] } []
  | replace {k : Key} {v old : Val} {rest : Items} (hp : pop c.items k = some (old, rest)) :
      StepRel c (.set k v) { c with items := rest ++ [(k, v)] } [old]
  | same {op : Op} (hins : inserted [op] = []) (hmiss : ∀ k, touches op = some k → pop c.items k = none) :
      StepRel c op c []
  | insert {k : Key} {v : Val} (hp : pop c.items k = none) (hle : c.items.length + 1 ≤ c.cap) :
      StepRel c (.set k v) { c with items := c.items ++ [(k, v)] } []
  | evict {k : Key} {v : Val} {ek : Key} {ev : Val} {rest : Items} (hp : pop c.items k = none)
      (hgt : c.cap < c.items.length + 1) (he : c.items ++ [(k, v)] = (ek, ev) :: rest) :
      StepRel c (.set k v) { c with items := rest } [ev]
  | delete {k : Key} {v : Val} {rest : Items} (hp : pop c.items k = some (v, rest)) :
      StepRel c (.del k) { c with items := rest } [v]
  | clear : StepRel c .clear { c with items := [] } (c.items.map (·.2))

/-- `__setitem__` of a key that is not present: insert at the end, then `popitem(last=False)` if the
container has grown beyond `maxsize` -/
theorem step_set_miss {c : C} {k : Key} (v : Val) (hp : pop c.items k = none) :
    (c.items.length < c.cap ∧ step c (.set k v) = ({ c with items := c.items ++ [(k, v)] }, .unit, [])) ∨
    (c.cap ≤ c.items.length ∧ ∃ ek ev rest, c.items ++ [(k, v)] = (ek, ev) :: rest ∧
      step c (.set k v) = ({ c with items := rest }, .unit, [ev])) := by
  simp only [step, hp, List.length_append, List.length_singleton]
  by_cases hlt : c.items.length < c.cap
  · exact .inl ⟨hlt, by rw [if_neg (by omega)]⟩
  · rw [if_pos (by omega)]
    rcases h : c.items ++ [(k, v)] with _ | ⟨⟨ek, ev⟩, rest⟩
    · simp at h
    · exact .inr ⟨by omega, ek, ev, rest, rfl, rfl⟩

theorem step_rel (c : C) (op : Op) : StepRel c op (step c op).1 (step c op).2.2 := by
  cases op with
  | get k | has k | mget k =>
    simp only [step, touch]
    cases hp : pop c.items k with
    | none => exact .same rfl (by rintro _ ⟨⟩; exact hp)
    | some x => exact .refresh hp rfl rfl
  | set k v =>
    cases hp : pop c.items k with
    | some x =>
      simp only [step, hp]
      exact .replace hp
    | none =>
      rcases step_set_miss v hp with ⟨hlt, hs⟩ | ⟨hge, ek, ev, rest, he, hs⟩
      · rw [hs]
        exact .insert hp hlt
      · rw [hs]
        exact .evict hp (Nat.lt_succ_of_le hge) he
  | del k =>
    simp only [step]
    cases hp : pop c.items k with
    | none => exact .same rfl nofun
    | some x => exact .delete hp
  | clear => exact .clear
  | len | keys => exact .same rfl nofun

/-- the `popitem()` on an empty dict branch of `__setitem__` is never taken -/
theorem set_popitem_total (c : C) (k : Key) (v : Val) : (step c (.set k v)).2.1 = .unit := by
  cases hp : pop c.items k with
  | some x => simp only [step, hp]
  | none => rcases step_set_miss v hp with ⟨_, hs⟩ | ⟨_, _, _, _, _, hs⟩ <;> rw [hs]

variable {c c' : C} {op : Op} {ds : List Val} {s : Stamps}

theorem StepRel.cap (h : StepRel c op c' ds) : c'.cap = c.cap := by
  cases h <;> rfl

theorem step_cap (c : C) (op : Op) : (step c op).1.cap = c.cap := (step_rel c op).cap

theorem StepRel.bounded {c c' : C} {op : Op} {ds : List Val} (hr : StepRel c op c' ds)
    (h : c.items.length ≤ c.cap) : c'.items.length ≤ c.cap := by
  cases hr with
  | refresh hp | replace hp | delete hp =>
    have := pop_length hp
    simp
    omega
  | same => exact h
  | insert hp hle =>
    simp
    omega
  | evict hp hgt he =>
    have := congrArg List.length he
    simp at this ⊢
    omega
  | clear => simp

theorem StepRel.conserve (hr : StepRel c op c' ds) :
    (c.items.map (·.2) ++ inserted [op]).Perm (c'.items.map (·.2) ++ ds) := by
  have snoc (v : Val) (l : List Val) : (v :: l).Perm (l ++ [v]) := (List.perm_append_singleton v l).symm
  cases hr with
  | refresh hp _ hins => simpa [hins] using ((pop_perm hp).map (·.2)).trans (snoc ..)
  | delete hp => simpa [inserted] using ((pop_perm hp).map (·.2)).trans (snoc ..)
  | @replace k v old rest hp =>
    have : (c.items.map (·.2)).Perm (old :: rest.map (·.2)) := (pop_perm hp).map _
    simpa [inserted] using (this.append_right [v]).trans (snoc old _)
  | same hins => rw [hins]
  | insert => simp [inserted]
  | evict hp hgt he =>
    have := congrArg (List.map (·.2)) he
    simp only [List.map_append, List.map_cons, List.map_nil] at this
    simpa [inserted, this] using snoc ..
  | clear => simp [inserted]

/-- the list order is the order of the last touches, and every stamp is in the past -/
def Recency (l : Items) (s : Stamps) : Prop :=
  l.Pairwise (fun a b => s.last a.1 < s.last b.1) ∧ ∀ a ∈ l, s.last a.1 < s.clock

theorem stampStep_last (s : Stamps) (op : Op) (k : Key) :
    (stampStep s op).last k = if touches op = some k then s.clock else s.last k := by
  simp only [stampStep]
  cases touches op <;> simp [eq_comm]

/-- stamps increase strictly along the list, so no key occurs twice -/
theorem Recency.nodup (h : Recency l s) : (l.map (·.1)).Nodup :=
  List.pairwise_map.mpr (h.1.imp fun hab e => by rw [e] at hab; exact Nat.lt_irrefl _ hab)

theorem Recency.sublist {l' : Items} (h : Recency l s) (hs : l'.Sublist l) : Recency l' s :=
  ⟨h.1.sublist hs, fun a ha => h.2 a (hs.subset ha)⟩

theorem Recency.keep (h : Recency l s)
    (hk : ∀ a ∈ l, touches op ≠ some a.1) : Recency l (stampStep s op) := by
  have he : ∀ a ∈ l, (stampStep s op).last a.1 = s.last a.1 :=
    fun a ha => by rw [stampStep_last, if_neg (hk a ha)]
  refine ⟨h.1.imp_of_mem fun ha hb hab => ?_, fun a ha => ?_⟩
  · rw [he _ ha, he _ hb]
    exact hab
  · rw [he _ ha]
    exact Nat.lt_succ_of_lt (h.2 a ha)

theorem Recency.snoc (v : Val) (h : Recency l s)
    (hop : touches op = some k) (hk : ∀ a ∈ l, a.1 ≠ k) : Recency (l ++ [(k, v)]) (stampStep s op) := by
  have hne : ∀ a ∈ l, touches op ≠ some a.1 := fun a ha e => hk a ha (Option.some.inj (hop.symm.trans e)).symm
  have hlast : (stampStep s op).last k = s.clock := by rw [stampStep_last, if_pos hop]
  refine ⟨List.pairwise_append.mpr ⟨(h.keep hne).1, List.pairwise_singleton .., fun a ha b hb => ?_⟩,
    fun a ha => ?_⟩
  · cases List.mem_singleton.mp hb
    rw [hlast, stampStep_last, if_neg (hne a ha)]
    exact h.2 a ha
  · rcases List.mem_append.mp ha with ha | ha
    · exact (h.keep hne).2 a ha
    · cases List.mem_singleton.mp ha
      exact hlast ▸ Nat.lt_succ_self _

theorem StepRel.recency (hr : StepRel c op c' ds)
    (h : Recency c.items s) : Recency c'.items (stampStep s op) := by
  cases hr with
  | refresh hp hop => exact .snoc _ (h.sublist (pop_sublist hp)) hop (pop_fresh hp h.nodup)
  | replace hp => exact .snoc _ (h.sublist (pop_sublist hp)) rfl (pop_fresh hp h.nodup)
  | same _ hmiss => exact h.keep fun a ha e => pop_none (hmiss _ e) a ha rfl
  | insert hp => exact .snoc _ h rfl (pop_none hp)
  | evict hp _ he => exact (he ▸ h.snoc _ rfl (pop_none hp)).sublist (List.sublist_cons_self ..)
  | delete hp => exact (h.sublist (pop_sublist hp)).keep fun _ _ => nofun
  | clear => exact ⟨.nil, nofun⟩

/-- what holds of a container of size `cap` in every reachable state; `s` are the stamps of the operations so far -/
structure RunInv (cap : Nat) (c : C) (s : Stamps) : Prop where
  cap_eq : c.cap = cap
  bounded : c.items.length ≤ cap
  recency : Recency c.items s

theorem RunInv.step {cap : Nat} (h : RunInv cap c s) (hr : StepRel c op c' ds) : RunInv cap c' (stampStep s op) := by
  obtain ⟨rfl, hb, hrec⟩ := h
  exact ⟨hr.cap, hr.bounded hb, hr.recency hrec⟩

theorem run_inv {cap : Nat} (ops : List Op) (h : RunInv cap c s) : RunInv cap (run c ops).c (stamps s ops) := by
  induction ops generalizing c s with
  | nil => exact h
  | cons op ops ih => exact ih (h.step (step_rel c op))

theorem run_new (cap : Nat) (ops : List Op) : RunInv cap (run (new cap) ops).c (stamps .init ops) :=
  run_inv ops ⟨rfl, Nat.zero_le _, .nil, nofun⟩

theorem inserted_cons (op : Op) (ops : List Op) : inserted (op :: ops) = inserted [op] ++ inserted ops := by
  cases op <;> rfl

theorem inserted_append (a b : List Op) : inserted (a ++ b) = inserted a ++ inserted b := by
  induction a with
  | nil => rfl
  | cons op a ih => rw [List.cons_append, inserted_cons, inserted_cons op a, ih, List.append_assoc]

theorem run_conserve (c : C) (ops : List Op) :
    (c.items.map (·.2) ++ inserted ops).Perm ((run c ops).c.items.map (·.2) ++ (run c ops).disposed) := by
  induction ops generalizing c with
  | nil => exact .refl _
  | cons op ops ih =>
    -- items ++ ins op ++ ins ops ~ items' ++ (ds ++ ins ops) ~ ds ++ (items' ++ ins ops) ~ ds ++ (final ++ disposed)
    rw [inserted_cons, ← List.append_assoc]
    refine ((step_rel c op).conserve.append_right _).trans ?_
    rw [List.append_assoc]
    exact (List.perm_append_comm_assoc ..).trans (((ih _).append_left _).trans (List.perm_append_comm_assoc ..))

theorem run_append (c : C) (a b : List Op) :
    run c (a ++ b) = { c := (run (run c a).c b).c, outs := (run c a).outs ++ (run (run c a).c b).outs,
                       disposed := (run c a).disposed ++ (run (run c a).c b).disposed } := by
  induction a generalizing c with
  | nil => rfl
  | cons op a ih => simp [run, ih]

end U3.Lru

namespace U3.Conc
open U3.Lru (Val)

variable {S O R : Type} (stepf : S → O → S × R × List Val) {cfg cfg' : Cfg S O R} {i : Nat}
  {s0 : S} {progs : List (List O)}

theorem set_split {α : Type} {l : List α} {t : α} (h : l[i]? = some t) :
    ∃ l1 l2, l = l1 ++ t :: l2 ∧ ∀ a, l.set i a = l1 ++ a :: l2 := by
  obtain ⟨hi, rfl⟩ := List.getElem?_eq_some_iff.mp h
  refine ⟨l.take i, l.drop (i + 1), by simp, fun a => ?_⟩
  rw [List.set_eq_take_append_cons_drop, if_pos hi]

theorem map_set_same {α β : Type} {l : List α} {t a : α} {f : α → β} (ht : l[i]? = some t)
    (hf : f a = f t) : (l.set i a).map f = l.map f := by
  obtain ⟨l1, l2, rfl, hs⟩ := set_split ht
  simp [hs, hf]

/-- the five kinds of scheduling steps, with what the invariants use of each -/
inductive TRel (stepf : S → O → S × R × List Val) (cfg : Cfg S O R) (i : Nat) : Cfg S O R → Prop
  | stutter : TRel stepf cfg i cfg
  | dispose {t : Thread O R} {v : Val} {rest : List Val} (ht : cfg.threads[i]? = some t) (hp : t.pend = v :: rest) :
      TRel stepf cfg i { cfg with threads := cfg.threads.set i { t with pend := rest }, log := cfg.log ++ [(i, v)] }
  | release {t : Thread O R} (ht : cfg.threads[i]? = some t) (hph : t.phase = .locked) :
      TRel stepf cfg i { cfg with threads := cfg.threads.set i { t with phase := .idle }, owner := none }
  | body {t : Thread O R} {op : O} {rest : List O} (ht : cfg.threads[i]? = some t) (hp : t.pend = [])
      (hph : t.phase = .locked) (htodo : t.todo = op :: rest) :
      TRel stepf cfg i
        { cfg with st := (stepf cfg.st op).1,
                   threads := cfg.threads.set i
                     { todo := rest, phase := .idle, pend := (stepf cfg.st op).2.2,
                       results := t.results ++ [(stepf cfg.st op).2.1] },
                   owner := none,
                   hist := cfg.hist ++ [(i, op)] }
  | acquire {t : Thread O R} (ht : cfg.threads[i]? = some t) (hp : t.pend = []) (hfree : cfg.owner = none) :
      TRel stepf cfg i { cfg with threads := cfg.threads.set i { t with phase := .locked }, owner := some i }

theorem tstep_rel (cfg : Cfg S O R) (i : Nat) : TRel stepf cfg i (tstep stepf cfg i) := by
  unfold tstep
  split
  · exact .stutter
  next t ht =>
  split
  next v rest hp => exact .dispose ht hp
  next hp =>
  split
  next hph =>
    split
    next => exact .release ht hph
    next op rest htodo => exact .body ht hp hph htodo
  next hph =>
    split
    next => exact .stutter
    next =>
      split
      next hfree => exact .acquire ht hp (by simpa using hfree)
      next => exact .stutter

theorem exec_induction {P : Cfg S O R → Prop} (hstep : ∀ {cfg i cfg'}, P cfg → TRel stepf cfg i cfg' → P cfg')
    (σ : List Nat) (h0 : P cfg) : P (exec stepf cfg σ) := by
  induction σ generalizing cfg with
  | nil => exact h0
  | cons i σ ih => exact ih (hstep h0 (tstep_rel stepf cfg i))

/-- the lock is owned by exactly the thread in phase `locked`, and a thread inside the lock has no
pending dispose calls -/
def LockInv (cfg : Cfg S O R) : Prop :=
  (∀ j, cfg.owner = some j ↔ (cfg.threads.map (·.phase))[j]? = some .locked) ∧
  ∀ t ∈ cfg.threads, t.phase = .locked → t.pend = []

variable {stepf}

theorem LockInv.step (h : LockInv cfg) (hr : TRel stepf cfg i cfg') : LockInv cfg' := by
  obtain ⟨h1, h2⟩ := h
  have mem {t t' : Thread O R} (ht : cfg.threads[i]? = some t) (ht' : t'.phase = .locked → t'.pend = []) :
      ∀ u ∈ cfg.threads.set i t', u.phase = .locked → u.pend = [] := fun u hu =>
    (List.mem_or_eq_of_mem_set hu).elim (h2 u) (· ▸ ht')
  cases hr with
  | stutter => exact ⟨h1, h2⟩
  | @dispose t v rest ht hp =>
    have hnl : t.phase ≠ .locked := fun hl => by cases hp.symm.trans (h2 t (List.mem_of_getElem? ht) hl)
    refine ⟨fun j => ?_, mem ht (fun hl => absurd hl hnl)⟩
    rw [map_set_same (a := { t with pend := rest }) ht rfl]
    exact h1 j
  | release ht hph | body ht _ hph =>
    refine ⟨fun j => ?_, mem ht nofun⟩
    rw [List.map_set, List.getElem?_set]
    by_cases hij : i = j
    · simp [hij]
    · rw [if_neg hij, ← h1, (h1 i).mpr (by rw [List.getElem?_map, ht, ← hph]; rfl)]
      simp [hij]
  | acquire ht hp hfree =>
    refine ⟨fun j => ?_, mem ht (fun _ => hp)⟩
    rw [List.map_set, List.getElem?_set]
    by_cases hij : i = j
    · simp [← hij, (List.getElem?_eq_some_iff.mp ht).1]
    · rw [if_neg hij, ← h1, hfree]
      simp [hij]

variable (stepf) in
theorem lockInv_exec (s : S) (progs : List (List O)) (σ : List Nat) :
    LockInv (exec stepf (Cfg.init s progs) σ) := by
  refine exec_induction stepf LockInv.step σ ⟨fun j => ?_, fun t ht => ?_⟩
  · simp [Cfg.init, Thread.init]
  · obtain ⟨p, -, rfl⟩ := List.mem_map.mp ht
    nofun

theorem action_iff :
    (action cfg i = .dispose ↔ ∃ t, cfg.threads[i]? = some t ∧ t.pend ≠ []) ∧
    (action cfg i = .body ↔ ∃ t, cfg.threads[i]? = some t ∧ t.pend = [] ∧ t.phase = .locked) := by
  unfold action
  cases cfg.threads[i]? with
  | none => simp
  | some t =>
    simp only [Option.some.injEq, exists_eq_left']
    rcases t with ⟨todo, _ | _, _ | _, results⟩ <;> simp
    cases todo <;> simp
    split <;> simp

def pending (cfg : Cfg S O R) : List Val := (cfg.threads.map (·.pend)).flatten

theorem pending_set {l : List (Thread O R)} {t : Thread O R} (ht : l[i]? = some t) (y : List Val) :
    (((l.map (·.pend)).set i y).flatten ++ t.pend).Perm ((l.map (·.pend)).flatten ++ y) := by
  have ht' : (l.map (·.pend))[i]? = some t.pend := by rw [List.getElem?_map, ht]; rfl
  obtain ⟨l1, l2, hl, hs⟩ := set_split ht'
  rw [hs, hl]
  simp only [List.flatten_append, List.flatten_cons, List.append_assoc]
  exact .append_left _ ((List.perm_append_comm_assoc ..).trans
    ((List.perm_append_comm.append_left _).trans (List.perm_append_comm_assoc ..)))

theorem seqRun_snoc (s : S) (n : Nat) (h : List (Nat × O)) (e : Nat × O) :
    seqRun stepf s n (h ++ [e]) = seqStep stepf (seqRun stepf s n h) e :=
  by simp [seqRun]

theorem histOf_append (progs : List (List O)) (τ τ' : List Nat) :
    histOf progs (τ ++ τ') = histOf progs τ ++ histOf (restOf progs τ) τ' := by
  fun_induction histOf progs τ <;> simp [histOf, restOf, *]

theorem restOf_append (progs : List (List O)) (τ τ' : List Nat) :
    restOf progs (τ ++ τ') = restOf (restOf progs τ) τ' := by
  fun_induction restOf progs τ <;> simp [restOf, *]

/-- the history is the interleaving of the programs chosen by the lock order `τ` (program order is
respected, what is left to do is what `τ` leaves), and the shared state, the results and the dispose
calls made or pending are those of the sequential run of that interleaving -/
structure LinInv (stepf : S → O → S × R × List Val) (s0 : S) (progs : List (List O)) (cfg : Cfg S O R) : Prop where
  hist : cfg.hist = histOf progs (cfg.hist.map (·.1))
  todo : cfg.threads.map (·.todo) = restOf progs (cfg.hist.map (·.1))
  st : cfg.st = (seqRun stepf s0 progs.length (histOf progs (cfg.hist.map (·.1)))).st
  res : cfg.threads.map (·.results) = (seqRun stepf s0 progs.length (histOf progs (cfg.hist.map (·.1)))).results
  disp : (cfg.log.map (·.2) ++ pending cfg).Perm
    (seqRun stepf s0 progs.length (histOf progs (cfg.hist.map (·.1)))).disposed

variable (stepf) in
theorem LinInv.init (s : S) (progs : List (List O)) :
    LinInv stepf s progs (Cfg.init s progs) := by
  constructor <;>
    simp [Cfg.init, Thread.init, seqRun, Seq.init, pending, histOf, restOf, Function.comp_def, List.map_const']

theorem LinInv.silent (h : LinInv stepf s0 progs cfg) (hst : cfg'.st = cfg.st) (hhist : cfg'.hist = cfg.hist)
    (htodo : cfg'.threads.map (·.todo) = cfg.threads.map (·.todo))
    (hres : cfg'.threads.map (·.results) = cfg.threads.map (·.results))
    (hdisp : (cfg'.log.map (·.2) ++ pending cfg').Perm (cfg.log.map (·.2) ++ pending cfg)) :
    LinInv stepf s0 progs cfg' := by
  constructor <;> rw [hhist]
  · exact h.hist
  · exact htodo.trans h.todo
  · exact hst.trans h.st
  · exact hres.trans h.res
  · exact hdisp.trans h.disp

theorem LinInv.step (h : LinInv stepf s0 progs cfg) (hr : TRel stepf cfg i cfg') : LinInv stepf s0 progs cfg' := by
  cases hr with
  | stutter => exact h
  | @dispose t v rest ht hp =>
    refine h.silent rfl rfl (map_set_same ht rfl) (map_set_same ht rfl) ?_
    have := pending_set ht rest
    rw [hp, List.append_cons, List.perm_append_right_iff] at this
    simpa [pending] using (List.perm_append_comm.trans this).append_left _
  | release ht | acquire ht =>
    exact h.silent rfl rfl (map_set_same ht rfl) (map_set_same ht rfl)
      (.of_eq (congrArg (_ ++ List.flatten ·) (map_set_same ht rfl)))
  | @body t op rest ht hp hph htodo =>
    obtain ⟨h1, h2, h3, h4, h5⟩ := h
    have hi : (restOf progs (cfg.hist.map (·.1)))[i]? = some (op :: rest) := by
      rw [← h2]
      simp only [List.getElem?_map, ht, Option.map_some, htodo]
    have hh : histOf progs ((cfg.hist ++ [(i, op)]).map (·.1)) = histOf progs (cfg.hist.map (·.1)) ++ [(i, op)] := by
      rw [List.map_append, histOf_append]
      simp only [List.map, histOf, hi]
    refine ⟨by rw [hh, ← h1], ?_, ?_, ?_, ?_⟩
    · rw [List.map_append, restOf_append, List.map_set, h2]
      simp only [List.map, restOf, hi]
    all_goals
      dsimp only
      rw [hh, seqRun_snoc, seqStep]
    · rw [h3]
    · rw [List.map_set, ← h4, ← h3]
      simp only [List.getElem?_map, ht, Option.map_some, Option.getD_some]
    · have := pending_set ht (stepf cfg.st op).2.2
      rw [hp, List.append_nil] at this
      rw [pending, List.map_set, ← h3]
      refine (this.append_left _).trans ?_
      rw [← List.append_assoc]
      exact h5.append_right _

variable (stepf) in
theorem linInv_exec (s : S) (progs : List (List O)) (σ : List Nat) :
    LinInv stepf s progs (exec stepf (Cfg.init s progs) σ) :=
  exec_induction stepf LinInv.step σ (LinInv.init stepf s progs)

theorem done_iff : cfg.done = true ↔
    ∀ t ∈ cfg.threads, t.todo = [] ∧ t.pend = [] ∧ t.phase = .idle := by
  simp [Cfg.done, List.all_eq_true, and_assoc]

theorem pending_done (h : cfg.done = true) : pending cfg = [] := by
  rw [done_iff] at h
  simp only [pending, List.flatten_eq_nil_iff, List.mem_map]
  rintro l ⟨t, ht, rfl⟩
  exact (h t ht).2.1

theorem todo_done (h : cfg.done = true) : (cfg.threads.map (·.todo)).all List.isEmpty = true := by
  rw [done_iff] at h
  simp only [List.all_eq_true, List.mem_map]
  rintro l ⟨t, ht, rfl⟩
  simp [(h t ht).1]

theorem mem_allOrders {k n : Nat} {τ : List Nat} :
    τ ∈ allOrders k n ↔ τ.length = n ∧ ∀ i ∈ τ, i < k := by
  induction n generalizing τ with
  | zero => cases τ <;> simp [allOrders]
  | succ n ih => cases τ <;> simp [allOrders, ih, and_assoc, and_left_comm]

theorem histOf_length (progs : List (List O)) (τ : List Nat) :
    (histOf progs τ).length + ((restOf progs τ).map List.length).sum = (progs.map List.length).sum := by
  fun_induction histOf progs τ with
  | case1 => simp [restOf]
  | case2 progs i τ op rest h ih =>
    obtain ⟨l1, l2, rfl, hs⟩ := set_split h
    simp [restOf, h, hs] at ih ⊢
    omega
  | case3 progs i τ h ih => simpa [restOf, h] using ih

theorem histOf_lt (progs : List (List O)) (τ : List Nat) :
    ∀ e ∈ histOf progs τ, e.1 < progs.length := by
  fun_induction histOf progs τ with
  | case1 => nofun
  | case2 progs i τ op rest h ih =>
    rw [List.length_set] at ih
    exact List.forall_mem_cons.mpr ⟨(List.getElem?_eq_some_iff.mp h).1, ih⟩
  | case3 progs i τ h ih => exact ih

theorem LinInv.lockOrder_mem (h : LinInv stepf s0 progs cfg) (hd : cfg.done = true) :
    cfg.hist.map (·.1) ∈ lockOrders progs := by
  have hrest : (restOf progs (cfg.hist.map (·.1))).all List.isEmpty = true := h.todo ▸ todo_done hd
  refine List.mem_filter.mpr ⟨mem_allOrders.mpr ⟨?_, ?_⟩, hrest⟩
  · have h1 := histOf_length progs (cfg.hist.map (·.1))
    have h0 : ((restOf progs (cfg.hist.map (·.1))).map List.length).sum = 0 := by
      simpa [List.sum_eq_zero_iff_forall_eq_nat] using hrest
    rw [← h.hist, h0] at h1
    simpa using h1
  · rw [h.hist, List.forall_mem_map]
    exact histOf_lt progs _

end U3.Conc

namespace U3.Lru
open U3.Conc

theorem seqFold_eq_run (h : List (Nat × Op)) (q : Seq C Out) :
    (h.foldl (seqStep Lru.step) q).st = (run q.st (h.map (·.2))).c ∧
    (h.foldl (seqStep Lru.step) q).disposed = q.disposed ++ (run q.st (h.map (·.2))).disposed := by
  induction h generalizing q with
  | nil => simp [run]
  | cons e h ih => simpa [run, seqStep] using ih (seqStep Lru.step q e)

end U3.Lru

namespace U3.Mgr
open U3.Lru

variable {cap : Nat} {m : M} {op : MOp} {k : Key} {p q : PoolId} {r : Items}

theorem stepM_goc_hit (hp : pop m.cache.items k = some (p, r)) :
    stepM m (.goc k) = ({ m with cache := { m.cache with items := r ++ [(k, p)] }, refs := p :: m.refs },
                        .pool p false, []) := by
  simp [stepM, Lru.step, touch, hp]

theorem stepM_goc_miss (hp : pop m.cache.items k = none) :
    stepM m (.goc k) =
      ({ m with cache := (Lru.step m.cache (.set k m.next)).1, next := m.next + 1, refs := m.next :: m.refs,
                dropped := m.dropped ++ (Lru.step m.cache (.set k m.next)).2.2 }, .pool m.next true, []) := by
  have := set_popitem_total m.cache k m.next
  simp only [stepM, Lru.step, touch, hp] at this ⊢
  simp only [this]

/-- what an operation of the manager does to its `RecentlyUsedContainer` -/
def cacheOps (m : M) : MOp → List Op
  | .goc k => if (pop m.cache.items k).isSome then [.mget k] else [.set k m.next]
  | .clear => [.clear]
  | _ => []

/-- what the cache disposes of is dropped; what is inserted are the pool ids, allocated in order -/
theorem stepM_cache (m : M) (op : MOp) :
    (stepM m op).1.cache = (run m.cache (cacheOps m op)).c ∧
    (stepM m op).1.dropped = m.dropped ++ (run m.cache (cacheOps m op)).disposed ∧
    List.range (stepM m op).1.next = List.range m.next ++ inserted (cacheOps m op) := by
  cases op with
  | goc k =>
    cases hp : pop m.cache.items k with
    | some x => simp [stepM_goc_hit hp, cacheOps, hp, run, Lru.step, touch, inserted]
    | none => simp [stepM_goc_miss hp, cacheOps, hp, run, inserted, List.range_succ]
  | clear | release | gc | len => simp [stepM, cacheOps, run, inserted]

theorem stepM_closed (m : M) (op : MOp) : ∀ p ∈ (stepM m op).1.closed, p ∈ m.closed ∨ p ∈ m.dropped := by
  cases op with
  | goc k =>
    cases hp : pop m.cache.items k with
    | some x =>
      rw [stepM_goc_hit hp]
      exact fun p => .inl
    | none =>
      rw [stepM_goc_miss hp]
      exact fun p => .inl
  | gc =>
    intro p hp
    simp only [stepM, List.mem_append, List.mem_filter] at hp
    exact hp.imp_right (·.1)
  | clear | release | len => exact fun p => .inl

/-- pool ids are allocated once: cached and dropped pools are pairwise distinct and below `next`;
only dropped pools are ever closed -/
structure MInv (m : M) : Prop where
  nodup : (cached m ++ m.dropped).Nodup
  lt : ∀ p ∈ cached m ++ m.dropped, p < m.next
  closed : ∀ p ∈ m.closed, p ∈ m.dropped

/-- the states of a manager created with `num_pools = cap`: the cache is a `RecentlyUsedContainer` of
that size after some operation sequence which inserted exactly the pool ids allocated so far and
disposed of exactly the dropped pools -/
def Reach (cap : Nat) (m : M) : Prop :=
  (∃ ops, m.cache = (run (new cap) ops).c ∧ m.dropped = (run (new cap) ops).disposed ∧
    List.range m.next = inserted ops) ∧ ∀ p ∈ m.closed, p ∈ m.dropped

theorem Reach.init (cap : Nat) : Reach cap (M.new cap) := ⟨⟨[], rfl, rfl, rfl⟩, nofun⟩

theorem Reach.step (h : Reach cap m) (op : MOp) : Reach cap (stepM m op).1 := by
  obtain ⟨⟨ops, hc, hd, hi⟩, hcl⟩ := h
  obtain ⟨hc', hd', hi'⟩ := stepM_cache m op
  refine ⟨⟨ops ++ cacheOps m op, ?_, ?_, ?_⟩, fun p hp => ?_⟩
  · rw [run_append, ← hc, hc']
  · rw [run_append, ← hc, ← hd, hd']
  · rw [inserted_append, ← hi, hi']
  · rw [hd']
    exact List.mem_append_left _ ((stepM_closed m op p hp).elim (hcl p) id)

theorem Reach.run (h : Reach cap m) (ops : List MOp) : Reach cap (runM m ops) := by
  induction ops generalizing m with
  | nil => exact h
  | cons op ops ih => exact ih (h.step op)

/-- what the theorems read off a reachable state -/
structure Sound (cap : Nat) (m : M) : Prop where
  bounded : m.cache.items.length ≤ cap
  keys : (m.cache.items.map (·.1)).Nodup
  pools : MInv m

theorem Reach.inv (h : Reach cap m) : Sound cap m := by
  obtain ⟨⟨ops, hc, hd, hi⟩, hcl⟩ := h
  have hr := run_new cap ops
  rw [← hc] at hr
  have hperm : (List.range m.next).Perm (cached m ++ m.dropped) := by
    rw [hi, cached, hc, hd]
    exact run_conserve (new cap) ops
  exact ⟨hr.bounded, hr.recency.nodup, hperm.nodup List.nodup_range,
    fun p hp => List.mem_range.mp (hperm.mem_iff.mpr hp), hcl⟩

theorem MInv.cached_not_closed (h : MInv m) (hp : p ∈ cached m) : p ∉ m.closed :=
  fun hc => (List.nodup_append.mp h.nodup).2.2 p hp p (h.closed p hc) rfl

theorem stepM_mem {a : Key × Val} (ha : a ∈ (stepM m op).1.cache.items) :
    a ∈ m.cache.items ∨ ∃ k, op = .goc k ∧ pop m.cache.items k = none ∧ a = (k, m.next) := by
  cases op with
  | goc k =>
    cases hp : pop m.cache.items k with
    | some x =>
      rw [stepM_goc_hit hp] at ha
      exact .inl ((pop_perm hp).mem_iff.mpr (by simpa [or_comm] using ha))
    | none =>
      rw [stepM_goc_miss hp] at ha
      have : a ∈ m.cache.items ++ [(k, m.next)] := by
        rcases step_set_miss m.next hp with ⟨_, h⟩ | ⟨_, ek, ev, rest, he, h⟩ <;> rw [h] at ha
        · exact ha
        · exact he ▸ List.mem_cons_of_mem _ ha
      exact (List.mem_append.mp this).imp_right fun h => ⟨k, rfl, hp, List.mem_singleton.mp h⟩
  | clear => nomatch ha
  | release | gc | len => exact .inl ha

/-- the pool cached for a key only changes through absence of the key -/
theorem stepM_stable (h : Reach cap m)
    (hp : pop m.cache.items k = some (p, r)) (hq : (k, q) ∈ (stepM m op).1.cache.items) : q = p := by
  rcases stepM_mem hq with hm | ⟨_, _, hnone, he⟩
  · exact pop_unique hp h.inv.keys hm
  · cases he
    cases hnone.symm.trans hp

theorem runM_stays (h : Reach cap m) (ops : List MOp)
    (hp : pop m.cache.items k = some (p, r)) (hs : StaysCached k m ops) :
    ∃ r', pop (runM m ops).cache.items k = some (p, r') := by
  induction ops generalizing m r with
  | nil => exact ⟨r, hp⟩
  | cons op ops ih =>
    obtain ⟨⟨q, r'⟩, hx⟩ := Option.isSome_iff_exists.mp hs.1
    cases stepM_stable h hp (pop_mem hx)
    exact ih (h.step op) hx hs.2

theorem goc_cached (h : Reach cap m)
    (hq : (k, q) ∈ (stepM m (.goc k)).1.cache.items) : ∃ f, (stepM m (.goc k)).2.1 = .pool q f := by
  cases hp : pop m.cache.items k with
  | some x =>
    cases stepM_stable h hp hq
    exact ⟨false, by rw [stepM_goc_hit hp]⟩
  | none =>
    rcases stepM_mem hq with hm | ⟨_, _, _, he⟩
    · exact absurd rfl (pop_none hp _ hm)
    · cases he
      rw [stepM_goc_miss hp]
      exact ⟨true, rfl⟩

end U3.Mgr
