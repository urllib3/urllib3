import U3.Model.Pool
import U3.Lemmas.Pool
import U3.Lemmas.PoolProv
/-! What `PoolLink` and `PoolInv` both need beyond `PoolProv`: a response looked up after a step traced back to the
one before it (`resp_back`), the reader frame `KeepCH`, and which exceptions a read or a release can raise. -/
namespace U3.Pool

theorem resp_back {s s' : State} {r : Nat} {P : Resp → Resp → Prop} (hl : s'.resps.length = s.resps.length)
    (hf : ∀ rs : Resp, s.resps[r]? = some rs → ∃ rs' : Resp, s'.resps[r]? = some rs' ∧ P rs' rs) :
    ∀ rs' : Resp, s'.resps[r]? = some rs' → ∃ rs : Resp, s.resps[r]? = some rs ∧ P rs' rs := by
  intro rs' h
  have hrs := List.getElem?_eq_getElem (hl ▸ getElem?_lt h)
  obtain ⟨x, hx, px⟩ := hf _ hrs
  rw [h] at hx
  cases hx
  exact ⟨_, hrs, px⟩

theorem closeFp_back {s : State} {r : Nat} {rs' : Resp} (h : (closeFp s r).resps[r]? = some rs') :
    ∃ rs : Resp, s.resps[r]? = some rs ∧ rs' = { rs with fp := none, buf := rs'.buf } :=
  resp_back (P := fun rs' rs => rs' = { rs with fp := none, buf := rs'.buf }) (closeFp_fields s r).2.2.1
    (fun x hx => by obtain ⟨b, hb⟩ := closeFp_at hx; exact ⟨_, hb, rfl⟩) rs' h

/-- the connections and the `_pool` attribute of the response being read are untouched by the reader -/
def KeepCH (r : Nat) (s s' : State) : Prop :=
  s'.conns = s.conns ∧ ∀ rs' : Resp, s'.resps[r]? = some rs' → ∃ rs : Resp, s.resps[r]? = some rs ∧ rs'.hasPool = rs.hasPool

theorem keepCH_frame (r : Nat) : RFrame r (KeepCH r) where
  refl := fun s => ⟨rfl, fun rs' h => ⟨rs', h, rfl⟩⟩
  trans := by
    intro s t u a b
    refine ⟨by rw [b.1, a.1], fun rs' h => ?_⟩
    obtain ⟨rt, g1, g2⟩ := b.2 rs' h
    obtain ⟨rs, g3, g4⟩ := a.2 rt g1
    exact ⟨rs, g3, by rw [g2, g4]⟩
  close := fun s => ⟨(closeFp_fields s r).1, fun rs' h => by
    obtain ⟨rs, hrs, e⟩ := closeFp_back h; exact ⟨rs, hrs, by rw [e]⟩⟩
  setlen := fun s l => ⟨rfl, resp_back (by simp [setResp]) fun rs hrs => ⟨_, setResp_at _ hrs, rfl⟩⟩
  dirty := fun _ d => ⟨d.conns, resp_back d.rlen fun rs hrs => by
    obtain ⟨rx, hx, kp, _⟩ := d.rsame rs hrs; exact ⟨rx, hx, kp.hasPool⟩⟩

/-! which exceptions a read can raise: a failed preload read is never the `EmptyPoolError` that `urlopen` lets
through without cleaning up -/

theorem httpRead_cls (s : State) (r : Nat) (amt : Option Nat) (e : Exc) (h : (httpRead s r amt).2 = .exc e) : e.cls ∈ rawCls := by
  cases hc : respFpClosed s r with
  | true => rw [httpRead_closed amt hc] at h; cases h
  | false =>
    obtain ⟨rs, k, ho⟩ := respFpClosed_false hc
    generalize hh : httpRead s r amt = res at h
    obtain ⟨s1, out⟩ := res
    cases h
    rcases httpRead_cases ho hh with ⟨_, _, e'⟩ | ⟨_, _, e'⟩ | ⟨_, _, t, m, _, _, q⟩
    · cases e'
    · exact (hcReadChunked_spec e').cls e rfl
    · rcases q with ⟨e0, he0, hc0, _⟩ | ⟨hd, _⟩
      · cases he0
        exact hc0
      · cases hd

theorem putConn_exc (s : State) (x : Option Nat) (e : Exc) (h : (putConn s x).2 = some e) : e.cls = Gen.cU3FullPoolError := by
  rcases putConn_cases s x with ⟨_, _, q⟩ | ⟨_, _, _, q⟩ | ⟨_, _, _, q⟩ | ⟨_, q⟩ <;> rw [q] at h <;> cases h
  rfl

theorem releaseConn_exc (s : State) (r : Nat) (e : Exc) (h : (releaseConn s r).2 = some e) : e.cls = Gen.cU3FullPoolError := by
  rcases releaseConn_cases s r with ⟨q, _⟩ | ⟨_, c, _, _, _, ⟨_, _, q⟩ | ⟨_, q⟩⟩ <;> rw [q] at h
  · cases h
  · exact putConn_exc s _ e h
  · cases h

theorem errorCatcherExit_exc (s : State) (r : Nat) (b : Bool) (e : Exc) (h : (errorCatcherExit s r b).2 = some e) :
    e.cls = Gen.cU3FullPoolError := by
  have key : ∀ t : State, (if respFpClosed t r then releaseConn t r else (t, none)).2 = some e → e.cls = Gen.cU3FullPoolError := by
    intro t ht
    split at ht
    · exact releaseConn_exc t r e ht
    · cases ht
  cases b with
  | true => exact key s h
  | false => exact key (respClose s r) h

theorem translateRead_cls (e : Exc) : (translateRead e).cls = (translateRead (exc e.cls)).cls := by
  unfold translateRead exc
  grind

/-- what `_raw_read()` raises is `release_conn()`'s `FullPoolError`, or what `_error_catcher` makes of one of the reader's
classes: what holds of these holds of its class -/
theorem rawRead_cls {P : Cls → Prop} {s s' : State} {r : Nat} {amt : Option Nat} {e : Exc}
    (h : rawRead s r amt = (s', .exc e)) (hF : P Gen.cU3FullPoolError) (hT : ∀ c ∈ rawCls, P (translateRead (exc c)).cls) :
    P e.cls := by
  rw [rawRead_eq] at h
  -- what the `IncompleteRead` test passes on was raised by the reader, or is its own
  have h2 : ∀ e2, (rawMid r amt (httpRead s r amt).1 (httpRead s r amt).2).2 = .exc e2 → e2.cls ∈ rawCls := by
    intro e2 he2
    rcases rawMid_spec r amt (httpRead s r amt).1 (httpRead s r amt).2 with ⟨e, _⟩ | ⟨_, _, q | ⟨q, _⟩⟩
    · rw [e] at he2
      exact httpRead_cls s r amt e2 he2
    · rw [q] at he2
      cases he2
      simp [rawCls, exc]
    · rw [q] at he2
      cases he2
  generalize rawMid r amt (httpRead s r amt).1 (httpRead s r amt).2 = mid at h h2
  obtain ⟨s2, o2⟩ := mid
  unfold catcherExit at h
  cases o2 with
  | exc e2 =>
    dsimp only at h
    have h3 := errorCatcherExit_exc s2 r false
    generalize errorCatcherExit s2 r false = q at h h3
    obtain ⟨s3, oe⟩ := q
    cases oe <;> cases h
    · exact translateRead_cls e2 ▸ hT _ (h2 e2 rfl)
    · exact h3 e rfl ▸ hF
  | data d =>
    dsimp only at h
    have h3 := errorCatcherExit_exc s2 r true
    generalize errorCatcherExit s2 r true = q at h h3
    obtain ⟨s3, oe⟩ := q
    cases oe <;> cases h
    exact h3 e rfl ▸ hF

/-- the class of a translated read error depends on the class only -/
def trCls (c : Nat) : Nat := (translateRecv (translateRead (exc c))).cls

theorem translateRecv_cls (e : Exc) : (translateRecv e).cls = (translateRecv { cls := e.cls }).cls := by
  unfold translateRecv
  simp only [exc]
  split <;> rfl

theorem trCls_eq (e0 : Exc) : (translateRecv (translateRead e0)).cls = trCls e0.cls := by
  unfold trCls
  rw [translateRecv_cls, translateRead_cls, ← translateRecv_cls]

theorem rawRead_not_noCleanup {s s' : State} {r : Nat} {amt : Option Nat} {e : Exc} (h : rawRead s r amt = (s', .exc e))
    (u : Bool) (rt : Retry) (m : Bool) : handleError u rt m (translateRecv e).cls ≠ .noCleanup := by
  apply not_noCleanup_of
  rw [translateRecv_cls]
  exact rawRead_cls (P := fun c => isInst (translateRecv { cls := c }).cls (Gen.urlopenHandlers.getD 1 []) = false) h
    (by decide) (by decide)

theorem respRead_none_exc {s s' : State} {r : Nat} {e : Exc} (h : respRead s r none = (s', .exc e)) :
    rawRead s r none = (s', .exc e) := by
  unfold respRead at h
  dsimp only at h
  generalize rawRead s r none = res at h ⊢
  obtain ⟨s1, o⟩ := res
  cases o <;> cases h
  rfl

end U3.Pool
