import U3.Base.Str
/-! Facts about the functions of `U3/Base/Str.lean` and about `Except`, shared by the models: `>>=` / `map` / guards
taken apart (and equality of `Except` values decidable, which the evaluated examples need); `takeWhile` / `dropWhile`
at a separator; `str.split(c)` / `sep.join(l)` (`splitOn1`, `joinWith`) with their round trips; ASCII case (`lowerC`, `lower`); positional notation
(`Radix`: `"%x" % n`, `str(n)`) with what reads it back. -/
namespace U3

/-! ### `Except` -/

deriving instance DecidableEq for Except

theorem bind_ok {ε α β : Type} {x : Except ε α} {f : α → Except ε β} {b : β}
    (h : (x >>= f) = .ok b) : ∃ a, x = .ok a ∧ f a = .ok b := by
  cases x with
  | error e => cases h
  | ok a => exact ⟨a, rfl, h⟩

theorem bind_err {ε α β : Type} {x : Except ε α} {f : α → Except ε β} {e : ε}
    (h : (x >>= f) = .error e) : x = .error e ∨ ∃ a, x = .ok a ∧ f a = .error e := by
  cases x with
  | error e' =>
    left
    simpa [bind, Except.bind] using h
  | ok a =>
    right
    exact ⟨a, rfl, by simpa [bind, Except.bind] using h⟩

theorem map_ok {ε α β : Type} {x : Except ε α} {f : α → β} {b : β}
    (h : x.map f = .ok b) : ∃ a, x = .ok a ∧ f a = b := by
  cases x with
  | error e => cases h
  | ok a => exact ⟨a, rfl, Except.ok.inj h⟩

theorem ite_cases {α : Type} {c : Prop} {inst : Decidable c} {x y r : α} (h : @ite _ c inst x y = r) :
    c ∧ x = r ∨ ¬ c ∧ y = r := by
  split at h
  · exact .inl ⟨‹_›, h⟩
  · exact .inr ⟨‹_›, h⟩

theorem ite_err {ε α : Type} {c : Prop} {inst : Decidable c} {x : ε} {y : Except ε α} {r : α}
    (h : @ite _ c inst (.error x) y = .ok r) : ¬ c ∧ y = .ok r :=
  (ite_cases h).resolve_left fun h' => nomatch h'.2

theorem mapM_ok {ε α β : Type} {f : α → Except ε β} {l : List α} {ls : List β}
    (h : l.mapM f = .ok ls) : ls.length = l.length ∧ ∀ y ∈ ls, ∃ x ∈ l, f x = .ok y := by
  induction l generalizing ls with
  | nil =>
    simp [pure, Except.pure] at h
    subst h
    simp
  | cons x r ih =>
    rw [List.mapM_cons] at h
    obtain ⟨b, hb, h2⟩ := bind_ok h
    obtain ⟨bs, hbs, h3⟩ := bind_ok h2
    simp only [pure, Except.pure, Except.ok.injEq] at h3
    subst h3
    obtain ⟨hl, hm⟩ := ih hbs
    refine ⟨by simp [hl], fun y hy => ?_⟩
    rcases List.mem_cons.mp hy with rfl | hy
    · exact ⟨x, List.mem_cons_self .., hb⟩
    · obtain ⟨z, hz, hf⟩ := hm y hy
      exact ⟨z, List.mem_cons_of_mem _ hz, hf⟩

theorem mapM_err {ε α β : Type} {f : α → Except ε β} {l : List α} {e : ε}
    (h : l.mapM f = .error e) : ∃ x ∈ l, f x = .error e := by
  induction l with
  | nil => simp [pure, Except.pure] at h
  | cons x r ih =>
    rw [List.mapM_cons] at h
    rcases bind_err h with h1 | ⟨b, _, h2⟩
    · exact ⟨x, List.mem_cons_self .., h1⟩
    · rcases bind_err h2 with h3 | ⟨bs, _, h4⟩
      · obtain ⟨y, hy, hf⟩ := ih h3
        exact ⟨y, List.mem_cons_of_mem _ hy, hf⟩
      · simp [pure, Except.pure] at h4

/-! ### lists -/

theorem dropWhile_idem {α} (p : α → Bool) (l : List α) : (l.dropWhile p).dropWhile p = l.dropWhile p := by
  induction l with
  | nil => rfl
  | cons x t ih =>
    by_cases hx : p x = true
    · simp [List.dropWhile, hx, ih]
    · simp [List.dropWhile, hx]

theorem takeWhile_append_stop {p : Nat → Bool} (r : Str) (y : Nat) (b : Str)
    (hr : ∀ x ∈ r, p x = true) (hy : p y = false) :
    (r ++ y :: b).takeWhile p = r ∧ (r ++ y :: b).dropWhile p = y :: b := by
  simp [List.takeWhile_append_of_pos hr, List.dropWhile_append_of_pos hr, hy]

theorem takeWhile_all {p : Nat → Bool} (r : Str) (hr : ∀ x ∈ r, p x = true) :
    r.takeWhile p = r ∧ r.dropWhile p = [] := by
  simpa using And.intro (List.takeWhile_append_of_pos (l₂ := []) hr) (List.dropWhile_append_of_pos (l₂ := []) hr)

theorem takeWhile_append_head {p : Nat → Bool} (r t : Str) (hr : ∀ x ∈ r, p x = true)
    (ht : ∀ c ∈ t.head?, p c = false) : (r ++ t).takeWhile p = r ∧ (r ++ t).dropWhile p = t := by
  cases t with
  | nil => simpa using takeWhile_all r hr
  | cons y b => exact takeWhile_append_stop r y b hr (ht y rfl)

theorem mem_takeWhile_p {p : Nat → Bool} {l : Str} {x : Nat} (h : x ∈ l.takeWhile p) : p x = true :=
  List.all_eq_true.mp List.all_takeWhile x h

theorem not_mem_takeWhile_ne (k : Nat) (s : Str) : k ∉ s.takeWhile (· != k) :=
  fun h => by simpa using mem_takeWhile_p h

theorem split_at_ne (k : Nat) (a r : Str) (ha : k ∉ a) :
    (a ++ k :: r).takeWhile (· != k) = a ∧ (a ++ k :: r).dropWhile (· != k) = k :: r :=
  takeWhile_append_stop a k r (fun x hx => by simp only [bne_iff_ne, ne_eq]; rintro rfl; exact ha hx) (by simp)

theorem takeWhile_ne_of_not_mem {k : Nat} {s : Str} (h : k ∉ s) :
    s.takeWhile (· != k) = s ∧ s.dropWhile (· != k) = [] :=
  takeWhile_all s (fun x hx => by simp only [bne_iff_ne, ne_eq]; rintro rfl; exact h hx)

theorem flatMap_congr {α β : Type} {f g : α → List β} {l : List α} (h : ∀ x ∈ l, f x = g x) :
    l.flatMap f = l.flatMap g := by
  induction l with
  | nil => rfl
  | cons x r ih => simp_all

/-! ### `split` / `join` -/

theorem splitOn1_no_sep (c : Nat) (s : List Nat) : ∀ p ∈ splitOn1 c s, c ∉ p := by
  fun_induction splitOn1 c s with
  | case3 x t hx h0 ih => exact absurd h0 (splitOn1_ne_nil c t)
  | _ => simp_all <;> omega

theorem splitOn1_single (c : Nat) (p : List Nat) (h : c ∉ p) : splitOn1 c p = [p] := by
  induction p with
  | nil => rfl
  | cons x t ih =>
    simp only [List.mem_cons, not_or] at h
    rw [splitOn1, if_neg (Ne.symm h.1), ih h.2]

theorem splitOn1_append (c : Nat) (p rest : List Nat) (h : c ∉ p) :
    splitOn1 c (p ++ c :: rest) = p :: splitOn1 c rest := by
  induction p with
  | nil => simp [splitOn1]
  | cons x t ih =>
    simp only [List.mem_cons, not_or] at h
    rw [List.cons_append, splitOn1, if_neg (Ne.symm h.1), ih h.2]

theorem splitOn1_snoc (c : Nat) (a d : List Nat) (hd : c ∉ d) : splitOn1 c (a ++ c :: d) = splitOn1 c a ++ [d] := by
  induction a with
  | nil => simp [splitOn1, splitOn1_single c d hd]
  | cons x t ih =>
    rw [List.cons_append, splitOn1, splitOn1, ih]
    split
    · rfl
    · cases h : splitOn1 c t with
      | nil => exact absurd h (splitOn1_ne_nil c t)
      | cons p ps => rfl

theorem joinWith_cons (sep x : List Nat) {L : List (List Nat)} (hL : L ≠ []) :
    joinWith sep (x :: L) = x ++ sep ++ joinWith sep L := by
  cases L with
  | nil => exact absurd rfl hL
  | cons y t => rfl

theorem splitOn1_join (c : Nat) (l : List (List Nat)) (hne : l ≠ []) (h : ∀ p ∈ l, c ∉ p) :
    splitOn1 c (joinWith [c] l) = l := by
  fun_induction joinWith [c] l with
  | case1 => exact absurd rfl hne
  | case2 x => exact splitOn1_single c x (h x (List.mem_cons_self ..))
  | case3 x y t ih =>
    rw [List.append_assoc, List.singleton_append, splitOn1_append c x _ (h x (List.mem_cons_self ..)),
      ih (by simp) (fun p hp => h p (List.mem_cons_of_mem _ hp))]

theorem joinWith_splitOn1 (c : Nat) (s : List Nat) : joinWith [c] (splitOn1 c s) = s := by
  fun_induction splitOn1 c s with
  | case1 => rfl
  | case2 t ih =>
    rw [joinWith_cons _ _ (splitOn1_ne_nil c t), ih]
    rfl
  | case3 x t hx h0 ih => exact absurd h0 (splitOn1_ne_nil c t)
  | case4 x t hx p ps hs ih =>
    rw [hs] at ih
    cases ps with
    | nil => simpa [joinWith] using ih
    | cons q r =>
      simp only [joinWith] at ih ⊢
      rw [← ih]
      simp

/-- a single piece would be the whole string, and no piece contains the separator -/
theorem splitOn1_two (c : Nat) (s : List Nat) (h : s.contains c = true) :
    ∃ p q qs, splitOn1 c s = p :: q :: qs := by
  obtain ⟨p, ps, h1⟩ := List.exists_cons_of_ne_nil (splitOn1_ne_nil c s)
  cases ps with
  | cons q qs => exact ⟨p, q, qs, h1⟩
  | nil =>
    have hs := joinWith_splitOn1 c s
    have hp := splitOn1_no_sep c s p (by rw [h1]; exact List.mem_singleton_self p)
    rw [h1] at hs
    exact absurd (List.contains_iff_mem.mp h) (hs ▸ hp)

theorem mem_joinWith {sep : List Nat} {l : List (List Nat)} {c : Nat} (h : c ∈ joinWith sep l) :
    c ∈ sep ∨ ∃ y ∈ l, c ∈ y := by
  fun_induction joinWith sep l with
  | case1 => simp at h
  | case2 x => exact Or.inr ⟨x, List.mem_cons_self .., h⟩
  | case3 x y t ih =>
    simp only [List.mem_append] at h
    rcases h with (h | h) | h
    · exact Or.inr ⟨x, List.mem_cons_self .., h⟩
    · exact Or.inl h
    · exact (ih h).imp_right fun ⟨z, hz, hcz⟩ => ⟨z, List.mem_cons_of_mem _ hz, hcz⟩

theorem mem_joinWith_of_mem {sep : List Nat} {l : List (List Nat)} {p : List Nat} {x : Nat} (hp : p ∈ l) (hx : x ∈ p) :
    x ∈ joinWith sep l := by
  fun_induction joinWith sep l with
  | case1 => simp at hp
  | case2 y => simp_all
  | case3 y z t ih =>
    rcases List.mem_cons.mp hp with rfl | hp
    · simp [hx]
    · simp [ih hp]

theorem mem_of_mem_splitOn1 {c x : Nat} {s p : List Nat} (hp : p ∈ splitOn1 c s) (hx : x ∈ p) : x ∈ s :=
  joinWith_splitOn1 c s ▸ mem_joinWith_of_mem hp hx

theorem joinWith_eq_nil {sep : List Nat} (hs : sep ≠ []) {l : List (List Nat)} (e : joinWith sep l = []) :
    l = [] ∨ l = [[]] := by
  fun_induction joinWith sep l <;> simp_all

theorem joinWith_dropLast (sep : List Nat) (l : List (List Nat)) :
    joinWith sep l = (l.dropLast.map (· ++ sep)).flatten ++ l.getLastD [] := by
  fun_induction joinWith sep l with
  | case1 => rfl
  | case2 x => simp
  | case3 x y t ih =>
    rw [ih]
    simp

/-! ### ASCII case -/

/-- lower-casing reaches a non-letter only from itself -/
theorem lowerC_eq_iff (c k : Nat) (hk : isAlphaC k = false) : lowerC c = k ↔ c = k := by
  simp only [isAlphaC, isUpperC, isLowerC, Bool.or_eq_false_iff, Bool.and_eq_false_iff, decide_eq_false_iff_not] at hk
  simp only [lowerC]
  split <;> constructor <;> intro _ <;> omega

theorem beq_lowerC (c k : Nat) (hk : isAlphaC k = false) : (lowerC c == k) = (c == k) := by
  rw [Bool.eq_iff_iff, beq_iff_eq, beq_iff_eq, lowerC_eq_iff c k hk]

theorem bne_lowerC (k : Nat) (hk : isAlphaC k = false) :
    ((fun x => x != k) ∘ lowerC) = (fun x => x != k) := by
  funext x
  simp [bne, beq_lowerC x k hk]

theorem lowerC_lt128 {c : Nat} : lowerC c < 128 ↔ c < 128 := by
  unfold lowerC
  split <;> omega

theorem lowerC_upperC (c : Nat) : lowerC (upperC c) = lowerC c := by
  unfold lowerC upperC
  split <;> split <;> (try split) <;> omega

theorem isHexC_iff {c : Nat} :
    isHexC c = true ↔ (48 ≤ c ∧ c ≤ 57) ∨ (65 ≤ c ∧ c ≤ 70) ∨ (97 ≤ c ∧ c ≤ 102) := by
  simp [isHexC, isDigitC, or_assoc]

theorem isHexC_lowerC (c : Nat) : isHexC (lowerC c) = isHexC c := by
  rw [Bool.eq_iff_iff, isHexC_iff, isHexC_iff]
  unfold lowerC
  split <;> omega

theorem isDigitC_lowerC (c : Nat) : isDigitC (lowerC c) = isDigitC c := by
  rw [Bool.eq_iff_iff]
  simp only [isDigitC, Bool.and_eq_true, decide_eq_true_eq]
  unfold lowerC
  split <;> omega

theorem isAlphaC_lowerC (c : Nat) : isAlphaC (lowerC c) = isAlphaC c := by
  rw [Bool.eq_iff_iff]
  simp only [isAlphaC, isUpperC, isLowerC, lowerC, Bool.or_eq_true, Bool.and_eq_true, decide_eq_true_eq]
  split <;> simp only [decide_eq_true_eq] <;> constructor <;> intro _ <;> omega

theorem lower_cons (c : Nat) (t : Str) : lower (c :: t) = lowerC c :: lower t := rfl

theorem lower_eq_nil {l : List Nat} (h : lower l = []) : l = [] := by simpa [lower] using h

theorem lower_isEmpty (s : Str) : (lower s).isEmpty = s.isEmpty := by cases s <;> rfl

theorem lower_eq_self_iff {s : Str} : lower s = s ↔ ∀ c ∈ s, lowerC c = c := by
  induction s <;> simp_all [lower_cons]

theorem mem_lower_iff (k : Nat) (hk : isAlphaC k = false) (s : Str) :
    k ∈ lower s ↔ k ∈ s := by
  simp [lower, lowerC_eq_iff _ k hk]

theorem mem_iff_of_lower_eq {k : Nat} (hk : isAlphaC k = false) {s t : Str} (h : lower s = lower t) :
    k ∈ s ↔ k ∈ t := by
  rw [← mem_lower_iff k hk, h, mem_lower_iff k hk]

theorem all_lower (p : Nat → Bool) (hp : ∀ c, p (lowerC c) = p c) (s : Str) : (lower s).all p = s.all p := by
  simp [lower, List.all_map, Function.comp_def, hp]

theorem takeWhile_lower (k : Nat) (hk : isAlphaC k = false) (s : Str) :
    (lower s).takeWhile (· != k) = lower (s.takeWhile (· != k)) := by
  simp only [lower, List.takeWhile_map, bne_lowerC k hk]

theorem dropWhile_lower (k : Nat) (hk : isAlphaC k = false) (s : Str) :
    (lower s).dropWhile (· != k) = lower (s.dropWhile (· != k)) := by
  simp only [lower, List.dropWhile_map, bne_lowerC k hk]

theorem getLast?_lower_eq (k : Nat) (hk : isAlphaC k = false) (s : Str) :
    ((lower s).getLast? = some k) ↔ (s.getLast? = some k) := by
  rw [lower, List.getLast?_map]
  cases s.getLast? <;> simp [lowerC_eq_iff _ k hk]

theorem lower_joinWith (sep : List Nat) (l : List (List Nat)) :
    lower (joinWith sep l) = joinWith (lower sep) (l.map lower) := by
  fun_induction joinWith sep l <;> simp_all [joinWith]

theorem splitOn1_lower (c : Nat) (hc : isAlphaC c = false) (s : Str) :
    splitOn1 c (lower s) = (splitOn1 c s).map lower := by
  have hj : lower s = joinWith [c] ((splitOn1 c s).map lower) := by
    have := lower_joinWith [c] (splitOn1 c s)
    rwa [joinWith_splitOn1, lower_cons, (lowerC_eq_iff c c hc).mpr rfl] at this
  rw [hj, splitOn1_join c _ (by simpa using splitOn1_ne_nil c s)]
  intro p hp
  obtain ⟨q, hq, rfl⟩ := List.mem_map.mp hp
  exact fun h => splitOn1_no_sep c s q hq ((mem_lower_iff c hc q).mp h)

theorem case_of_lower {β : Type} {f : Str → β} (hf : ∀ s, f (lower s) = f s) {s t : Str}
    (h : lower s = lower t) : f s = f t := by
  rw [← hf s, h, hf]

/-! ### hex digits, positional notation -/

theorem hexVal_hexDigit : ∀ d < 16, hexVal (hexDigit d) = some d := by decide

/-- `D` writes a number in base `b`, most significant digit first, `dig d` being the character of digit `d`
(`"%x" % n`, `str(n)`) -/
def Radix (b : Nat) (dig : Nat → Nat) (D : Nat → List Nat) : Prop :=
  ∀ n, D n = if n < b then [dig n] else D (n / b) ++ [dig (n % b)]

namespace Radix
variable {b : Nat} {dig : Nat → Nat} {D : Nat → List Nat}

/-- the fuelled form the models use: `A f n` with `n ≤ f` -/
theorem of_fuel {A : Nat → Nat → List Nat} (hb : 1 < b) (h0 : ∀ n, A 0 n = [dig (n % b)])
    (hs : ∀ f n, A (f + 1) n = if n < b then [dig n] else A f (n / b) ++ [dig (n % b)]) :
    Radix b dig fun n => A n n := by
  have key : ∀ n f, n ≤ f → A f n = if n < b then [dig n] else A (n / b) (n / b) ++ [dig (n % b)] := by
    intro n
    induction n using Nat.strongRecOn with
    | _ n ih =>
      intro f hf
      have hdiv : b ≤ n → n / b < n := fun h => Nat.div_lt_self (by omega) hb
      cases f with
      | zero =>
        obtain rfl : n = 0 := by omega
        rw [h0, if_pos (by omega), Nat.zero_mod]
      | succ f =>
        rw [hs]
        split
        · rfl
        · have hlt := hdiv (by omega)
          rw [ih _ hlt f (by omega), ih _ hlt _ (Nat.le_refl _)]
  exact fun n => key n n (Nat.le_refl n)

/-- a reader that takes one digit at a time reads `D n` as `n`, whatever follows -/
theorem read {γ : Type} (h : Radix b dig D) (hb : 1 < b) {R : List Nat → Nat → γ}
    (hR : ∀ d, d < b → ∀ t acc, R (dig d :: t) acc = R t (acc * b + d)) (n : Nat) (rest : List Nat) :
    R (D n ++ rest) 0 = R rest n := by
  induction n using Nat.strongRecOn generalizing rest with
  | _ n ih =>
    rw [h n]
    split
    · next hn => rw [List.singleton_append, hR n hn, Nat.zero_mul, Nat.zero_add]
    · next hn =>
      rw [List.append_assoc, ih _ (Nat.div_lt_self (by omega) hb), List.singleton_append,
        hR _ (Nat.mod_lt n (by omega)), Nat.div_add_mod']

theorem head (h : Radix b dig D) (hb : 1 < b) (n : Nat) : ∃ d t, D n = dig d :: t ∧ d < b ∧ (d = 0 → n = 0) := by
  induction n using Nat.strongRecOn with
  | _ n ih =>
    rw [h n]
    split
    · next hn => exact ⟨n, [], rfl, hn, id⟩
    · next hn =>
      obtain ⟨d, t, e, hd, h0⟩ := ih _ (Nat.div_lt_self (by omega) hb)
      refine ⟨d, t ++ [dig (n % b)], by rw [e]; rfl, hd, fun hz => ?_⟩
      have := Nat.div_eq_zero_iff.mp (h0 hz)
      omega

theorem ne_nil (h : Radix b dig D) (hb : 1 < b) (n : Nat) : D n ≠ [] := by
  obtain ⟨d, t, e, -⟩ := h.head hb n
  simp [e]

theorem mem (h : Radix b dig D) (hb : 1 < b) (n : Nat) : ∀ c ∈ D n, ∃ d, d < b ∧ c = dig d := by
  induction n using Nat.strongRecOn with
  | _ n ih =>
    rw [h n]
    split
    · next hn => exact fun c hc => ⟨n, hn, List.mem_singleton.mp hc⟩
    · next hn =>
      intro c hc
      rcases List.mem_append.mp hc with hc | hc
      · exact ih _ (Nat.div_lt_self (by omega) hb) c hc
      · exact ⟨_, Nat.mod_lt n (by omega), List.mem_singleton.mp hc⟩

theorem length_le (h : Radix b dig D) (hb : 1 < b) (k n : Nat) (hn : n < b ^ (k + 1)) : (D n).length ≤ k + 1 := by
  induction k generalizing n with
  | zero =>
    rw [h n, if_pos (by simpa using hn)]
    exact Nat.le_refl _
  | succ k ih =>
    rw [h n]
    split
    · exact Nat.le_add_left 1 _
    · have := ih (n / b) (by rw [Nat.div_lt_iff_lt_mul (by omega)]; simpa [Nat.pow_succ] using hn)
      simpa using this

end Radix
end U3
