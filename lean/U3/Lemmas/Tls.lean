import U3.Model.Tls
import U3.Lemmas.Str
/-! For `U3/Props/C07.lean`: what a successful outcome, and what any outcome, of `wrapAndMatch` /
`connect` implies; concrete instances for C07's examples.

`ownCheck`, `sourceCtx`, `finalCtx`, `finalObs` name what `wrapAndMatch` writes inline: the condition under
which it switches `check_hostname` off, its `created`, the context after its two assignments, its `obs`.
`wrapAndMatch_cases` ties them to it; everything after reasons about them. -/
namespace U3.Tls
open U3

@[simp] theorem rstripDots_idem (s : Str) : rstripDots (rstripDots s) = rstripDots s := by
  simp [rstripDots, dropWhile_idem]

theorem effective_eq_resolve (cfg : Cfg) :
    resolveCertReqs (initCertReqs cfg.certReqs cfg.sslContext) = effectiveCertReqs cfg := by
  unfold initCertReqs effectiveCertReqs
  cases cfg.certReqs <;> cases cfg.sslContext <;> simp [resolveCertReqs]

/-- "in some cases, we want to verify hostnames ourselves": `wrapAndMatch` switches the context's
`check_hostname` off -/
def ownCheck (env : Env) (ah : AssertHostname) (fp : Option Str) : Bool :=
  fpTruthy fp || ah.truthy || ah.isF || env.isPyOpenSSL || !env.hasNeverCheckCN

/-- the caller's context, else urllib3's own -/
def sourceCtx (env : Env) (m : VerifyMode) : Option Ctx → Except Err Ctx
  | none => createUrllib3Context env m
  | some c => .ok c

/-- the context handed to the TLS layer when `wrapAndMatch` started from `c` -/
def finalCtx (env : Env) (m : VerifyMode) (ah : AssertHostname) (fp : Option Str) (c : Ctx) : Ctx :=
  { c with verifyMode := m, checkHostname := c.checkHostname && !ownCheck env ah fp }

theorem ownCheck_eq_false {env : Env} {ah : AssertHostname} {fp : Option Str} :
    ownCheck env ah fp = false ↔ fpTruthy fp = false ∧ ah.truthy = false ∧ ah.isF = false ∧
      env.isPyOpenSSL = false ∧ env.hasNeverCheckCN = true := by
  simp [ownCheck, and_assoc]

theorem setVerifyMode_ok {c c' : Ctx} {m : VerifyMode} (h : c.setVerifyMode m = .ok c') :
    c' = { c with verifyMode := m } := by
  unfold Ctx.setVerifyMode at h
  split at h
  · split at h
    · cases h
    · cases h
      rfl
  · cases h
    rfl

theorem setCheckHostname_false (c : Ctx) : c.setCheckHostname false = { c with checkHostname := false } := by
  cases hk : c.kind <;> simp [Ctx.setCheckHostname, hk]

/-- what the TLS layer is called with when the context handed to it is `c` -/
def finalObs (isIp : Str → Bool) (ca : Bool) (sh : Str) (ctx : Option Ctx) (tit : Bool) (c : Ctx) : WrapObs :=
  { serverHostname := normServerHostname isIp sh, verifyMode := c.verifyMode, checkHostname := c.checkHostname,
    caGiven := ca, tlsInTls := tit, loadDefault := !ca && ctx.isNone && c.kind == .stdlib }

/-- the handshake contract held for the context `c` with anchors `t`, and urllib3's own checks
passed: the pin, or else — whenever `check_hostname` is off — the name -/
def Passed (isIp : Str → Bool) (p : PeerOracle) (ah : AssertHostname) (fp : Option Str) (sh : Str)
    (defaultCtx : Bool) (c : Ctx) (t : Trust) : Prop :=
  handshakeOk c t (normServerHostname isIp sh) p = true ∧
  if fpTruthy fp then p.digestOk (fpGet fp) = true
  else c.verifyMode ≠ .none → c.checkHostname = false → ah.isF = false →
    p.u3Match (matchName isIp (if ah.truthy then
        (match ah with | .name n => n | _ => normServerHostname isIp sh)
        else normServerHostname isIp sh))
      (if defaultCtx then false else c.checksCN) = true

theorem wrapAndMatch_cases {env : Env} {isIp : Str → Bool} {p : PeerOracle} {cr : CertReqs} {ca : Bool}
    {ah : AssertHostname} {fp : Option Str} {sh : Str} {ctx : Option Ctx} {tit : Bool} {r : WrapRes}
    (h : wrapAndMatch env isIp p cr ca ah fp sh ctx tit = r) :
    (∃ e, r = .raised e) ∨
    ∃ c0 c, sourceCtx env (resolveCertReqs cr) ctx = .ok c0 ∧ c = finalCtx env (resolveCertReqs cr) ah fp c0 ∧
      ((∃ e, r = .wrapFailed (finalObs isIp ca sh ctx tit c) e) ∨
       (∃ e, r = .checkFailed (finalObs isIp ca sh ctx tit c) e) ∨
       (r = .ok (finalObs isIp ca sh ctx tit c) (c.verifyMode == .required || fpTruthy fp) ∧
        Passed isIp p ah fp sh ctx.isNone c ⟨ca, !ca && ctx.isNone && c.kind == .stdlib, c.ownCA⟩)) := by
  unfold wrapAndMatch at h
  extract_lets dflt created at h
  have hs : sourceCtx env (resolveCertReqs cr) ctx = created := by cases ctx <;> rfl
  clear_value created
  split at h
  · exact .inl ⟨_, h.symm⟩
  rename_i c0
  split at h
  · exact .inl ⟨_, h.symm⟩
  rename_i c1 hv
  cases setVerifyMode_ok hv
  extract_lets c ld trust obs at h
  have hc : c = finalCtx env (resolveCertReqs cr) ah fp c0 := by
    change (if ownCheck env ah fp then _ else _) = _
    unfold finalCtx
    cases ownCheck env ah fp <;> simp [setCheckHostname_false]
  refine .inr ⟨c0, c, hs, hc, ?_⟩
  change _ ∨ _ ∨ r = .ok obs _ ∧ Passed isIp p ah fp sh dflt c trust
  unfold Passed
  split at h
  · exact .inl ⟨_, h.symm⟩
  split at h
  · exact .inl ⟨_, h.symm⟩
  rename_i hh
  simp only [Bool.not_eq_true, Bool.not_eq_false'] at hh
  split at h
  · rename_i hfp
    rw [if_pos hfp]
    split at h
    · rename_i hd
      exact .inr (.inr ⟨h.symm, hh, hd⟩)
    · exact .inr (.inl ⟨_, h.symm⟩)
  rename_i hfp
  rw [if_neg hfp]
  split at h
  · split at h
    · exact .inr (.inr ⟨h.symm, hh, fun _ _ _ => ‹_›⟩)
    · exact .inr (.inl ⟨_, h.symm⟩)
  · rename_i hn
    refine .inr (.inr ⟨h.symm, hh, fun h1 h2 h3 => ?_⟩)
    simp [h1, h2, h3] at hn

theorem wrapAndMatch_ok {env : Env} {isIp : Str → Bool} {p : PeerOracle} {cr : CertReqs} {ca : Bool}
    {ah : AssertHostname} {fp : Option Str} {sh : Str} {ctx : Option Ctx} {tit : Bool} {obs : WrapObs} {v : Bool}
    (h : wrapAndMatch env isIp p cr ca ah fp sh ctx tit = .ok obs v) :
    ∃ c0 c, sourceCtx env (resolveCertReqs cr) ctx = .ok c0 ∧ c = finalCtx env (resolveCertReqs cr) ah fp c0 ∧
      obs = finalObs isIp ca sh ctx tit c ∧ v = (c.verifyMode == .required || fpTruthy fp) ∧
      Passed isIp p ah fp sh ctx.isNone c ⟨ca, !ca && ctx.isNone && c.kind == .stdlib, c.ownCA⟩ := by
  rcases wrapAndMatch_cases h with ⟨e, he⟩ | ⟨c0, c, hs, hc, ⟨e, he⟩ | ⟨e, he⟩ | ⟨hr, hp⟩⟩
  · cases he
  · cases he
  · cases he
  · cases hr
    exact ⟨c0, c, hs, hc, rfl, rfl, hp⟩

theorem createUrllib3Context_ok {env : Env} {m : VerifyMode} {c : Ctx} (h : createUrllib3Context env m = .ok c) :
    c.kind = (if env.isPyOpenSSL then .pyopenssl else .stdlib) ∧ c.checksCN = false ∧ c.ownCA = false := by
  rcases env with ⟨py, ncn⟩
  cases py <;> cases m <;>
    simp [createUrllib3Context, freshContext, Ctx.setVerifyMode, Ctx.setCheckHostname] at h <;>
    subst h <;>
    exact ⟨rfl, rfl, rfl⟩

/-- The conclusion is `peerDemand` spelled out, with the anchors `t` and the policy `cn` as variables,
so that both cases of `ctx` (`isNone`: the context is urllib3's own) are instances.  `ht` ties the
anchors of the handshake to the demanded ones (an hypothesis, so that a caller proves it as a goal whose two
sides are read off `h` and the target); `hpy` is `CtxWF` for the starting context: `check_hostname` left on
in a pyOpenSSL context, where nothing honours it, occurs only under injection, where `ownCheck` holds;
`hcn` / `hcn'` tie the common-name policy of urllib3's matcher / of OpenSSL (a stdlib context) to `cn`. -/
theorem satisfied_of_final {env : Env} {isIp : Str → Bool} {p : PeerOracle} {m : VerifyMode}
    {ah : AssertHostname} {fp : Option Str} {sh : Str} {c0 : Ctx} {isNone cn : Bool} {t t' : Trust} (ht : t' = t)
    (hpy : c0.kind = .pyopenssl → c0.checkHostname = true → env.isPyOpenSSL = true)
    (hcn : (if isNone then false else c0.checksCN) = cn) (hcn' : c0.kind = .stdlib → c0.checksCN = cn)
    (h : Passed isIp p ah fp sh isNone (finalCtx env m ah fp c0) t') :
    Satisfied isIp
      { chain := m != .none, trust := t,
        name := if m != .none && !ah.isF && !fpTruthy fp then
            some ((match (generalizing := false) ah with | .name n => if n.isEmpty then sh else n | _ => sh), cn) else none,
        pin := if fpTruthy fp then fp else none } p := by
  subst ht
  obtain ⟨hh, hck⟩ := h
  simp only [handshakeOk, finalCtx, Bool.and_eq_true, Bool.or_eq_true, beq_iff_eq, Bool.not_eq_true'] at hh
  refine ⟨fun hm => ?_, fun n cn' hn => ?_, fun pin hpin => ?_⟩
  · exact hh.1.resolve_left (by simpa using hm)
  · split at hn
    · rename_i hc
      simp only [Bool.and_eq_true, bne_iff_ne, Bool.not_eq_true'] at hc
      obtain ⟨⟨hm, hf⟩, hfp⟩ := hc
      cases hn
      rw [hfp, if_neg Bool.false_ne_true] at hck
      by_cases hch : (finalCtx env m ah fp c0).checkHostname = false
      · -- urllib3 matched the name itself
        have hu := hck hm hch hf
        rw [show (if isNone then false else (finalCtx env m ah fp c0).checksCN) = cn from hcn] at hu
        cases ah with
        | isFalse => cases hf
        | unset => exact .inr (.inl hu)
        | name a =>
          cases ha : a.isEmpty <;> simp only [AssertHostname.truthy, ha] at hu ⊢
          · exact .inr (.inr hu)
          · exact .inr (.inl hu)
      · -- `check_hostname` stayed on: a stdlib context, `assert_hostname` falsy, OpenSSL matched the name
        obtain ⟨hc0, hown⟩ : c0.checkHostname = true ∧ ownCheck env ah fp = false := by
          simpa [finalCtx] using hch
        obtain ⟨-, hat, -, hpy', -⟩ := ownCheck_eq_false.mp hown
        cases hk : c0.kind
        · have ho := hh.2.resolve_left (by simp [hk, hc0, hown])
          rw [hcn' hk] at ho
          left
          cases ah with
          | isFalse => cases hf
          | unset => exact ho
          | name a =>
            have ha : a.isEmpty = true := by simpa [AssertHostname.truthy] using hat
            simpa only [ha, if_true] using ho
        · rw [hpy hk hc0] at hpy'
          cases hpy'
    · cases hn
  · cases hfp : fpTruthy fp
    · simp [hfp] at hpin
    · rw [hfp] at hck
      simp only [hfp, if_true] at hpin
      subst hpin
      exact hck

theorem wrap_ok_satisfied {env : Env} {isIp : Str → Bool} {p : PeerOracle} {cr : CertReqs} {ca : Bool}
    {ah : AssertHostname} {fp : Option Str} {sh : Str} {ctx : Option Ctx} {tit : Bool} {obs : WrapObs} {v : Bool}
    (hwf : CtxWF env ctx)
    (h : wrapAndMatch env isIp p cr ca ah fp sh ctx tit = .ok obs v) :
    Satisfied isIp (peerDemand env (resolveCertReqs cr) ca ctx ah fp sh) p := by
  obtain ⟨c0, c, hs, rfl, -, -, hp⟩ := wrapAndMatch_ok h
  rcases ctx with _ | cc
  · obtain ⟨hk, hcn, hown⟩ := createUrllib3Context_ok hs
    refine satisfied_of_final (isNone := true) ?_ (fun hk' _ => ?_) rfl (fun _ => hcn) hp
    · simp only [finalCtx, hk, hown]
      cases env.isPyOpenSSL <;> rfl
    · rw [hk] at hk'
      cases hpy : env.isPyOpenSSL
      · simp [hpy] at hk'
      · rfl
  · cases hs
    exact satisfied_of_final (isNone := false) (by simp [finalCtx]) hwf rfl (fun _ => rfl) hp

theorem wrap_ok_verified {env : Env} {isIp : Str → Bool} {p : PeerOracle} {cr : CertReqs} {ca : Bool}
    {ah : AssertHostname} {fp : Option Str} {sh : Str} {ctx : Option Ctx} {tit : Bool} {obs : WrapObs} {v : Bool}
    (h : wrapAndMatch env isIp p cr ca ah fp sh ctx tit = .ok obs v) :
    v = (resolveCertReqs cr == .required || fpTruthy fp) := by
  obtain ⟨c0, c, -, rfl, -, rfl, -⟩ := wrapAndMatch_ok h
  rfl

/-- the `server_hostname` argument of the request session's `wrapAndMatch` call -/
def mainServerHostname (cfg : Cfg) : Str :=
  rstripDots (cfg.serverHostname.getD (if cfg.mode.tunneling then cfg.tunnelHost else rstripDots cfg.host))

theorem mainServerHostname_eq (cfg : Cfg) : mainServerHostname cfg = targetName cfg := by
  unfold mainServerHostname targetName
  cases cfg.serverHostname <;> cases cfg.mode <;> simp [ProxyMode.tunneling, rstripDots_idem]

theorem connectTail_connected {cfg : Cfg} {o : Oracle} {k : Connected} {piv : Option Bool} {ws : List WrapObs}
    {tit : Bool} {sh : Str} (h : connectTail cfg o piv ws tit sh = .connected k) :
    ∃ obs v, wrapAndMatch cfg.env o.isIp (requestPeer cfg o) (initCertReqs cfg.certReqs cfg.sslContext) cfg.caGiven
        cfg.assertHostname cfg.assertFingerprint
        (rstripDots (cfg.serverHostname.getD sh)) cfg.sslContext tit = .ok obs v ∧
      k.isVerified = (if cfg.mode == .forwardHttps then false else v) ∧
      k.proxyIsVerified = (if (cfg.mode != .direct && piv.isNone) then some v else piv) ∧
      k.wraps = ws ++ [obs] := by
  unfold connectTail at h
  simp only [] at h
  split at h
  · cases h
  · cases h
  · cases h
  · rename_i obs v hw
    injection h with h
    subst h
    exact ⟨obs, v, hw, rfl, rfl, rfl⟩

/-- `connect` returns only if the `wrapAndMatch` of the request's session did; that call is the last on
record.  What is known of `proxy_is_verified` without looking at a proxy session is given mode by mode;
for the session with an https proxy we tunnel through see `connect_connected_proxy`. -/
theorem connect_connected {cfg : Cfg} {o : Oracle} {k : Connected} (h : connect cfg o = .connected k) :
    ∃ obs v, wrapAndMatch cfg.env o.isIp (requestPeer cfg o) (initCertReqs cfg.certReqs cfg.sslContext) cfg.caGiven
        cfg.assertHostname cfg.assertFingerprint (mainServerHostname cfg) cfg.sslContext
        (cfg.mode == .tunnelHttps) = .ok obs v ∧
      k.isVerified = (if cfg.mode == .forwardHttps then false else v) ∧
      k.wraps.getLast? = some obs ∧
      (cfg.mode = .direct → k.proxyIsVerified = none) ∧
      (cfg.mode = .tunnelHttp → k.proxyIsVerified = some false) ∧
      (cfg.mode = .forwardHttps → k.proxyIsVerified = some v) := by
  unfold connect at h
  unfold mainServerHostname
  cases hmode : cfg.mode <;> simp only [hmode] at h ⊢
  case tunnelHttps =>
    split at h
    · cases h
    · cases h
    · cases h
    · obtain ⟨obs, v, hw, hv, -, hws⟩ := connectTail_connected h
      exact ⟨obs, v, hw, by simpa [hmode] using hv, by simp [hws], by simp⟩
  all_goals
    obtain ⟨obs, v, hw, hv, hp, hws⟩ := connectTail_connected h
    exact ⟨obs, v, hw, by simpa [hmode] using hv, by simp [hws], by simpa [hmode] using hp⟩

/-- tunnelling through an https proxy: `connect` returns only if the `wrapAndMatch` of the session with the
proxy did; that call is the first on record -/
theorem connect_connected_proxy {cfg : Cfg} {o : Oracle} {k : Connected} (h : connect cfg o = .connected k)
    (hm : cfg.mode = .tunnelHttps) :
    ∃ obs v, wrapAndMatch cfg.env o.isIp o.proxy (initCertReqs cfg.certReqs cfg.sslContext) cfg.caGiven
        cfg.proxy.assertHostname cfg.proxy.assertFingerprint (rstripDots cfg.host) cfg.proxy.sslContext false =
          .ok obs v ∧
      k.proxyIsVerified = some v ∧ k.wraps.head? = some obs := by
  unfold connect at h
  simp only [hm] at h
  split at h
  · cases h
  · cases h
  · cases h
  · rename_i obs v hw
    obtain ⟨_, _, -, -, hp, hws⟩ := connectTail_connected h
    exact ⟨obs, v, hw, by simpa using hp, by simp [hws]⟩

/-- the TLS-layer call made by one `wrapAndMatch`, if it got that far -/
def WrapRes.obs? : WrapRes → Option WrapObs
  | .raised _ => none
  | .wrapFailed o _ => some o
  | .checkFailed o _ => some o
  | .ok o _ => some o

/-- the TLS-layer calls made by `connect()`, whether it returned or raised -/
def ConnRes.wraps : ConnRes → List WrapObs
  | .error _ _ ws _ => ws
  | .connected k => k.wraps

/-- "no CA material was configured and urllib3 built the context itself" (and the context class has
`load_default_certs`, i.e. it is not a `PyOpenSSLContext`): the `trust.system` field of `peerDemand` -/
def wantsSystemStore (env : Env) (caGiven : Bool) (ctx : Option Ctx) : Bool :=
  !caGiven && ctx.isNone && !env.isPyOpenSSL

theorem wrap_obs {env : Env} {isIp : Str → Bool} {p : PeerOracle} {cr : CertReqs} {ca : Bool}
    {ah : AssertHostname} {fp : Option Str} {sh : Str} {ctx : Option Ctx} {tit : Bool} {obs : WrapObs}
    (h : (wrapAndMatch env isIp p cr ca ah fp sh ctx tit).obs? = some obs) :
    obs.loadDefault = wantsSystemStore env ca ctx ∧ obs.tlsInTls = tit ∧ obs.caGiven = ca ∧
      obs.verifyMode = resolveCertReqs cr := by
  rcases wrapAndMatch_cases (rfl : wrapAndMatch env isIp p cr ca ah fp sh ctx tit = _) with
    ⟨e, he⟩ | ⟨c0, c, hs, rfl, ⟨e, he⟩ | ⟨e, he⟩ | ⟨he, -⟩⟩ <;> rw [he] at h <;> cases h
  all_goals
    refine ⟨?_, rfl, rfl, rfl⟩
    rcases ctx with _ | cc
    · rw [finalObs, finalCtx, (createUrllib3Context_ok hs).1, wantsSystemStore]
      cases env.isPyOpenSSL <;> rfl
    · simp [finalObs, wantsSystemStore]

theorem connectTail_wraps_eq (cfg : Cfg) (o : Oracle) (piv : Option Bool) (ws : List WrapObs) (tit : Bool)
    (sh : Str) :
    (connectTail cfg o piv ws tit sh).wraps = ws ++
      (wrapAndMatch cfg.env o.isIp (requestPeer cfg o) (initCertReqs cfg.certReqs cfg.sslContext) cfg.caGiven
        cfg.assertHostname cfg.assertFingerprint (rstripDots (cfg.serverHostname.getD sh)) cfg.sslContext
        tit).obs?.toList := by
  unfold connectTail
  simp only []
  split <;> simp [ConnRes.wraps, WrapRes.obs?, *]

theorem connectTail_wraps (cfg : Cfg) (o : Oracle) (piv : Option Bool) (ws : List WrapObs) (tit : Bool)
    (sh : Str) (w : WrapObs) (hw : w ∈ (connectTail cfg o piv ws tit sh).wraps) :
    w ∈ ws ∨ (w.loadDefault = wantsSystemStore cfg.env cfg.caGiven cfg.sslContext ∧ w.tlsInTls = tit ∧
      w.verifyMode = effectiveCertReqs cfg) := by
  rw [connectTail_wraps_eq, List.mem_append, Option.mem_toList] at hw
  exact hw.imp_right fun hw => let ⟨h1, h2, _, h4⟩ := wrap_obs hw; ⟨h1, h2, effective_eq_resolve cfg ▸ h4⟩

/-- In mode `tunnelHttps` the session with the proxy is the one entered with `tls_in_tls = False`. -/
theorem connect_wraps (cfg : Cfg) (o : Oracle) (w : WrapObs) (hw : w ∈ (connect cfg o).wraps) :
    w.loadDefault =
      (if cfg.mode = .tunnelHttps ∧ w.tlsInTls = false then
        wantsSystemStore cfg.env cfg.caGiven cfg.proxy.sslContext
       else wantsSystemStore cfg.env cfg.caGiven cfg.sslContext) ∧
    w.verifyMode = effectiveCertReqs cfg := by
  unfold connect at hw
  simp only [] at hw
  cases hmode : cfg.mode <;> simp only [hmode] at hw
  case tunnelHttps =>
    -- the proxy's own session comes first; `connectTail` runs only if it succeeded
    have hp : (wrapAndMatch cfg.env o.isIp o.proxy (initCertReqs cfg.certReqs cfg.sslContext)
        cfg.caGiven cfg.proxy.assertHostname cfg.proxy.assertFingerprint (rstripDots cfg.host)
        cfg.proxy.sslContext false).obs? = some w →
        w.loadDefault = wantsSystemStore cfg.env cfg.caGiven cfg.proxy.sslContext ∧ w.tlsInTls = false ∧
          w.verifyMode = effectiveCertReqs cfg :=
      fun h => let ⟨h1, h2, _, h4⟩ := wrap_obs h; ⟨h1, h2, effective_eq_resolve cfg ▸ h4⟩
    split at hw
    · cases hw
    · rename_i hres
      cases List.mem_singleton.mp hw
      simp [hp (by rw [hres]; rfl)]
    · rename_i hres
      cases List.mem_singleton.mp hw
      simp [hp (by rw [hres]; rfl)]
    · rename_i hres
      rcases connectTail_wraps _ _ _ _ _ _ _ hw with h | h
      · cases List.mem_singleton.mp h
        simp [hp (by rw [hres]; rfl)]
      · simp [h]
  all_goals
    rcases connectTail_wraps _ _ _ _ _ _ _ hw with h | h
    · cases h
    · simp [h]

namespace Ex

/-- "www" / "proxy" (short stand-ins; the theorems are for all strings) -/
def www : Str := [119, 119, 119]
def prx : Str := [112, 114, 120]
def pin : Str := [97, 98]

/-- a peer whose chain validates against the configured CA, accepted by both matchers, digest equal -/
def goodPeer : PeerOracle :=
  { validConfigured := true, validSystem := false, validOwn := false,
    osslMatch := fun _ _ => true, u3Match := fun _ _ => true, digestOk := fun _ => true }

/-- a peer from an unknown CA whose certificate matches no name and no pin -/
def badPeer : PeerOracle :=
  { validConfigured := false, validSystem := false, validOwn := false,
    osslMatch := fun _ _ => false, u3Match := fun _ _ => false, digestOk := fun _ => false }

def good : Oracle := { isIp := fun _ => false, origin := goodPeer, proxy := goodPeer }
def badOrigin : Oracle := { isIp := fun _ => false, origin := badPeer, proxy := goodPeer }

/-- every setting at its default, CA material given, direct -/
def dflt : Cfg :=
  { env := { isPyOpenSSL := false, hasNeverCheckCN := true }, host := www, certReqs := .unset,
    assertHostname := .unset, assertFingerprint := none, serverHostname := none, sslContext := none,
    caGiven := true, mode := .direct, tunnelHost := [],
    proxy := { sslContext := none, assertHostname := .unset, assertFingerprint := none } }

/-- `cert_reqs="NONE"` -/
def insecure : Cfg := { dflt with certReqs := .short .none }

/-- DESIGN §7: `ProxyManager("https://prx", proxy_assert_fingerprint=pin, cert_reqs="NONE")`,
request to `https://www/` -/
def pinnedProxyTunnel : Cfg :=
  { dflt with certReqs := .short .none, mode := .tunnelHttps, host := prx, tunnelHost := www,
              proxy := { sslContext := none, assertHostname := .unset, assertFingerprint := some pin } }

/-- `ProxyManager("https://prx", use_forwarding_for_https=True)`, request to `https://www/`: the
only TLS peer is the proxy -/
def forwarding : Cfg := { dflt with mode := .forwardHttps, host := prx }

/-- every setting at its default and no CA material at all: the OS default store is the anchor -/
def sysDefault : Cfg := { dflt with caGiven := false }

/-- an origin whose chain validates against the OS default store only -/
def sysOnly : Oracle :=
  { isIp := fun _ => false,
    origin := { goodPeer with validConfigured := false, validSystem := true },
    proxy := goodPeer }

end Ex
end U3.Tls
