import U3.Model.PoolConc
/-! One step of one thread of `U3.PoolConc` (C02): `tstep` as a relation (`Step`, `tstep_step`) and
what every rule of it preserves or changes. -/
namespace U3.PoolConc

theorem filterMap_id_cons {α} (x : Option α) (l : List (Option α)) :
    (x :: l).filterMap id = x.toList ++ l.filterMap id := by cases x <;> rfl

variable {cfg : Cfg} {tid : Nat} {sh sh' : Shared} {th th' : Thread}

/-- `Thread.pcConn` as a function of the program counter -/
def Pc.conn : Pc → Option ConnId
  | .dropClose c .. => some c
  | .send c .. => some c
  | .recv c .. => some c
  | .putCheck i _ | .putLoad i _ | .putQ i _ | .fullClose i _ | .warn i _ | .discard i _ => i
  | .drainClose x => x
  | _ => none

/-- `1` inside a checkout (from a successful `get` to the end of the matching `_put_conn`) or while
holding an item taken by `close`'s drain loop -/
def Pc.slots : Pc → Nat
  | .dropClose .. | .send .. | .recv .. => 1
  | .putCheck .. | .putLoad .. | .putQ .. | .fullClose .. | .warn .. | .discard .. => 1
  | .drainClose _ => 1
  | _ => 0

@[simp] theorem Pc.conn_idle : Pc.idle.conn = none := rfl
@[simp] theorem Pc.slots_idle : Pc.idle.slots = 0 := rfl
@[simp] theorem Pc.conn_getCheck {f l s} : (Pc.getCheck f l s).conn = none := rfl
@[simp] theorem Pc.slots_getCheck {f l s} : (Pc.getCheck f l s).slots = 0 := rfl
@[simp] theorem Pc.conn_getLoad {f l s} : (Pc.getLoad f l s).conn = none := rfl
@[simp] theorem Pc.slots_getLoad {f l s} : (Pc.getLoad f l s).slots = 0 := rfl
@[simp] theorem Pc.conn_getQ {f l s} : (Pc.getQ f l s).conn = none := rfl
@[simp] theorem Pc.slots_getQ {f l s} : (Pc.getQ f l s).slots = 0 := rfl
@[simp] theorem Pc.conn_dropClose {c f l s} : (Pc.dropClose c f l s).conn = some c := rfl
@[simp] theorem Pc.slots_dropClose {c f l s} : (Pc.dropClose c f l s).slots = 1 := rfl
@[simp] theorem Pc.conn_send {c f l s} : (Pc.send c f l s).conn = some c := rfl
@[simp] theorem Pc.slots_send {c f l s} : (Pc.send c f l s).slots = 1 := rfl
@[simp] theorem Pc.conn_recv {c t f l s} : (Pc.recv c t f l s).conn = some c := rfl
@[simp] theorem Pc.slots_recv {c t f l s} : (Pc.recv c t f l s).slots = 1 := rfl
@[simp] theorem Pc.conn_putCheck {i k} : (Pc.putCheck i k).conn = i := rfl
@[simp] theorem Pc.slots_putCheck {i k} : (Pc.putCheck i k).slots = 1 := rfl
@[simp] theorem Pc.conn_putLoad {i k} : (Pc.putLoad i k).conn = i := rfl
@[simp] theorem Pc.slots_putLoad {i k} : (Pc.putLoad i k).slots = 1 := rfl
@[simp] theorem Pc.conn_putQ {i k} : (Pc.putQ i k).conn = i := rfl
@[simp] theorem Pc.slots_putQ {i k} : (Pc.putQ i k).slots = 1 := rfl
@[simp] theorem Pc.conn_fullClose {i k} : (Pc.fullClose i k).conn = i := rfl
@[simp] theorem Pc.slots_fullClose {i k} : (Pc.fullClose i k).slots = 1 := rfl
@[simp] theorem Pc.conn_warn {i k} : (Pc.warn i k).conn = i := rfl
@[simp] theorem Pc.slots_warn {i k} : (Pc.warn i k).slots = 1 := rfl
@[simp] theorem Pc.conn_discard {i k} : (Pc.discard i k).conn = i := rfl
@[simp] theorem Pc.slots_discard {i k} : (Pc.discard i k).slots = 1 := rfl
@[simp] theorem Pc.conn_closeSwap : Pc.closeSwap.conn = none := rfl
@[simp] theorem Pc.slots_closeSwap : Pc.closeSwap.slots = 0 := rfl
@[simp] theorem Pc.conn_drain : Pc.drain.conn = none := rfl
@[simp] theorem Pc.slots_drain : Pc.drain.slots = 0 := rfl
@[simp] theorem Pc.conn_drainClose {x} : (Pc.drainClose x).conn = x := rfl
@[simp] theorem Pc.slots_drainClose {x} : (Pc.drainClose x).slots = 1 := rfl

/-- the continuation of the `_put_conn` call a program counter is in -/
def Pc.cont : Pc → Option Cont
  | .putCheck _ k | .putLoad _ k | .putQ _ k | .fullClose _ k | .warn _ k | .discard _ k => some k
  | _ => none

@[simp] theorem Pc.cont_idle : Pc.idle.cont = none := rfl
@[simp] theorem Pc.cont_getCheck {f l s} : (Pc.getCheck f l s).cont = none := rfl
@[simp] theorem Pc.cont_getLoad {f l s} : (Pc.getLoad f l s).cont = none := rfl
@[simp] theorem Pc.cont_getQ {f l s} : (Pc.getQ f l s).cont = none := rfl
@[simp] theorem Pc.cont_dropClose {c f l s} : (Pc.dropClose c f l s).cont = none := rfl
@[simp] theorem Pc.cont_send {c f l s} : (Pc.send c f l s).cont = none := rfl
@[simp] theorem Pc.cont_recv {c t f l s} : (Pc.recv c t f l s).cont = none := rfl
@[simp] theorem Pc.cont_putCheck {i k} : (Pc.putCheck i k).cont = some k := rfl
@[simp] theorem Pc.cont_putLoad {i k} : (Pc.putLoad i k).cont = some k := rfl
@[simp] theorem Pc.cont_putQ {i k} : (Pc.putQ i k).cont = some k := rfl
@[simp] theorem Pc.cont_fullClose {i k} : (Pc.fullClose i k).cont = some k := rfl
@[simp] theorem Pc.cont_warn {i k} : (Pc.warn i k).cont = some k := rfl
@[simp] theorem Pc.cont_discard {i k} : (Pc.discard i k).cont = some k := rfl
@[simp] theorem Pc.cont_closeSwap : Pc.closeSwap.cont = none := rfl
@[simp] theorem Pc.cont_drain : Pc.drain.cont = none := rfl
@[simp] theorem Pc.cont_drainClose {x} : (Pc.drainClose x).cont = none := rfl

/-- pool slots a thread holds: its checkout in flight + its streaming responses -/
def Thread.slots (th : Thread) : Nat := th.pc.slots + th.resp.toList.length + th.leaked.length

theorem Thread.pcConn_eq (th : Thread) : th.pcConn = th.pc.conn := by
  unfold Thread.pcConn
  cases th.pc <;> rfl

theorem Thread.owned_eq (th : Thread) : th.owned = th.pc.conn.toList ++ th.resp.toList ++ th.leaked := by
  simp [Thread.owned, Thread.pcConn_eq]

theorem Thread.mem_owned {c : ConnId} :
    c ∈ th.owned ↔ th.pc.conn = some c ∨ th.resp = some c ∨ c ∈ th.leaked := by
  simp [Thread.owned_eq]

@[simp] theorem finish_frame (th : Thread) (r : Res) :
    (finish th r).pc = .idle ∧ (finish th r).resp = th.resp ∧ (finish th r).leaked = th.leaked ∧
      (finish th r).sent = th.sent := by
  unfold finish
  split <;> simp

@[simp] theorem applyCont_frame (th : Thread) (k : Cont) :
    (applyCont th k).resp = th.resp ∧ (applyCont th k).leaked = th.leaked ∧
      (applyCont th k).sent = th.sent := by
  cases k <;> simp [applyCont]

theorem applyCont_pc (th : Thread) (k : Cont) :
    (applyCont th k).pc = .idle ∨ ∃ f l s, (applyCont th k).pc = .getCheck f l s := by
  cases k <;> simp [applyCont]

@[simp] theorem failPut_frame (th : Thread) (i k r) :
    (failPut th i k r).pc = .idle ∧ (failPut th i k r).leaked = th.leaked ∧
      (failPut th i k r).sent = th.sent := by
  cases k <;> simp [failPut]

theorem failPut_resp (th : Thread) (i k r) :
    (failPut th i k r).resp = if k = .rel then i else th.resp := by
  cases k <;> simp [failPut]

@[simp] theorem closeConn_frame (sh x) :
    (closeConn sh x).queue = sh.queue ∧ (closeConn sh x).nextId = sh.nextId ∧
      (closeConn sh x).poolRef = sh.poolRef ∧ (closeConn sh x).wire = sh.wire ∧
      (closeConn sh x).maxOpen = sh.maxOpen := by
  cases x <;> simp [closeConn]

@[simp] theorem mem_closeConn_openC (sh x c) :
    c ∈ (closeConn sh x).openC ↔ c ∈ sh.openC ∧ x ≠ some c := by
  cases x <;> simp [closeConn]
  grind

theorem closeConn_closed (sh : Shared) (x : Option ConnId) :
    ∀ c ∈ x.toList, c ∉ (closeConn sh x).openC := by
  intro c hc h
  exact ((mem_closeConn_openC sh x c).mp h).2 (by simpa using hc)

theorem closeConn_openC_nodup (sh x) (h : sh.openC.Nodup) : (closeConn sh x).openC.Nodup := by
  cases x <;> simp [closeConn, h]
  exact h.filter _

theorem closeConn_openC_length (sh x) : (closeConn sh x).openC.length ≤ sh.openC.length := by
  cases x <;> simp [closeConn, List.length_filter_le]

@[simp] theorem openConn_frame (sh c) :
    (openConn sh c).queue = sh.queue ∧ (openConn sh c).nextId = sh.nextId ∧
      (openConn sh c).poolRef = sh.poolRef ∧ (openConn sh c).wire = sh.wire := by
  unfold openConn
  split <;> simp

@[simp] theorem mem_openConn_openC (sh c d) : d ∈ (openConn sh c).openC ↔ d = c ∨ d ∈ sh.openC := by
  unfold openConn
  split <;> simp_all

theorem openConn_openC_nodup (sh c) (h : sh.openC.Nodup) : (openConn sh c).openC.Nodup := by
  unfold openConn
  split <;> simp_all

theorem openConn_maxOpen (sh c) :
    (openConn sh c).maxOpen = sh.maxOpen ∨
      (openConn sh c).maxOpen = max sh.maxOpen (openConn sh c).openC.length := by
  unfold openConn
  split <;> simp

theorem mem_queueConns {c : ConnId} : c ∈ queueConns sh ↔ some c ∈ sh.queue := by
  simp [queueConns]

theorem queueConns_cons (sh : Shared) (x : Option ConnId) (q : List (Option ConnId)) :
    queueConns { sh with queue := x :: q } = x.toList ++ queueConns { sh with queue := q } := by
  cases x <;> simp [queueConns]

@[simp] theorem wireGet_wireSet_self (w c t) : wireGet (wireSet w c t) c = some t := by
  simp [wireGet, wireSet]

theorem wireGet_wireSet_ne (w) {c d : ConnId} (t) (h : d ≠ c) : wireGet (wireSet w c t) d = wireGet w d := by
  simp only [wireGet, wireSet]
  grind

/-- inside `release_conn` the response's back-reference has already been cleared -/
def Thread.relOK (th : Thread) : Prop := th.pc.cont = some .rel → th.resp = none

/-- at the "pool is full" warning the discarded connection has already been closed -/
def warnClosed (sh : Shared) (th : Thread) : Prop :=
  ∀ c k, th.pc = .warn (some c) k → c ∉ sh.openC

/-- a thread waiting for a response waits on a connection whose pending response is its own -/
def recvOK (sh : Shared) (th : Thread) : Prop :=
  ∀ c tag f l st, th.pc = .recv c tag f l st → wireGet sh.wire c = some tag

/-- the tag a thread waits for is its own: (its index, its request counter before the send) -/
def tagOK (tid : Nat) (th : Thread) : Prop :=
  ∀ c tag f l st, th.pc = .recv c tag f l st → tag.1 = tid ∧ tag.2 + 1 = th.sent

/-- the result a finished `urlopen` carries in its continuation is a normal one -/
def contOK (th : Thread) : Prop := ∀ r, th.pc.cont = some (.fin r) → r = .ok ∨ r = .failed

/-- what a thread waiting for the response tagged `tag` reads off connection `c` -/
def recvRes (sh : Shared) (c : ConnId) (tag : Tag) : Res :=
  if wireGet sh.wire c = some tag then .ok else .wrongResp

@[simp, reducible] def Thread.goto (t : Thread) (pc : Pc) : Thread := { t with pc := pc }

/-- `tstep` as a relation.  A rule starts from `t.goto pc` with `t` arbitrary (`tstepPc` is handed the
program counter beside the thread and never reads `t.pc`) and leaves the thread inside the op
(`t.goto pc'`, or a record update that also sets `sent` / `resp`) or ends the op (`finish t r`); the
exits of `applyCont` and `failPut` are rules of their own. -/
inductive Step (cfg : Cfg) (tid : Nat) (sh : Shared) : Thread → Shared → Thread → Prop
  | getCheckClosed : sh.poolRef = none →
      Step cfg tid sh (Thread.goto t (.getCheck f l st)) sh (finish t .closedPool)
  | getCheck : sh.poolRef = some q →
      Step cfg tid sh (Thread.goto t (.getCheck f l st)) sh (t.goto (.getLoad f l st))
  | getLoadClosed : sh.poolRef = none →
      Step cfg tid sh (Thread.goto t (.getLoad f l st)) sh (finish t .closedPool)
  | getLoad : sh.poolRef = some q →
      Step cfg tid sh (Thread.goto t (.getLoad f l st)) sh (t.goto (.getQ f l st))
  | getDropped : sh.queue = some c :: q → sh.gone.contains c = true →
      Step cfg tid sh (Thread.goto t (.getQ f l st))
        { sh with queue := q } (t.goto (.dropClose c f l st))
  | getConn : sh.queue = some c :: q → ¬sh.gone.contains c = true →
      Step cfg tid sh (Thread.goto t (.getQ f l st))
        { sh with queue := q } (t.goto (.send c f l st))
  | getNew : sh.queue = [] → ¬cfg.block = true →
      Step cfg tid sh (Thread.goto t (.getQ f l st))
        { sh with nextId := sh.nextId + 1 } (t.goto (.send sh.nextId f l st))
  | getTimeout : sh.queue = [] → cfg.block = true → cfg.timeout = true →
      Step cfg tid sh (Thread.goto t (.getQ f l st)) sh (finish t .emptyPool)
  | getSlot : sh.queue = none :: q →
      Step cfg tid sh (Thread.goto t (.getQ f l st))
        { sh with queue := q, nextId := sh.nextId + 1 } (t.goto (.send sh.nextId f l st))
  | dropClose :
      Step cfg tid sh (Thread.goto t (.dropClose c f l st))
        (closeConn sh (some c)) (t.goto (.send c f l st))
  | send :
      Step cfg tid sh (Thread.goto t (.send c f l st))
        { openConn sh c with wire := wireSet (openConn sh c).wire c (tid, t.sent) }
        { t with pc := .recv c (tid, t.sent) f l st, sent := t.sent + 1 }
  | recvRetry :
      Step cfg tid sh (Thread.goto t (.recv c tag (n + 1) l st))
        (closeConn sh (some c)) (t.goto (.putCheck none (.retry n l st)))
  | recvFail :
      Step cfg tid sh (Thread.goto t (.recv c tag 0 .fail st))
        (closeConn sh (some c)) (t.goto (.putCheck none (.fin .failed)))
  | recvOk :
      Step cfg tid sh (Thread.goto t (.recv c tag 0 .ok false)) sh
        (t.goto (.putCheck (some c) (.fin (recvRes sh c tag))))
  | recvOkStream :
      Step cfg tid sh (Thread.goto t (.recv c tag 0 .ok true)) sh
        (finish { t with resp := some c, rclose := false, leaked := t.resp.toList ++ t.leaked }
          (recvRes sh c tag))
  | recvDrop :
      Step cfg tid sh (Thread.goto t (.recv c tag 0 .okDrop false))
        { sh with gone := c :: sh.gone.filter (· != c) }
        (t.goto (.putCheck (some c) (.fin (recvRes sh c tag))))
  | recvDropStream :
      Step cfg tid sh (Thread.goto t (.recv c tag 0 .okDrop true))
        { sh with gone := c :: sh.gone.filter (· != c) }
        (finish { t with resp := some c, rclose := false, leaked := t.resp.toList ++ t.leaked }
          (recvRes sh c tag))
  | recvClose :
      Step cfg tid sh (Thread.goto t (.recv c tag 0 .okClose false))
        (closeConn sh (some c)) (t.goto (.putCheck (some c) (.fin (recvRes sh c tag))))
  | recvCloseStream :
      Step cfg tid sh (Thread.goto t (.recv c tag 0 .okClose true)) sh
        (finish { t with resp := some c, rclose := true, leaked := t.resp.toList ++ t.leaked }
          (recvRes sh c tag))
  | putCheckClosed : sh.poolRef = none →
      Step cfg tid sh (Thread.goto t (.putCheck item k)) sh (t.goto (.discard item k))
  | putCheck : sh.poolRef = some q →
      Step cfg tid sh (Thread.goto t (.putCheck item k)) sh (t.goto (.putLoad item k))
  | putLoadClosed : sh.poolRef = none →
      Step cfg tid sh (Thread.goto t (.putLoad item k)) sh (t.goto (.discard item k))
  | putLoad : sh.poolRef = some q →
      Step cfg tid sh (Thread.goto t (.putLoad item k)) sh (t.goto (.putQ item k))
  | putRetry : sh.queue.length < cfg.maxsize →
      Step cfg tid sh (Thread.goto t (.putQ item (.retry f l st)))
        { sh with queue := item :: sh.queue } (t.goto (.getCheck f l st))
  | putFin : sh.queue.length < cfg.maxsize →
      Step cfg tid sh (Thread.goto t (.putQ item (.fin r)))
        { sh with queue := item :: sh.queue } (finish t r)
  | putRel : sh.queue.length < cfg.maxsize →
      Step cfg tid sh (Thread.goto t (.putQ item .rel))
        { sh with queue := item :: sh.queue } (finish t .ok)
  | putFull : ¬ sh.queue.length < cfg.maxsize →
      Step cfg tid sh (Thread.goto t (.putQ item k)) sh (t.goto (.fullClose item k))
  | fullRaiseRel : cfg.block = true →
      Step cfg tid sh (Thread.goto t (.fullClose item .rel))
        (closeConn sh item) (finish { t with resp := item } .fullPool)
  | fullRaise : cfg.block = true → k ≠ .rel →
      Step cfg tid sh (Thread.goto t (.fullClose item k)) (closeConn sh item) (finish t .fullPool)
  | fullWarn : ¬cfg.block = true →
      Step cfg tid sh (Thread.goto t (.fullClose item k))
        (closeConn sh item) (t.goto (.warn item k))
  | warn :
      Step cfg tid sh (Thread.goto t (.warn item k)) sh (t.goto (.discard item k))
  | discardRetry :
      Step cfg tid sh (Thread.goto t (.discard item (.retry f l st))) (closeConn sh item)
        (t.goto (.getCheck f l st))
  | discardFin :
      Step cfg tid sh (Thread.goto t (.discard item (.fin r))) (closeConn sh item) (finish t r)
  | discardRel :
      Step cfg tid sh (Thread.goto t (.discard item .rel)) (closeConn sh item) (finish t .ok)
  | swapClosed : sh.poolRef = none →
      Step cfg tid sh (Thread.goto t .closeSwap) sh (finish t .ok)
  | swap : sh.poolRef = some q →
      Step cfg tid sh (Thread.goto t .closeSwap) { sh with poolRef := none } (t.goto .drain)
  | drainItem : sh.queue = x :: q →
      Step cfg tid sh (Thread.goto t .drain) { sh with queue := q } (t.goto (.drainClose x))
  | drainEmpty : sh.queue = [] →
      Step cfg tid sh (Thread.goto t .drain) sh (finish t .ok)
  | drainClose :
      Step cfg tid sh (Thread.goto t (.drainClose x)) (closeConn sh x) (t.goto .drain)
  | reqClosed : t.prog = .req f l st :: rest → sh.poolRef = none →
      Step cfg tid sh (Thread.goto t .idle) sh (finish t .closedPool)
  | req : t.prog = .req f l st :: rest → sh.poolRef = some q →
      Step cfg tid sh (Thread.goto t .idle) sh (t.goto (.getLoad f l st))
  | closeClosed : t.prog = .close :: rest → sh.poolRef = none →
      Step cfg tid sh (Thread.goto t .idle) sh (finish t .ok)
  | close : t.prog = .close :: rest → sh.poolRef = some q →
      Step cfg tid sh (Thread.goto t .idle) { sh with poolRef := none } (t.goto .drain)
  | releaseNone : t.prog = .release :: rest → t.resp = none →
      Step cfg tid sh (Thread.goto t .idle) sh (finish t .ok)
  | releaseRead : t.prog = .release :: rest → t.resp = some c → t.rclose = true →
      Step cfg tid sh (Thread.goto t .idle) (closeConn sh (some c))
        { t with resp := none, rclose := false, pc := .putCheck (some c) .rel }
  | releaseClosed : t.prog = .release :: rest → t.resp = some c → ¬t.rclose = true →
      sh.poolRef = none →
      Step cfg tid sh (Thread.goto t .idle) sh { t with resp := none, pc := .discard (some c) .rel }
  | release : t.prog = .release :: rest → t.resp = some c → ¬t.rclose = true →
      sh.poolRef = some q →
      Step cfg tid sh (Thread.goto t .idle) sh { t with resp := none, pc := .putLoad (some c) .rel }

theorem tstepPc_step {pc : Pc} (h : tstepPc cfg tid sh th pc = some (sh', th')) :
    Step cfg tid sh (th.goto pc) sh' th' := by
  cases pc <;> simp only [tstepPc] at h
  case recv c tag f l st =>
    cases f <;> cases l <;> cases st <;> cases h <;> constructor
  case putQ i k => cases k <;> split at h <;> cases h <;> constructor <;> assumption
  case discard i k => cases k <;> cases h <;> constructor
  case fullClose i k =>
    cases k <;> split at h <;> cases h <;> constructor <;> first | assumption | nofun
  all_goals (repeat' split at h) <;> cases h <;> constructor <;> assumption

theorem tstep_step (h : tstep cfg tid sh th = some (sh', th')) : Step cfg tid sh th sh' th' := by
  unfold tstep at h
  split at h
  · have e : th = th.goto .idle := by cases th; simp_all
    rw [e]
    simp only [tstepPc] at h
    repeat' split at h
    all_goals cases h
    -- `releaseNone` has the conclusion of `closeClosed`, which stands before it
    all_goals first | exact .releaseNone ‹_› ‹_› | (constructor <;> assumption)
  · exact tstepPc_step h

theorem tstep_none (h : tstep cfg tid sh th = none) :
    th.done = true ∨
      (∃ f l st, th.pc = .getQ f l st) ∧ sh.queue = [] ∧ cfg.block = true ∧ cfg.timeout = false := by
  rcases th with ⟨prog, pc, resp, leaked, results, sent, rclose⟩
  cases pc <;> simp only [tstep, tstepPc] at h <;> (repeat' split at h) <;>
    simp_all [Thread.done]

/-- the queue item a program counter holds: the one checked out, or taken by `close`'s drain loop -/
def Pc.items : Pc → List (Option ConnId)
  | .dropClose c .. | .send c .. | .recv c .. => [some c]
  | .putCheck i _ | .putLoad i _ | .putQ i _ | .fullClose i _ | .warn i _ | .discard i _ => [i]
  | .drainClose x => [x]
  | _ => []

/-- the pool's items a thread holds: lent out of the queue, or made by it -/
def Thread.items (th : Thread) : List (Option ConnId) :=
  th.pc.items ++ (th.resp.toList ++ th.leaked).map some

theorem Pc.length_items (pc : Pc) : pc.items.length = pc.slots := by cases pc <;> rfl

theorem Pc.filterMap_items (pc : Pc) : pc.items.filterMap id = pc.conn.toList := by
  cases pc <;> rfl

theorem Thread.length_items (th : Thread) : th.items.length = th.slots := by
  simp [Thread.items, Thread.slots, Pc.length_items, Nat.add_assoc]

theorem Thread.filterMap_items (th : Thread) : th.items.filterMap id = th.owned := by
  simp [Thread.items, Thread.owned_eq, Pc.filterMap_items, List.filterMap_map]

theorem Thread.owned_length_le_slots (th : Thread) : th.owned.length ≤ th.slots := by
  rw [← th.filterMap_items, ← th.length_items]
  exact List.length_filterMap_le _ _

/-- a program counter at which the thread gives its item up for good -/
def Pc.gives (pc : Pc) : Prop :=
  (∃ x, pc = .drainClose x) ∨ (∃ i k, pc = .discard i k) ∨ ∃ i k, pc = .fullClose i k

/-- What a step does with the pool's items.  An item is made out of nothing only by the `get()` of a
`block=False` pool on the empty queue (`make`); it is given up for nothing only at `discard`, by
`FullPoolError` and in `close`'s drain loop (`drop`). -/
inductive Flow (cfg : Cfg) (sh : Shared) (th : Thread) (sh' : Shared) (th' : Thread) : Prop
  | keep : sh'.queue = sh.queue → th'.items = th.items → sh'.nextId = sh.nextId → Flow cfg sh th sh' th'
  | take x : sh.queue = x :: sh'.queue → th'.items = x :: th.items → sh'.nextId = sh.nextId →
      Flow cfg sh th sh' th'
  | slot : sh.queue = none :: sh'.queue → th'.items = some sh.nextId :: th.items →
      sh'.nextId = sh.nextId + 1 → Flow cfg sh th sh' th'
  | make : ¬cfg.block = true → (∃ f l st, th.pc = .getQ f l st) → sh.queue = [] → sh'.queue = [] →
      th'.items = some sh.nextId :: th.items → sh'.nextId = sh.nextId + 1 → Flow cfg sh th sh' th'
  | give x : sh.queue.length < cfg.maxsize → sh'.queue = x :: sh.queue → th.items = x :: th'.items →
      sh'.nextId = sh.nextId → Flow cfg sh th sh' th'
  | fail c r : th.items = some c :: r → th'.items = none :: r → c ∉ sh'.openC →
      sh'.queue = sh.queue → sh'.nextId = sh.nextId → Flow cfg sh th sh' th'
  | drop x : th.pc.gives → th.items = x :: th'.items → (∀ c, x = some c → c ∉ sh'.openC) →
      sh'.queue = sh.queue → sh'.nextId = sh.nextId → Flow cfg sh th sh' th'

theorem tstep_flow (hs : Step cfg tid sh th sh' th') (hr : th.relOK) : Flow cfg sh th sh' th' := by
  cases hs with
  | getDropped hq | getConn hq | drainItem hq => exact .take _ hq rfl rfl
  | getSlot hq => exact .slot hq rfl rfl
  | getNew hq hb => exact .make hb ⟨_, _, _, rfl⟩ hq hq rfl rfl
  | putRetry hlt | putFin hlt | putRel hlt =>
    exact .give _ hlt rfl (by simp [Thread.items, Pc.items]) rfl
  | recvRetry | recvFail =>
    exact .fail _ _ rfl rfl (closeConn_closed sh _ _ (by simp)) (by simp) (by simp)
  | @discardRetry _ x | @discardFin _ x | @discardRel _ x | @drainClose _ x | @fullRaise _ _ x =>
    exact .drop x (by simp [Pc.gives]) (by simp [Thread.items, Pc.items])
      (fun c hc => closeConn_closed sh x c (by simp [hc])) (by simp) (by simp)
  | @fullRaiseRel _ x =>
    -- inside `release_conn` the connection stays with the response
    have := hr rfl
    cases x with
    | none => exact .drop none (by simp [Pc.gives]) (by simp_all [Thread.items, Pc.items]) nofun (by simp) (by simp)
    | some c => exact .keep (by simp) (by simp_all [Thread.items, Pc.items]) (by simp)
  | _ => exact .keep (by simp) (by simp [Thread.items, Pc.items, *]) (by simp)

theorem Flow.queue_le (h : Flow cfg sh th sh' th') (hq : sh.queue.length ≤ cfg.maxsize) :
    sh'.queue.length ≤ cfg.maxsize := by
  cases h <;> simp_all <;> omega

/-- With `block=True` no step makes an item, and only one from a `gives` program counter loses one. -/
theorem Flow.slots_block (h : Flow cfg sh th sh' th') (hb : cfg.block = true) :
    sh'.queue.length + th'.slots ≤ sh.queue.length + th.slots ∧
      (¬th.pc.gives → sh'.queue.length + th'.slots = sh.queue.length + th.slots) := by
  simp only [← Thread.length_items]
  cases h <;> simp_all <;> omega

open List in
/-- `n`: ids the step allocates; `d`: connections it discards, which it has closed. -/
theorem Flow.conns (h : Flow cfg sh th sh' th') :
    ∃ n d, sh'.nextId = sh.nextId + n ∧
      range' sh.nextId n ++ (queueConns sh ++ th.owned) ~ d ++ (queueConns sh' ++ th'.owned) ∧
      ∀ c ∈ d, c ∉ sh'.openC := by
  simp only [← Thread.filterMap_items, queueConns]
  cases h with
  | keep hq hi hn => exact ⟨0, [], hn, by simp [hq, hi], nofun⟩
  | take x hq hi hn =>
    exact ⟨0, [], hn, by simpa [hq, hi, filterMap_id_cons] using perm_append_comm_assoc .., nofun⟩
  | slot hq hi hn => exact ⟨1, [], hn, by simpa [hq, hi] using perm_middle.symm, nofun⟩
  | make _ _ hq hq' hi hn => exact ⟨1, [], hn, by simp [hq, hq', hi], nofun⟩
  | give x _ hq hi hn =>
    exact ⟨0, [], hn, by simpa [hq, hi, filterMap_id_cons] using (perm_append_comm_assoc ..).symm, nofun⟩
  | fail c r hi hi' hc hq hn => exact ⟨0, [c], hn, by simp [hq, hi, hi'], by simpa using hc⟩
  | drop x _ hi hc hq hn =>
    exact ⟨0, x.toList, hn, by simpa [hq, hi, filterMap_id_cons] using (perm_append_comm_assoc ..).symm,
      by simpa using hc⟩

theorem tstep_ids (hs : Step cfg tid sh th sh' th') (hr : th.relOK)
    (hn : (queueConns sh ++ th.owned).Nodup) (hlt : ∀ c ∈ queueConns sh ++ th.owned, c < sh.nextId) :
    sh.nextId ≤ sh'.nextId ∧ (queueConns sh' ++ th'.owned).Nodup ∧
      (∀ c ∈ queueConns sh' ++ th'.owned,
        c < sh'.nextId ∧ (c ∈ queueConns sh ++ th.owned ∨ sh.nextId ≤ c)) ∧
      ∀ c ∈ sh'.openC, c ∈ queueConns sh ++ th.owned → c ∈ queueConns sh' ++ th'.owned := by
  obtain ⟨n, d, hid, hperm, hd⟩ := (tstep_flow hs hr).conns
  have hle : sh.nextId ≤ sh'.nextId := hid ▸ Nat.le_add_right _ _
  refine ⟨hle, ?_, fun c hc => ?_, fun c hc hold => ?_⟩
  · refine (List.nodup_append.mp (hperm.nodup ?_)).2.1
    refine List.nodup_append.mpr ⟨List.nodup_range', hn, fun a ha b hb e => ?_⟩
    subst e
    exact Nat.lt_irrefl _ (Nat.lt_of_lt_of_le (hlt a hb) (List.mem_range'_1.mp ha).1)
  · rcases List.mem_append.mp (hperm.mem_iff.mpr (List.mem_append_right d hc)) with h | h
    · have := List.mem_range'_1.mp h
      exact ⟨hid ▸ this.2, Or.inr this.1⟩
    · exact ⟨Nat.lt_of_lt_of_le (hlt c h) hle, Or.inl h⟩
  · rcases List.mem_append.mp (hperm.mem_iff.mp (List.mem_append_right _ hold)) with h | h
    · exact absurd hc (hd c h)
    · exact h

/-- Only `send` opens a socket or touches the wire, and the sender holds that connection. -/
theorem tstep_sockets (hs : Step cfg tid sh th sh' th') :
    (sh.openC.Nodup → sh'.openC.Nodup) ∧
      (sh'.maxOpen = sh.maxOpen ∨ sh'.maxOpen = max sh.maxOpen sh'.openC.length) ∧
      (∀ c ∈ sh'.openC, c ∈ sh.openC ∨ c ∈ th'.owned) ∧
      ∀ c, c ∉ th.owned → wireGet sh'.wire c = wireGet sh.wire c := by
  cases hs with
  | @send _ c' =>
    refine ⟨openConn_openC_nodup _ _, openConn_maxOpen _ _, fun c hc => ?_, fun c hc => ?_⟩
    · rcases (mem_openConn_openC _ _ _).mp hc with rfl | h
      · exact Or.inr (by simp [Thread.mem_owned])
      · exact Or.inl h
    · have hne : c ≠ c' := fun e => hc (by simp [Thread.mem_owned, e])
      exact (wireGet_wireSet_ne _ _ hne).trans (by simp)
  | _ =>
    -- every other rule leaves the sockets alone, or closes one (`closeConn`)
    first
    | exact ⟨id, Or.inl rfl, fun _ hc => Or.inl hc, fun _ _ => rfl⟩
    | exact ⟨closeConn_openC_nodup _ _, Or.inl (by simp),
        fun _ hc => Or.inl ((mem_closeConn_openC ..).mp hc).1, fun _ _ => by simp⟩

theorem tstep_poolRef_cases (hs : Step cfg tid sh th sh' th') :
    sh'.poolRef = sh.poolRef ∨ (sh'.poolRef = none ∧ th'.pc = .drain) := by
  cases hs with
  | close | swap => exact Or.inr ⟨rfl, rfl⟩
  | _ => simp

theorem tstep_poolRef_none (h : tstep cfg tid sh th = some (sh', th')) (hn : sh.poolRef = none) :
    sh'.poolRef = none := by
  rcases tstep_poolRef_cases (tstep_step h) with e | ⟨e, -⟩
  · exact e.trans hn
  · exact e

/-- what one step establishes about the thread's new program counter: the two per-thread clauses of
`Inv`, and the only rules by which `fullClose`, `warn` and `discard` are entered -/
structure PcFrom (cfg : Cfg) (tid : Nat) (sh : Shared) (th : Thread) (sh' : Shared) (th' : Thread) :
    Prop where
  recv : recvOK sh' th'
  tag : tagOK tid th'
  fullClose : ∀ i k, th'.pc = .fullClose i k → th.pc = .putQ i k ∧ cfg.maxsize ≤ sh.queue.length
  warn : ∀ i k, th'.pc = .warn i k →
    th.pc = .fullClose i k ∧ ¬cfg.block = true ∧ sh' = closeConn sh i
  discard : ∀ i k, th'.pc = .discard i k → sh.poolRef = none ∨ th.pc = .warn i k

theorem tstep_pc_from (hs : Step cfg tid sh th sh' th') : PcFrom cfg tid sh th sh' th' := by
  cases hs with
  | send =>
    refine ⟨fun _ _ _ _ _ hp => ?_, fun _ _ _ _ _ hp => ?_, by simp, by simp, by simp⟩ <;> cases hp
    · exact wireGet_wireSet_self ..
    · exact ⟨rfl, rfl⟩
  | putFull hn =>
    refine ⟨by simp [recvOK], by simp [tagOK], fun _ _ hp => ?_, by simp, by simp⟩
    cases hp
    exact ⟨rfl, Nat.le_of_not_lt hn⟩
  | fullWarn hb =>
    refine ⟨by simp [recvOK], by simp [tagOK], by simp, fun _ _ hp => ?_, by simp⟩
    cases hp
    exact ⟨rfl, hb, rfl⟩
  | putCheckClosed hn | putLoadClosed hn | releaseClosed _ _ _ hn =>
    exact ⟨by simp [recvOK], by simp [tagOK], by simp, by simp, fun _ _ _ => .inl hn⟩
  | warn =>
    refine ⟨by simp [recvOK], by simp [tagOK], by simp, by simp, fun _ _ hp => ?_⟩
    cases hp
    exact .inr rfl
  | _ =>
    refine ⟨fun _ _ _ _ _ hp => ?_, fun _ _ _ _ _ hp => ?_, fun _ _ hp => ?_, fun _ _ hp => ?_,
      fun _ _ hp => ?_⟩ <;> simp at hp

theorem tstep_warnClosed (hs : Step cfg tid sh th sh' th') : warnClosed sh' th' := by
  intro c k hp
  rw [((tstep_pc_from hs).warn _ _ hp).2.2]
  exact closeConn_closed sh (some c) c (by simp)

/-- a `_put_conn` inside `release_conn` is entered with `resp := none`; a `.fin r` with `r` read off
the wire arises only at `recv`, where `recvOK` makes it `.ok` -/
theorem tstep_relOK_contOK (hs : Step cfg tid sh th sh' th') (hv : recvOK sh th) (hr : th.relOK)
    (hk : contOK th) : th'.relOK ∧ contOK th' := by
  cases hs with
  | recvOk | recvDrop | recvClose => simp [Thread.relOK, contOK, recvRes, hv _ _ _ _ _ rfl]
  | _ => first | exact ⟨hr, hk⟩ | simp [Thread.relOK, contOK]

def Op.kind : Op → Nat
  | .req .. => 0
  | .release => 1
  | .close => 2

def Cont.kind : Cont → Nat
  | .rel => 1
  | _ => 0

/-- the kind of op a program counter belongs to -/
def Pc.kind : Pc → Option Nat
  | .idle => none
  | .getCheck .. | .getLoad .. | .getQ .. | .dropClose .. | .send .. | .recv .. => some 0
  | .putCheck _ k | .putLoad _ k | .putQ _ k | .fullClose _ k | .warn _ k | .discard _ k => some k.kind
  | .closeSwap | .drain | .drainClose _ => some 2

@[simp] theorem Pc.kind_idle : Pc.idle.kind = none := rfl
@[simp] theorem Pc.kind_getCheck {f l s} : (Pc.getCheck f l s).kind = some 0 := rfl
@[simp] theorem Pc.kind_getLoad {f l s} : (Pc.getLoad f l s).kind = some 0 := rfl
@[simp] theorem Pc.kind_getQ {f l s} : (Pc.getQ f l s).kind = some 0 := rfl
@[simp] theorem Pc.kind_dropClose {c f l s} : (Pc.dropClose c f l s).kind = some 0 := rfl
@[simp] theorem Pc.kind_send {c f l s} : (Pc.send c f l s).kind = some 0 := rfl
@[simp] theorem Pc.kind_recv {c t f l s} : (Pc.recv c t f l s).kind = some 0 := rfl
@[simp] theorem Pc.kind_putCheck {i k} : (Pc.putCheck i k).kind = some k.kind := rfl
@[simp] theorem Pc.kind_putLoad {i k} : (Pc.putLoad i k).kind = some k.kind := rfl
@[simp] theorem Pc.kind_putQ {i k} : (Pc.putQ i k).kind = some k.kind := rfl
@[simp] theorem Pc.kind_fullClose {i k} : (Pc.fullClose i k).kind = some k.kind := rfl
@[simp] theorem Pc.kind_warn {i k} : (Pc.warn i k).kind = some k.kind := rfl
@[simp] theorem Pc.kind_discard {i k} : (Pc.discard i k).kind = some k.kind := rfl
@[simp] theorem Pc.kind_closeSwap : Pc.closeSwap.kind = some 2 := rfl
@[simp] theorem Pc.kind_drain : Pc.drain.kind = some 2 := rfl
@[simp] theorem Pc.kind_drainClose {x} : (Pc.drainClose x).kind = some 2 := rfl
@[simp] theorem Op.kind_req {f l s} : (Op.req f l s).kind = 0 := rfl
@[simp] theorem Op.kind_release : Op.release.kind = 1 := rfl
@[simp] theorem Op.kind_close : Op.close.kind = 2 := rfl
@[simp] theorem Cont.kind_rel : Cont.rel.kind = 1 := rfl
@[simp] theorem Cont.kind_fin {r} : (Cont.fin r).kind = 0 := rfl
@[simp] theorem Cont.kind_retry {f l s} : (Cont.retry f l s).kind = 0 := rfl
theorem Cont.kind_lt (k : Cont) : k.kind < 2 := by cases k <;> simp
@[simp] theorem Cont.kind_ne_two (k : Cont) : k.kind ≠ 2 := by cases k <;> simp
theorem Op.kind_eq_two {op : Op} : op.kind = 2 ↔ op = .close := by cases op <;> simp
theorem Op.kind_eq_zero {op : Op} : op.kind = 0 ↔ ∃ f l st, op = .req f l st := by cases op <;> simp

/-- while an op is running it is the head of the thread's program -/
def progOK (th : Thread) : Prop :=
  ∀ n, th.pc.kind = some n → ∃ op rest, th.prog = op :: rest ∧ op.kind = n

@[simp] theorem finish_progOK (th : Thread) (r : Res) : progOK (finish th r) := by
  simp [progOK]

@[simp] theorem failPut_progOK (th : Thread) (i k r) : progOK (failPut th i k r) := by
  simp [progOK]

@[simp] theorem applyCont_prog_retry (th : Thread) (f l s) :
    (applyCont th (.retry f l s)).prog = th.prog := rfl

/-- does the scripted last attempt deliver a response (`okClose`: with `Connection: close`;
`okDrop`: after which the peer closes)? -/
def Outcome.good : Outcome → Bool
  | .ok => true
  | .fail => false
  | .okClose => true
  | .okDrop => true

@[simp] theorem Outcome.good_ok : Outcome.ok.good = true := rfl
@[simp] theorem Outcome.good_fail : Outcome.fail.good = false := rfl
@[simp] theorem Outcome.good_okClose : Outcome.okClose.good = true := rfl
@[simp] theorem Outcome.good_okDrop : Outcome.okDrop.good = true := rfl
theorem Outcome.good_eq_false {l : Outcome} : l.good = false ↔ l = .fail := by cases l <;> simp
theorem Outcome.good_eq_true {l : Outcome} : l.good = true ↔ l ≠ .fail := by cases l <;> simp

/-- whether the scripted last attempt succeeds, as far as a continuation remembers it -/
def Cont.last : Cont → Option Bool
  | .retry _ l _ => some l.good
  | .fin .ok => some true
  | .fin .failed => some false
  | _ => none

/-- whether the scripted last attempt of the request a program counter is in succeeds -/
def Pc.last : Pc → Option Bool
  | .getCheck _ l _ | .getLoad _ l _ | .getQ _ l _ | .dropClose _ _ l _ | .send _ _ l _
  | .recv _ _ _ l _ => some l.good
  | .putCheck _ k | .putLoad _ k | .putQ _ k | .fullClose _ k | .warn _ k | .discard _ k => k.last
  | _ => none

@[simp] theorem Pc.last_idle : Pc.idle.last = none := rfl
@[simp] theorem Pc.last_getCheck {f l s} : (Pc.getCheck f l s).last = some l.good := rfl
@[simp] theorem Pc.last_getLoad {f l s} : (Pc.getLoad f l s).last = some l.good := rfl
@[simp] theorem Pc.last_getQ {f l s} : (Pc.getQ f l s).last = some l.good := rfl
@[simp] theorem Pc.last_dropClose {c f l s} : (Pc.dropClose c f l s).last = some l.good := rfl
@[simp] theorem Pc.last_send {c f l s} : (Pc.send c f l s).last = some l.good := rfl
@[simp] theorem Pc.last_recv {c t f l s} : (Pc.recv c t f l s).last = some l.good := rfl
@[simp] theorem Pc.last_putCheck {i k} : (Pc.putCheck i k).last = k.last := rfl
@[simp] theorem Pc.last_putLoad {i k} : (Pc.putLoad i k).last = k.last := rfl
@[simp] theorem Pc.last_putQ {i k} : (Pc.putQ i k).last = k.last := rfl
@[simp] theorem Pc.last_fullClose {i k} : (Pc.fullClose i k).last = k.last := rfl
@[simp] theorem Pc.last_warn {i k} : (Pc.warn i k).last = k.last := rfl
@[simp] theorem Pc.last_discard {i k} : (Pc.discard i k).last = k.last := rfl
@[simp] theorem Pc.last_closeSwap : Pc.closeSwap.last = none := rfl
@[simp] theorem Pc.last_drain : Pc.drain.last = none := rfl
@[simp] theorem Pc.last_drainClose {x} : (Pc.drainClose x).last = none := rfl
@[simp] theorem Cont.last_retry {f l s} : (Cont.retry f l s).last = some l.good := rfl
@[simp] theorem Cont.last_fin_ok : (Cont.fin .ok).last = some true := rfl
@[simp] theorem Cont.last_fin_failed : (Cont.fin .failed).last = some false := rfl
@[simp] theorem Cont.last_fin_wrongResp : (Cont.fin .wrongResp).last = none := rfl
@[simp] theorem Cont.last_rel : Cont.rel.last = none := rfl

/-- the outcome the program counter carries is the one scripted in the running `req` op (up to
`ok` / `okClose` / `okDrop`, which a stored result does not distinguish) -/
def lastOK (th : Thread) : Prop :=
  ∀ b, th.pc.last = some b → ∃ f l st rest, th.prog = .req f l st :: rest ∧ l.good = b

theorem lastOK_of_none (h : th.pc.last = none) : lastOK th :=
  fun _ hb => nomatch h.symm.trans hb

@[simp] theorem finish_lastOK (th : Thread) (r : Res) : lastOK (finish th r) :=
  lastOK_of_none (by simp)

@[simp] theorem failPut_lastOK (th : Thread) (i k r) : lastOK (failPut th i k r) :=
  lastOK_of_none (by simp)

theorem tstep_progOK_lastOK (hs : Step cfg tid sh th sh' th') (hp : progOK th) (hl : lastOK th) :
    progOK th' ∧ lastOK th' := by
  cases hs with
  | req hprog =>
    exact ⟨by simp [progOK, hprog], fun b hb => ⟨_, _, _, _, hprog, Option.some.inj hb⟩⟩
  | close hprog | releaseRead hprog | releaseClosed hprog | release hprog =>
    exact ⟨by simp [progOK, hprog], lastOK_of_none rfl⟩
  | recvOk | recvDrop | recvClose =>
    refine ⟨hp, ?_⟩
    -- the continuation remembers a success, or (foreign response) nothing
    unfold recvRes
    split
    · exact hl
    · exact lastOK_of_none rfl
  | _ => first | exact ⟨hp, hl⟩ | exact ⟨finish_progOK _ _, finish_lastOK _ _⟩

/-- `th` keeps its program and results, or finishes the op at the head of its program with `r` -/
def Advances (th th' : Thread) (r : Res) : Prop :=
  (th'.prog = th.prog ∧ th'.results = th.results) ∨
    ∃ op rest, th.prog = op :: rest ∧ th'.prog = rest ∧ th'.results = th.results ++ [(op, r)]

theorem finish_advances {th th0 : Thread} (r : Res) (hp : th0.prog = th.prog)
    (hr : th0.results = th.results) : Advances th (finish th0 r) r := by
  unfold finish
  split
  · rename_i op rest hprog
    exact Or.inr ⟨op, rest, hp ▸ hprog, rfl, hr ▸ rfl⟩
  · exact Or.inl ⟨hp, hr⟩

theorem tstep_advances (hs : Step cfg tid sh th sh' th') : ∃ r, Advances th th' r := by
  cases hs <;> first | exact ⟨.ok, Or.inl ⟨rfl, rfl⟩⟩ | exact ⟨_, finish_advances _ rfl rfl⟩

theorem Advances.mem_results {r} (h : Advances th th' r) :
    ∀ p ∈ th'.results, p ∈ th.results ∨ p.2 = r ∧ ∃ rest, th.prog = p.1 :: rest := by
  intro p hp
  rcases h with ⟨-, e⟩ | ⟨op, rest, hprog, -, e⟩
  · exact Or.inl (e ▸ hp)
  · rw [e, List.mem_append, List.mem_singleton] at hp
    exact hp.imp_right fun e => ⟨by rw [e], rest, by rw [e]; exact hprog⟩

theorem tstep_results_head (h : tstep cfg tid sh th = some (sh', th')) :
    ∀ p ∈ th'.results, p ∈ th.results ∨ ∃ rest, th.prog = p.1 :: rest := by
  obtain ⟨r, ha⟩ := tstep_advances (tstep_step h)
  exact fun p hp => (ha.mem_results p hp).imp_right (·.2)

theorem Advances.results_mono {r} (h : Advances th th' r) :
    ∀ p ∈ th.results, p ∈ th'.results := by
  rcases h with ⟨-, e⟩ | ⟨op, rest, -, -, e⟩ <;> simp [e] <;> exact fun _ _ h => Or.inl h

theorem Advances.prog_sub {r} (h : Advances th th' r) :
    ∀ op ∈ th'.prog, op ∈ th.prog := by
  rcases h with ⟨e, -⟩ | ⟨op, rest, e1, e2, -⟩
  · exact fun _ h => e ▸ h
  · exact fun _ h => e1 ▸ List.mem_cons_of_mem _ (e2 ▸ h)

/-- the finished ops followed by the remaining program: no step changes it (`tstep_script`) -/
def Thread.script (th : Thread) : List Op := th.results.map Prod.fst ++ th.prog

theorem Advances.script {r} (h : Advances th th' r) : th'.script = th.script := by
  rcases h with ⟨e1, e2⟩ | ⟨op, rest, e1, e2, e3⟩ <;> simp [Thread.script, *]

theorem tstep_script (hs : Step cfg tid sh th sh' th') : th'.script = th.script :=
  (tstep_advances hs).elim fun _ h => h.script

def closesIn (l : List Op) : Nat := l.countP (fun o => decide (o = Op.close))

/-- `close` ops of a thread, finished + still to run: constant along every run -/
def opCloses (th : Thread) : Nat := closesIn (th.results.map Prod.fst) + closesIn th.prog

theorem opCloses_eq (th : Thread) : opCloses th = closesIn th.script := by
  simp [opCloses, closesIn, Thread.script]

/-- the thread has executed `old_pool, self.pool = self.pool, None` in a `close` op -/
def swapper (th : Thread) : Prop :=
  th.pc = .drain ∨ (∃ x, th.pc = .drainClose x) ∨ ∃ r, (Op.close, r) ∈ th.results

theorem tstep_swapper_new (hs : Step cfg tid sh th sh' th') (h1 : sh.poolRef ≠ none)
    (h2 : sh'.poolRef = none) : swapper th' := by
  rcases tstep_poolRef_cases hs with e | ⟨-, e⟩
  · exact absurd (e ▸ h2) h1
  · exact Or.inl e

theorem tstep_swapper_keep (hs : Step cfg tid sh th sh' th') (hp : progOK th)
    (hw : swapper th) : swapper th' := by
  rcases hw with hw | ⟨x, hw⟩ | ⟨r, hw⟩
  · cases hs with
    | drainItem => exact Or.inr (Or.inl ⟨_, rfl⟩)
    | drainEmpty =>
      obtain ⟨op, rest, hprog, hk⟩ := hp 2 rfl
      rw [Op.kind_eq_two] at hk
      exact Or.inr (Or.inr ⟨.ok, by simp_all [finish]⟩)
    | _ => cases hw
  · cases hs with
    | drainClose => exact Or.inl rfl
    | _ => cases hw
  · exact Or.inr (Or.inr ⟨r, (tstep_advances hs).elim fun _ h => h.results_mono _ hw⟩)

/-- the thread neither runs nor will run a `close` op -/
def Thread.noClose (th : Thread) : Prop := Op.close ∉ th.prog ∧ th.pc.kind ≠ some 2

/-- That the program counter does not enter a `close` op is read off `progOK` after the step: the op
it is in heads the program. -/
theorem tstep_noClose (hs : Step cfg tid sh th sh' th') (hp : progOK th') (hn : th.noClose) :
    th'.noClose ∧ sh'.poolRef = sh.poolRef := by
  have h1 : Op.close ∉ th'.prog := fun hc =>
    (tstep_advances hs).elim fun _ h => hn.1 (h.prog_sub _ hc)
  have hk : th'.pc.kind ≠ some 2 := fun e => by
    obtain ⟨op, rest, hprog, hop⟩ := hp 2 e
    exact h1 (by simp [hprog, Op.kind_eq_two.mp hop])
  refine ⟨⟨h1, hk⟩, ?_⟩
  rcases tstep_poolRef_cases hs with e | ⟨-, e⟩
  · exact e
  · exact absurd (by rw [e]; rfl) hk

/-- what result `r` of `op` says about `op` and the configuration it ended in -/
def Scripted (cfg : Cfg) (sh : Shared) (th : Thread) (op : Op) : Res → Prop
  | .closedPool => sh.poolRef = none ∧ op.kind = 0
  | .emptyPool => cfg.block = true ∧ cfg.timeout = true ∧ op.kind = 0 ∧ sh.queue = [] ∧
      ∃ f l st, th.pc = .getQ f l st
  | .failed => ∃ f st, op = .req f .fail st
  | .ok => ∀ f l st, op = .req f l st → l ≠ .fail
  | .fullPool => cfg.block = true ∧ ∃ i k, th.pc = .fullClose i k
  | .internalErr | .wrongResp => False

theorem progOK.kind_head (hp : progOK th) {op rest n} (e : th.prog = op :: rest)
    (hk : th.pc.kind = some n) : op.kind = n := by
  obtain ⟨op', rest', e', h⟩ := hp n hk
  cases e.symm.trans e'
  exact h

theorem lastOK.head (hl : lastOK th) {op rest b} (e : th.prog = op :: rest)
    (hb : th.pc.last = some b) : ∃ f l st, op = .req f l st ∧ l.good = b := by
  obtain ⟨f, l, st, rest', e', h⟩ := hl b hb
  cases e.symm.trans e'
  exact ⟨f, l, st, rfl, h⟩

theorem scripted_ok_of_kind {op : Op} (h : op.kind ≠ 0) : Scripted cfg sh th op .ok := by
  rintro f l st rfl
  exact absurd rfl h

theorem scripted_ok_of_last (hl : lastOK th) {op rest} (e : th.prog = op :: rest)
    (hb : th.pc.last = some true) : Scripted cfg sh th op .ok := by
  obtain ⟨f, l, st, rfl, h⟩ := hl.head e hb
  rintro f' l' st' ⟨⟩
  exact Outcome.good_eq_true.mp h

theorem scripted_finish {th0 : Thread} {r : Res} {p : Op × Res}
    (hmem : p ∈ (finish th0 r).results) (hp0 : th0.prog = th.prog) (hr0 : th0.results = th.results)
    (hS : ∀ op rest, th.prog = op :: rest → Scripted cfg sh th op r) :
    p ∈ th.results ∨ Scripted cfg sh th p.1 p.2 := by
  rcases (finish_advances r hp0 hr0).mem_results p hmem with h | ⟨e, rest, hprog⟩
  · exact Or.inl h
  · exact Or.inr (e ▸ hS _ _ hprog)

theorem tstep_results_scripted (hs : Step cfg tid sh th sh' th') (hr : recvOK sh th)
    (hk : contOK th) (hp : progOK th) (hl : lastOK th) :
    ∀ p ∈ th'.results, p ∈ th.results ∨ Scripted cfg sh th p.1 p.2 := by
  intro p hmem
  cases hs with
  | reqClosed hprog hnone =>
    exact scripted_finish hmem rfl rfl fun op rest e =>
      ⟨hnone, by cases hprog.symm.trans e; rfl⟩
  | getCheckClosed hnone | getLoadClosed hnone =>
    exact scripted_finish hmem rfl rfl fun op rest e => ⟨hnone, hp.kind_head e rfl⟩
  | getTimeout hq hb ht =>
    exact scripted_finish hmem rfl rfl fun op rest e =>
      ⟨hb, ht, hp.kind_head e rfl, hq, _, _, _, rfl⟩
  | closeClosed hprog | releaseNone hprog =>
    exact scripted_finish hmem rfl rfl fun op rest e =>
      scripted_ok_of_kind (by cases hprog.symm.trans e; decide)
  | swapClosed | drainEmpty =>
    exact scripted_finish hmem rfl rfl fun op rest e =>
      scripted_ok_of_kind (by rw [hp.kind_head (n := 2) e rfl]; decide)
  | putRel | discardRel =>
    exact scripted_finish hmem rfl rfl fun op rest e =>
      scripted_ok_of_kind (by rw [hp.kind_head (n := 1) e rfl]; decide)
  | recvOkStream | recvDropStream | recvCloseStream =>
    rw [recvRes, if_pos (hr _ _ _ _ _ rfl)] at hmem
    exact scripted_finish hmem rfl rfl fun op rest e => scripted_ok_of_last hl e rfl
  | putFin | discardFin =>
    refine scripted_finish hmem rfl rfl fun op rest e => ?_
    rcases hk _ rfl with rfl | rfl
    · exact scripted_ok_of_last hl e rfl
    · obtain ⟨f, l, st, rfl, h⟩ := hl.head e rfl
      exact ⟨f, st, by rw [Outcome.good_eq_false.mp h]⟩
  | fullRaise hb | fullRaiseRel hb =>
    exact scripted_finish hmem rfl rfl fun op rest e => ⟨hb, _, _, rfl⟩
  | _ => exact Or.inl hmem

/-- `disc held p`: in program `p`, started while the thread's latest streaming response may
(`held`) still hold a connection, every streaming request is released before the next request and
before the end, and there is no `close` -/
def disc : Bool → List Op → Bool
  | held, [] => !held
  | held, .req _ _ st :: rest => !held && disc st rest
  | _, .release :: rest => disc false rest
  | _, .close :: _ => false

/-- like `disc`, but `close` ops are allowed (they do not touch the thread's leases) -/
def disc2 : Bool → List Op → Bool
  | held, [] => !held
  | held, .req _ _ st :: rest => !held && disc2 st rest
  | _, .release :: rest => disc2 false rest
  | held, .close :: rest => disc2 held rest

theorem disc2_false_of {b : Bool} {p : List Op} (h : disc2 b p = true) : disc2 false p = true := by
  cases b
  · exact h
  · induction p with
    | nil => simp [disc2] at h
    | cons op rest ih => cases op <;> simp_all [disc2]

theorem disc_iff {b : Bool} {p : List Op} :
    disc b p = true ↔ disc2 b p = true ∧ Op.close ∉ p := by
  induction p generalizing b with
  | nil => simp [disc, disc2]
  | cons op rest ih => cases op <;> simp [disc, disc2, ih, and_assoc]

def Cont.stream : Cont → Bool
  | .retry _ _ st => st
  | _ => false

/-- the `preload_content=False` flag of the request a program counter is in -/
def Pc.stream : Pc → Bool
  | .getCheck _ _ st | .getLoad _ _ st | .getQ _ _ st | .dropClose _ _ _ st | .send _ _ _ st
  | .recv _ _ _ _ st => st
  | .putCheck _ k | .putLoad _ k | .putQ _ k | .fullClose _ k | .warn _ k | .discard _ k => k.stream
  | _ => false

@[simp] theorem Pc.stream_idle : Pc.idle.stream = false := rfl
@[simp] theorem Pc.stream_getCheck {f l s} : (Pc.getCheck f l s).stream = s := rfl
@[simp] theorem Pc.stream_getLoad {f l s} : (Pc.getLoad f l s).stream = s := rfl
@[simp] theorem Pc.stream_getQ {f l s} : (Pc.getQ f l s).stream = s := rfl
@[simp] theorem Pc.stream_dropClose {c f l s} : (Pc.dropClose c f l s).stream = s := rfl
@[simp] theorem Pc.stream_send {c f l s} : (Pc.send c f l s).stream = s := rfl
@[simp] theorem Pc.stream_recv {c t f l s} : (Pc.recv c t f l s).stream = s := rfl
@[simp] theorem Pc.stream_putCheck {i k} : (Pc.putCheck i k).stream = k.stream := rfl
@[simp] theorem Pc.stream_putLoad {i k} : (Pc.putLoad i k).stream = k.stream := rfl
@[simp] theorem Pc.stream_putQ {i k} : (Pc.putQ i k).stream = k.stream := rfl
@[simp] theorem Pc.stream_fullClose {i k} : (Pc.fullClose i k).stream = k.stream := rfl
@[simp] theorem Pc.stream_warn {i k} : (Pc.warn i k).stream = k.stream := rfl
@[simp] theorem Pc.stream_discard {i k} : (Pc.discard i k).stream = k.stream := rfl
@[simp] theorem Pc.stream_closeSwap : Pc.closeSwap.stream = false := rfl
@[simp] theorem Pc.stream_drain : Pc.drain.stream = false := rfl
@[simp] theorem Pc.stream_drainClose {x} : (Pc.drainClose x).stream = false := rfl
@[simp] theorem Cont.stream_rel : Cont.rel.stream = false := rfl
@[simp] theorem Cont.stream_fin {r} : (Cont.fin r).stream = false := rfl
@[simp] theorem Cont.stream_retry {f l s} : (Cont.retry f l s).stream = s := rfl

/-- the lease discipline of a thread outside `close` ops: idle, the program is disciplined starting
from `resp.isSome`; running, `resp = none` and the rest is so starting from `pc.stream` -/
def Disc (th : Thread) : Prop :=
  th.leaked = [] ∧ th.pc.kind ≠ some 2 ∧
  (th.pc = .idle → disc th.resp.isSome th.prog = true) ∧
  (th.pc ≠ .idle → th.resp = none ∧ ∃ op rest, th.prog = op :: rest ∧ disc th.pc.stream rest = true)

/-- `Disc` with `close` ops allowed: inside one, the rest is disciplined starting from `resp.isSome` -/
def Disc2 (th : Thread) : Prop :=
  th.leaked = [] ∧
  (th.pc = .idle → disc2 th.resp.isSome th.prog = true) ∧
  (th.pc ≠ .idle → ∃ op rest, th.prog = op :: rest ∧
    if th.pc.kind = some 2 then disc2 th.resp.isSome rest = true
    else th.resp = none ∧ disc2 th.pc.stream rest = true)

theorem Disc.toDisc2 (hd : Disc th) : Disc2 th := by
  obtain ⟨hl, h2, hi, hr⟩ := hd
  refine ⟨hl, fun e => (disc_iff.mp (hi e)).1, fun e => ?_⟩
  obtain ⟨h3, op, rest, hp, hd⟩ := hr e
  exact ⟨op, rest, hp, by rw [if_neg h2]; exact ⟨h3, (disc_iff.mp hd).1⟩⟩

theorem Disc2.toDisc (hd : Disc2 th) (hn : th.noClose) : Disc th := by
  obtain ⟨hl, hi, hr⟩ := hd
  obtain ⟨h1, h2⟩ := hn
  refine ⟨hl, h2, fun e => disc_iff.mpr ⟨hi e, h1⟩, fun e => ?_⟩
  obtain ⟨op, rest, hp, hd⟩ := hr e
  rw [if_neg h2] at hd
  exact ⟨hd.1, op, rest, hp, disc_iff.mpr ⟨hd.2, fun hc => h1 (hp ▸ List.mem_cons_of_mem _ hc)⟩⟩

theorem disc2_running_iff {prog pc resp leaked results sent rclose} (hpc : pc ≠ .idle) :
    Disc2 ⟨prog, pc, resp, leaked, results, sent, rclose⟩ ↔ leaked = [] ∧ ∃ op rest,
      prog = op :: rest ∧ if pc.kind = some 2 then disc2 resp.isSome rest = true
        else resp = none ∧ disc2 pc.stream rest = true := by
  simp [Disc2, hpc]

theorem Disc2.of_finish {t : Thread} {op rest r} (hprog : t.prog = op :: rest) (hl : t.leaked = [])
    (hd : disc2 t.resp.isSome rest = true) : Disc2 (finish t r) := by
  simp [Disc2, finish, hprog, hl, hd]

theorem Disc2.rest {t : Thread} {pc : Pc} (h : Disc2 (t.goto pc)) (hpc : pc ≠ .idle) :
    t.leaked = [] ∧ ∃ op rest, t.prog = op :: rest ∧ disc2 t.resp.isSome rest = true := by
  obtain ⟨hl, op, rest, hprog, hd⟩ := (disc2_running_iff hpc).mp h
  refine ⟨hl, op, rest, hprog, ?_⟩
  split at hd
  · exact hd
  · rw [hd.1]
    exact disc2_false_of hd.2

/-- a move inside an op: `Disc2` sees of the program counter only idle / in a `close` op / streaming;
a failed last attempt drops the streaming flag -/
theorem Disc2.move {t : Thread} {pc pc' : Pc} {n : Nat} (h : Disc2 (t.goto pc)) (hpc : pc ≠ .idle)
    (hpc' : pc' ≠ .idle) (hk : pc'.kind = pc.kind)
    (hs : pc'.stream = pc.stream ∨ pc'.stream = false) :
    Disc2 { t with pc := pc', sent := n } := by
  obtain ⟨hl, op, rest, hprog, hd⟩ := (disc2_running_iff hpc).mp h
  refine (disc2_running_iff hpc').mpr ⟨hl, op, rest, hprog, ?_⟩
  rw [hk]
  rcases hs with e | e <;> rw [e]
  · exact hd
  · split at hd <;> rename_i hk2
    · rw [if_pos hk2]
      exact hd
    · rw [if_neg hk2]
      exact ⟨hd.1, disc2_false_of hd.2⟩

theorem Disc2.start {t : Thread} {op rest} (h : Disc2 (t.goto .idle)) (hprog : t.prog = op :: rest) :
    match op with
    | .req _ _ st => t.resp = none ∧ disc2 st rest = true
    | .release => disc2 false rest = true
    | .close => disc2 t.resp.isSome rest = true := by
  have hd := h.2.1 rfl
  simp only [hprog] at hd
  cases op <;> simpa [disc2] using hd

/-- Steps inside an op leave `resp` and the program alone (`Disc2.move`), the others start or end an
op.  `hf` excludes `fullRaise`, which inside `release_conn` ends the op with `resp := item` put
back. -/
theorem tstep_disc2 (hs : Step cfg tid sh th sh' th')
    (hf : cfg.block = true → ∀ i k, th.pc ≠ .fullClose i k) (hd : Disc2 th) : Disc2 th' := by
  cases hs with
  | getCheckClosed | getLoadClosed | getTimeout | swapClosed | drainEmpty | putFin | putRel
  | discardFin | discardRel =>
    obtain ⟨hl, _, _, hprog, h⟩ := hd.rest nofun
    exact .of_finish hprog hl h
  | fullRaise hb | fullRaiseRel hb => exact absurd rfl (hf hb _ _)
  | recvFail => exact hd.move nofun nofun rfl (.inr rfl)
  | recvOkStream | recvDropStream | recvCloseStream =>
    obtain ⟨hl, _, _, hprog, hr, h⟩ := (disc2_running_iff (by simp)).mp hd
    exact .of_finish hprog (by simp [hr, hl]) h
  | reqClosed hprog =>
    obtain ⟨hr, h⟩ := hd.start hprog
    exact .of_finish hprog hd.1 (by rw [hr]; exact disc2_false_of h)
  | closeClosed hprog => exact .of_finish hprog hd.1 (hd.start hprog)
  | releaseNone hprog hr => exact .of_finish hprog hd.1 (by rw [hr]; exact hd.start hprog)
  | req hprog | close hprog =>
    exact (disc2_running_iff (by simp)).mpr ⟨hd.1, _, _, hprog, hd.start hprog⟩
  | releaseRead hprog | releaseClosed hprog | release hprog =>
    exact (disc2_running_iff (by simp)).mpr ⟨hd.1, _, _, hprog, rfl, hd.start hprog⟩
  | _ => exact hd.move nofun nofun rfl (.inl rfl)

theorem tstep_disc (hs : Step cfg tid sh th sh' th')
    (hf : cfg.block = true → ∀ i k, th.pc ≠ .fullClose i k) (hn' : th'.noClose) (hd : Disc th) :
    Disc th' :=
  (tstep_disc2 hs hf hd.toDisc2).toDisc hn'

theorem Disc.slots_done (hd : Disc th) (h : th.done = true) : th.slots = 0 := by
  rcases th with ⟨prog, pc, resp, leaked, results, sent, rclose⟩
  obtain ⟨hl, -, hidle, -⟩ := hd
  cases pc <;> cases prog <;> simp [Thread.done] at h
  simp at hl
  have := hidle rfl
  simp [disc] at this
  simp [Thread.slots, hl, this]

/-- upper bound on the steps of one op (the drain loop of `close` is paid for by the queue length) -/
def Op.cost : Op → Nat
  | .req f _ _ => 13 * (f + 1)
  | .release => 8
  | .close => 4

def progCost (p : List Op) : Nat := (p.map Op.cost).sum

def Cont.cost : Cont → Nat
  | .retry f _ _ => 13 * (f + 1)
  | _ => 0

/-- steps left in the op the program counter is in -/
def Pc.cost : Pc → Nat
  | .idle => 0
  | .getCheck f _ _ => 12 + 13 * f
  | .getLoad f _ _ => 11 + 13 * f
  | .getQ f _ _ => 10 + 13 * f
  | .dropClose _ f _ _ => 9 + 13 * f
  | .send _ f _ _ => 8 + 13 * f
  | .recv _ _ f _ _ => 7 + 13 * f
  | .putCheck _ k => 6 + k.cost
  | .putLoad _ k => 5 + k.cost
  | .putQ _ k => 4 + k.cost
  | .fullClose _ k => 3 + k.cost
  | .warn _ k => 2 + k.cost
  | .discard _ k => 1 + k.cost
  | .closeSwap => 2
  | .drain => 1
  | .drainClose _ => 2

def Thread.cost (th : Thread) : Nat :=
  if th.pc = .idle then progCost th.prog else th.pc.cost + progCost th.prog.tail

@[simp] theorem progCost_cons (op : Op) (p : List Op) : progCost (op :: p) = op.cost + progCost p := by
  simp [progCost]

theorem finish_cost (th : Thread) (r : Res) : (finish th r).cost = progCost th.prog.tail := by
  unfold finish
  split <;> simp_all [Thread.cost]

theorem cost_mk (prog pc resp leaked results sent rclose) :
    Thread.cost ⟨prog, pc, resp, leaked, results, sent, rclose⟩ =
      if pc = .idle then progCost prog else pc.cost + progCost prog.tail := rfl

/-- each `Pc.cost` exceeds that of its successors; `put` adds a queue item (2) while its cost drops
by at least 4, `drainItem` removes one while its cost goes up by 1 -/
theorem tstep_cost (hs : Step cfg tid sh th sh' th') :
    2 * sh'.queue.length + th'.cost < 2 * sh.queue.length + th.cost := by
  cases hs <;> simp [finish_cost, cost_mk, Pc.cost, Op.cost, Cont.cost, *] <;> omega

/-- `Pc.slots` without the item taken by `close`'s drain loop (it is never put back) -/
def Pc.slots2 : Pc → Nat
  | .dropClose .. | .send .. | .recv .. => 1
  | .putCheck .. | .putLoad .. | .putQ .. | .fullClose .. | .warn .. | .discard .. => 1
  | _ => 0

@[simp] theorem Pc.slots2_idle : Pc.idle.slots2 = 0 := rfl
@[simp] theorem Pc.slots2_getCheck {f l s} : (Pc.getCheck f l s).slots2 = 0 := rfl
@[simp] theorem Pc.slots2_getLoad {f l s} : (Pc.getLoad f l s).slots2 = 0 := rfl
@[simp] theorem Pc.slots2_getQ {f l s} : (Pc.getQ f l s).slots2 = 0 := rfl
@[simp] theorem Pc.slots2_dropClose {c f l s} : (Pc.dropClose c f l s).slots2 = 1 := rfl
@[simp] theorem Pc.slots2_send {c f l s} : (Pc.send c f l s).slots2 = 1 := rfl
@[simp] theorem Pc.slots2_recv {c t f l s} : (Pc.recv c t f l s).slots2 = 1 := rfl
@[simp] theorem Pc.slots2_putCheck {i k} : (Pc.putCheck i k).slots2 = 1 := rfl
@[simp] theorem Pc.slots2_putLoad {i k} : (Pc.putLoad i k).slots2 = 1 := rfl
@[simp] theorem Pc.slots2_putQ {i k} : (Pc.putQ i k).slots2 = 1 := rfl
@[simp] theorem Pc.slots2_fullClose {i k} : (Pc.fullClose i k).slots2 = 1 := rfl
@[simp] theorem Pc.slots2_warn {i k} : (Pc.warn i k).slots2 = 1 := rfl
@[simp] theorem Pc.slots2_discard {i k} : (Pc.discard i k).slots2 = 1 := rfl
@[simp] theorem Pc.slots2_closeSwap : Pc.closeSwap.slots2 = 0 := rfl
@[simp] theorem Pc.slots2_drain : Pc.drain.slots2 = 0 := rfl
@[simp] theorem Pc.slots2_drainClose {x} : (Pc.drainClose x).slots2 = 0 := rfl

def Thread.slots2 (th : Thread) : Nat := th.pc.slots2 + th.resp.toList.length + th.leaked.length

theorem Disc2.slots2_le (hd : Disc2 th) : th.slots2 ≤ 1 := by
  rcases th with ⟨prog, pc, resp, leaked, results, sent, rclose⟩
  obtain ⟨hl, -, hrun⟩ := hd
  simp at hl hrun
  subst hl
  cases pc <;> simp [Thread.slots2] <;> (try cases resp <;> simp) <;>
    simp at hrun

theorem Disc2.slots2_getQ {th : Thread} (hd : Disc2 th) {f l st} (h : th.pc = .getQ f l st) :
    th.slots2 = 0 := by
  obtain ⟨hl, -, hrun⟩ := hd
  obtain ⟨op, rest, -, h2⟩ := hrun (by simp [h])
  simp [h] at h2
  simp [Thread.slots2, hl, h2.1, h]

/-- the count of `Flow.slots_block`, except that the `get()` of a `block=False` pool on the empty
queue creates a connection and an item taken by `close`'s drain loop leaves the count at once -/
theorem tstep_slots2 (hs : Step cfg tid sh th sh' th') :
    sh'.queue.length + th'.slots2 ≤ sh.queue.length + th.slots2 ∨
      ((∃ f l st, th.pc = .getQ f l st) ∧ sh'.queue = []) := by
  cases hs <;> simp_all [Thread.slots2] <;> grind

theorem Thread.slots_eq_slots2 (h : th.pc.kind ≠ some 2) : th.slots = th.slots2 := by
  cases hpc : th.pc <;> simp_all [Thread.slots, Thread.slots2]

theorem Disc.slots_le (hd : Disc th) : th.slots ≤ 1 :=
  Thread.slots_eq_slots2 hd.2.1 ▸ hd.toDisc2.slots2_le

theorem Disc.slots_getQ (hd : Disc th) {f l st} (h : th.pc = .getQ f l st) : th.slots = 0 :=
  Thread.slots_eq_slots2 hd.2.1 ▸ hd.toDisc2.slots2_getQ h

end U3.PoolConc

