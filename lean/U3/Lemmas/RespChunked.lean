import U3.Lemmas.RespInst
import U3.Lemmas.RespRef
/-! Chunked bodies read through `http.client`'s own chunk reader (`_read_chunked(amt)`,
`_read1_chunked(n)`, `_get_chunk_left`, `_read_next_chunk_size`, `_read_and_discard_trailer`): the source
contract (`SrcSpec` of Lemmas/RespInst, hence `RawReadSpec`, `RawReadAllSpec`, `RawRead1Spec` and the closing
laws) for `hSrc` on every well-framed chunked body, for every network segmentation (`CI`, `hSrc_spec_chunked`).
"Well framed": the reference reader `refBody` (Lemmas/RespRef) accepts the wire, and the raw body is what it
returns; `refBody_encode` says what it makes of an encoded chunk list — arbitrary chunk sizes, size-line
spellings, extensions, trailers.

The steps of the chunk reader (`…_ref`) are specified once, against `Ref … p v` (Lemmas/RespRef): while the deliverable
bytes `p` last they make progress whatever the verdict `v`; when `p` is used up, a complete body ends
cleanly and a damaged one raises `IncompleteRead`.  The well-framed contract here and the broken-source
contract of Lemmas/RespBroken are the two readings. -/
namespace U3.Resp
open U3

theorem hDiscardTrailer_ok : ∀ (fuel : Nat) (h : H) (f : Fp), h.fp = some f →
    ∃ f', hDiscardTrailer fuel h = (.ok (), { h with fp := some f' }) := by
  intro fuel
  induction fuel with
  | zero =>
    intro h f hf
    exact ⟨f, by simp [hDiscardTrailer, ← hf]⟩
  | succ k ih =>
    intro h f hf
    unfold hDiscardTrailer
    rw [hFpReadline_eq h f hf]
    simp only []
    split
    · exact ⟨_, rfl⟩
    · exact ih { h with fp := some (fpReadline f).2 } _ rfl

/-- the part of `_get_chunk_left` after the optional `_safe_read(2)`: `_read_next_chunk_size` and
what follows -/
def lineStep (h : H) : Except HErr (Option Nat) × H :=
  match hFpReadline h with
  | (.error e, h) => (.error e, h)
  | (.ok line, h) =>
    match parseSize (cutExt line) with
    | .valueError => (.error .incompleteRead, h.closeConn)
    | .negative => (.error .unsupported, h)
    | .ok 0 =>
      match hDiscardTrailer (h.avail + 1) h with
      | (.error e, h) => (.error e, h)
      | (.ok _, h) => (.ok none, { h.closeConn with chunkLeft := none })
    | .ok n => (.ok (some n), { h with chunkLeft := some n })

theorem hGetChunkLeft_pos (h : H) (n : Nat) (hcl : h.chunkLeft = some (n + 1)) :
    hGetChunkLeft h = (.ok (some (n + 1)), h) := by
  unfold hGetChunkLeft
  rw [hcl]

theorem hGetChunkLeft_none (h : H) (hcl : h.chunkLeft = none) : hGetChunkLeft h = lineStep h := by
  unfold hGetChunkLeft lineStep
  rw [hcl]
  rfl

theorem hGetChunkLeft_zero (h : H) (hcl : h.chunkLeft = some 0) :
    hGetChunkLeft h =
      match hSafeRead h 2 with
      | (.error e, h) => (.error e, h)
      | (.ok _, h) => lineStep h := by
  unfold hGetChunkLeft lineStep
  rw [hcl]
  simp only []
  generalize hSafeRead h 2 = r
  obtain ⟨x, h'⟩ := r
  cases x <;> rfl

theorem hSafeRead_ref (h : H) (f : Fp) {k m : Nat} {p : Bytes} {v : Bool} (hf : h.fp = some f) (hm : m ≤ k)
    (hr : Ref (some k) f.content p v) :
    (v = false ∧ ∃ h', hSafeRead h m = (.error .incompleteRead, h')) ∨
    (m ≤ p.length ∧ ∃ f', hSafeRead h m = (.ok (p.take m), { h with fp := some f' }) ∧
      f'.content.length + m = f.content.length ∧ Ref (some (k - m)) f'.content (p.drop m) v) := by
  obtain ⟨h1, h2⟩ := hr.avail
  by_cases hav : m ≤ f.content.length
  · obtain ⟨f', e, c, _⟩ := hSafeRead_ok h f m hf hav
    obtain ⟨g1, g2⟩ := hr.advance m hm hav
    exact .inr ⟨by omega, f', by rw [e, g2], by rw [c, List.length_drop]; omega, by rw [c]; exact g1⟩
  · obtain ⟨f', e, _⟩ := hSafeRead_short h f m hf (by omega)
    exact .inl ⟨(h2 (by omega)).1, _, e⟩

theorem hSafeRead_sep (h : H) (f : Fp) {p : Bytes} {v : Bool} (hf : h.fp = some f)
    (hr : Ref (some 0) f.content p v) :
    (v = false ∧ ∃ h', hSafeRead h 2 = (.error .incompleteRead, h')) ∨
    ∃ d f', hSafeRead h 2 = (.ok d, { h with fp := some f' }) ∧ f'.content.length + 2 = f.content.length ∧
      Ref none f'.content p v := by
  cases hr with
  | nosep _ hl =>
    obtain ⟨f', e, _⟩ := hSafeRead_short h f 2 hf hl
    exact .inl ⟨rfl, _, e⟩
  | sep _ _ _ hl h2 =>
    obtain ⟨f', e, c, _⟩ := hSafeRead_ok h f 2 hf hl
    exact .inr ⟨_, f', e, by rw [c, List.length_drop]; omega, by rw [c]; exact h2⟩

/-- the outcome `res` of looking for the current chunk when `p` is deliverable from the file `f` of
`h`: `IncompleteRead` at the damage, or the end of a complete body (the file is closed), or a chunk
with `n + 1` bytes left is current; only `fp` and `chunk_left` change -/
def Found (h : H) (f : Fp) (p : Bytes) (v : Bool) (res : Except HErr (Option Nat) × H) : Prop :=
  (v = false ∧ ∃ h', res = (.error .incompleteRead, h')) ∨
  (v = true ∧ p = [] ∧ res = (.ok none, { h with fp := none, chunkLeft := none })) ∨
  ∃ n f', res = (.ok (some (n + 1)), { h with fp := some f', chunkLeft := some (n + 1) }) ∧
    Ref (some (n + 1)) f'.content p v ∧ f'.content.length ≤ f.content.length

theorem lineStep_ref (h : H) (f : Fp) {p : Bytes} {v : Bool} (hf : h.fp = some f)
    (hr : Ref none f.content p v) : Found h f p v (lineStep h) := by
  unfold lineStep
  rw [hFpReadline_eq h f hf]
  dsimp only
  cases hr with
  | badline _ hb =>
    rw [hb]
    exact .inl ⟨rfl, _, rfl⟩
  | last _ hz =>
    obtain ⟨f', e⟩ := hDiscardTrailer_ok ({ h with fp := some (fpReadline f).2 } : H).avail.succ
      { h with fp := some (fpReadline f).2 } _ rfl
    rw [hz]
    simp only [e]
    exact .inr (.inl ⟨rfl, rfl, rfl⟩)
  | line _ n _ _ hn h1 =>
    rw [hn]
    refine .inr (.inr ⟨n, (fpReadline f).2, rfl, by rw [(fpReadline_spec f).2.1]; exact h1, ?_⟩)
    rw [(fpReadline_spec f).2.1, List.length_drop]
    omega

theorem hGetChunkLeft_ref (h : H) (f : Fp) {p : Bytes} {v : Bool} (hf : h.fp = some f)
    (hr : Ref h.chunkLeft f.content p v) : Found h f p v (hGetChunkLeft h) := by
  rcases hcl : h.chunkLeft with _ | _ | n
  · rw [hcl] at hr
    rw [hGetChunkLeft_none h hcl]
    exact lineStep_ref h f hf hr
  · rw [hcl] at hr
    rw [hGetChunkLeft_zero h hcl]
    rcases hSafeRead_sep h f hf hr with ⟨hv, h', e⟩ | ⟨d, f1, e, hl1, hr1⟩
    · rw [e]
      exact .inl ⟨hv, h', rfl⟩
    · rw [e]
      exact (lineStep_ref { h with fp := some f1 } f1 rfl hr1).imp_right
        (Or.imp_right fun ⟨n, f', e, hr, hl⟩ => ⟨n, f', e, hr, by omega⟩)
  · rw [hcl] at hr
    rw [hGetChunkLeft_pos h n hcl]
    exact .inr (.inr ⟨n, f, by rw [← hf, ← hcl], hr, Nat.le_refl _⟩)

/-- `x` returns the next `k` bytes of `p` (after `acc`) and leaves the file of `h`, which was `f`, moved
on by at least as much; only `fp` and `chunk_left` change -/
def Moved (h : H) (f : Fp) (p : Bytes) (v : Bool) (acc : Bytes) (k : Nat) (x : Except HErr Bytes × H) : Prop :=
  k ≤ p.length ∧ ∃ f' cl', x = (.ok (acc ++ p.take k), { h with fp := some f', chunkLeft := cl' }) ∧
    Ref cl' f'.content (p.drop k) v ∧ f'.content.length + k ≤ f.content.length

/-- the outcome `x` of `_read_chunked(amt)` (`acc` = what it had collected before) when `p` is deliverable
from the file `f` of `h`: `IncompleteRead` — only on a damaged body —, or all of `p` and the file closed
— only at the end of a complete body, within the amount —, or the next `amt` bytes of `p` -/
def ReadOut (h : H) (f : Fp) (p : Bytes) (v : Bool) (amt : Option Nat) (acc : Bytes)
    (x : Except HErr Bytes × H) : Prop :=
  (v = false ∧ ∃ h', x = (.error .incompleteRead, h')) ∨
  (v = true ∧ (∀ a, amt = some a → p.length ≤ a) ∧
    x = (.ok (acc ++ p), { h with fp := none, chunkLeft := none })) ∨
  ∃ a, amt = some a ∧ Moved h f p v acc a x

theorem hReadChunkedLoop_ref : ∀ (fuel : Nat) (h : H) (f : Fp) (p : Bytes) (v : Bool) (amt : Option Nat)
    (acc : Bytes), amt ≠ some 0 → h.fp = some f → Ref h.chunkLeft f.content p v → f.content.length < fuel →
    ReadOut h f p v amt acc (hReadChunkedLoop fuel h amt acc) := by
  intro fuel
  induction fuel with
  | zero =>
    intro h f p v amt acc _ _ _ hl
    omega
  | succ k ih =>
    intro h f p v amt acc hamt hf hr hl
    unfold hReadChunkedLoop
    rcases hGetChunkLeft_ref h f hf hr with ⟨hv, h', e⟩ | ⟨hv, rfl, e⟩ | ⟨n, f1, e, e4, e5⟩
    · rw [e]
      exact .inl ⟨hv, h', rfl⟩
    · rw [e]
      exact .inr (.inl ⟨hv, fun _ _ => Nat.zero_le _, by rw [List.append_nil]⟩)
    · rw [e]
      dsimp only
      -- an amount beyond the chunk: the rest of the chunk is read and the loop goes on behind it
      have whole : (∀ a, amt = some a → n + 1 < a) → ReadOut h f p v amt acc
          (match hSafeRead { h with fp := some f1, chunkLeft := some (n + 1) } (n + 1) with
            | (.error e, h) => (.error e, h)
            | (.ok d, h) =>
              hReadChunkedLoop k { h with chunkLeft := some 0 } (amt.map (· - (n + 1))) (acc ++ d)) := by
        intro hbig
        rcases hSafeRead_ref { h with fp := some f1, chunkLeft := some (n + 1) } f1 rfl (Nat.le_refl _) e4 with
          ⟨hv, h', s⟩ | ⟨hle, f2, s, hl2, hr2⟩
        · rw [s]
          exact .inl ⟨hv, h', rfl⟩
        · rw [s]
          dsimp only
          have hamt' : amt.map (· - (n + 1)) ≠ some 0 := by
            cases amt with
            | none => nofun
            | some a =>
              have := hbig a rfl
              simp
              omega
          rcases ih { h with fp := some f2, chunkLeft := some 0 } f2 (p.drop (n + 1)) v _
              (acc ++ p.take (n + 1)) hamt' rfl (by simpa using hr2) (by omega) with
            i | ⟨hv, hall, i⟩ | ⟨a', ha', hle', f', cl', i, hr', hl'⟩
          · exact .inl i
          · refine .inr (.inl ⟨hv, fun a ha => ?_, by rw [i, List.append_assoc, List.take_append_drop]⟩)
            have := hall (a - (n + 1)) (by rw [ha]; rfl)
            rw [List.length_drop] at this
            have := hbig a ha
            omega
          · cases amt with
            | none => cases ha'
            | some a =>
              obtain rfl : a - (n + 1) = a' := Option.some.inj ha'
              have := hbig a rfl
              rw [List.length_drop] at hle'
              have hsum : n + 1 + (a - (n + 1)) = a := by omega
              refine .inr (.inr ⟨a, rfl, by omega, f', cl', ?_, by simpa only [List.drop_drop, hsum] using hr',
                by omega⟩)
              rw [i, List.append_assoc, ← List.take_add, hsum]
      cases amt with
      | none => exact whole nofun
      | some a =>
        dsimp only
        by_cases hle : a ≤ n + 1
        · rw [if_pos hle]
          rcases hSafeRead_ref { h with fp := some f1, chunkLeft := some (n + 1) } f1 rfl hle e4 with
            ⟨hv, h', s⟩ | ⟨hap, f2, s, hl2, hr2⟩
          · rw [s]
            exact .inl ⟨hv, h', rfl⟩
          · rw [s]
            exact .inr (.inr ⟨a, rfl, hap, f2, _, rfl, hr2, by omega⟩)
        · rw [if_neg hle]
          exact whole fun a' ha' => by cases ha'; omega

theorem hRead_ref (h : H) (f : Fp) {p : Bytes} {v : Bool} (amt : Option Nat) (hamt : amt ≠ some 0)
    (hf : h.fp = some f) (hh : h.head = false) (hc : h.chunked = true) (hr : Ref h.chunkLeft f.content p v) :
    ReadOut h f p v amt [] (hRead h amt) := by
  have e : hRead h amt = hReadChunkedLoop (f.content.length + 2) h amt [] := by
    simp [hRead, hf, hh, hc, H.avail]
  rw [e]
  exact hReadChunkedLoop_ref _ h f p v amt [] hamt hf hr (by omega)

theorem hRead1_ref (h : H) (f : Fp) {p : Bytes} {v : Bool} (n : Option Nat) (hn : n ≠ some 0) (hf : h.fp = some f)
    (hh : h.head = false) (hc : h.chunked = true) (hr : Ref h.chunkLeft f.content p v) :
    (v = false ∧ ∃ h', hRead1 h n = (.error .incompleteRead, h')) ∨
    (v = true ∧ p = [] ∧ hRead1 h n = (.ok [], { h with fp := none, chunkLeft := none })) ∨
    ∃ k, 0 < k ∧ (∀ a, n = some a → k ≤ a) ∧ Moved h f p v [] k (hRead1 h n) := by
  unfold hRead1
  rw [hf]
  dsimp only
  rw [if_neg (by rw [hh]; nofun), if_pos hc]
  rcases hGetChunkLeft_ref h f hf hr with ⟨hv, h', e⟩ | ⟨hv, hp, e⟩ | ⟨m, f1, e, e4, e5⟩
  · rw [e]
    exact .inl ⟨hv, h', rfl⟩
  · rw [e]
    exact .inr (.inl ⟨hv, hp, rfl⟩)
  · rw [e]
    simp only [hn, if_false]
    generalize hres : fpRead1 f1 _ = res
    -- the amount `http.client` asks the BufferedReader for, whatever `n` is
    obtain ⟨nn, hres, hnn1, hnn2, hnn3⟩ : ∃ nn, fpRead1 f1 nn = res ∧ 0 < nn ∧ nn ≤ m + 1 ∧
        ∀ a, n = some a → nn ≤ a := by
      refine ⟨_, hres, ?_⟩
      rcases n with _ | k
      · exact ⟨Nat.succ_pos m, Nat.le_refl _, nofun⟩
      · have : k ≠ 0 := fun h0 => hn (by rw [h0])
        simp only [Option.some.injEq, forall_eq']
        split <;> omega
    obtain ⟨_, rfl, hd2, hd3, hd4, _⟩ := fpRead1_spec f1 nn
    rw [hres] at hd2 hd3 hd4
    obtain ⟨d, f2⟩ := res
    dsimp only at hd2 hd3 hd4 ⊢
    obtain ⟨t1, t2⟩ := split_eq_take_drop hd2 (Or.inl rfl)
    have hlen := congrArg List.length hd2
    rw [List.length_append] at hlen
    by_cases hde : d = []
    · -- nothing there where chunk data is owed
      subst hde
      have hc0 : f1.content = [] := Classical.byContradiction fun h0 => hd4 hnn1 h0 rfl
      exact .inl ⟨(e4.avail.2 (by rw [hc0]; exact Nat.succ_pos m)).1, _, rfl⟩
    · have hpos := List.length_pos_iff.mpr hde
      obtain ⟨g1, g2⟩ := e4.advance d.length (by omega) (by omega)
      have := e4.avail.1
      refine .inr (.inr ⟨d.length, hpos, fun a ha => Nat.le_trans hd3 (hnn3 a ha), by omega, f2,
        some (m + 1 - d.length), ?_, ?_, by omega⟩)
      · rw [if_neg (by simpa using hde), g2, ← t1]
        rfl
      · rw [t2]
        exact g1

/-- the raw body bytes a chunked `http.client` response will still deliver -/
def cRem (h : H) : Bytes :=
  match h.fp with
  | none => []
  | some f => (refBody h.chunkLeft f.content).getD []

/-- a well-framed chunked body: not HEAD, chunked, and while the file is open the reference reader
accepts what is (or will be) there -/
structure CInv (h : H) : Prop where
  head : h.head = false
  chunked : h.chunked = true
  avail : ∀ f, h.fp = some f → h.closed = false ∧ (refBody h.chunkLeft f.content).isSome

/-- framing invariant of a chunked body: well framed (`CInv`), and `length_remaining` is `None` -/
def CI (h : H) (lr : Option Int) : Prop := CInv h ∧ lr = none

theorem cRem_none {h : H} (hf : h.fp = none) : cRem h = [] := by simp [cRem, hf]

theorem CInv.ref {h : H} (hi : CInv h) (f : Fp) (hf : h.fp = some f) :
    h.closed = false ∧ Ref h.chunkLeft f.content (cRem h) true := by
  obtain ⟨hc, hs⟩ := hi.avail f hf
  obtain ⟨p, hp⟩ := Option.isSome_iff_exists.mp hs
  refine ⟨hc, ?_⟩
  rw [show cRem h = p by simp [cRem, hf, hp]]
  exact .of_refBody hp

theorem CInv.ended {h : H} (hi : CInv h) : CInv { h with fp := none, chunkLeft := none } :=
  ⟨hi.head, hi.chunked, nofun⟩

theorem CInv.moved {h : H} (hi : CInv h) (hc : h.closed = false) {f : Fp} {p : Bytes} {k : Nat}
    {x : Except HErr Bytes × H} (hm : Moved h f p true [] k x) :
    ∃ h', x = (.ok (p.take k), h') ∧ cRem h' = p.drop k ∧ CInv h' := by
  obtain ⟨_, f', cl', rfl, hr, _⟩ := hm
  have h2 := hr.sound.1 rfl
  refine ⟨_, rfl, by simp [cRem, h2], hi.head, hi.chunked, fun f hf => ?_⟩
  cases hf
  exact ⟨hc, by rw [h2]; rfl⟩

theorem CInv_close (h : H) (hi : CInv h) : CInv h.close :=
  ⟨hi.head, hi.chunked, nofun⟩

/-- **`http.client`'s reader on a well-framed chunked body meets the source contract**, for every
segmentation (`length_remaining` stays `None`) -/
theorem hSrc_spec_chunked : SrcSpec hSrc cRem CI where
  closed h lr hi hcl := hSrc_closed_isclosed (fun f hf => (hi.1.avail f hf).1) hcl
  closedNil h lr _ hcl := cRem_none (by simpa [hSrc, H.isclosed] using hcl)
  read h lr a ha hi _ := by
    obtain ⟨hi, rfl⟩ := hi
    cases hf : h.fp with
    | none =>
      have := cRem_none hf
      exact ⟨h, by simp [hSrc, hRead, hf, this], by simp [this], hi, rfl⟩
    | some f =>
      obtain ⟨hc, hr⟩ := hi.ref f hf
      rcases hRead_ref h f (some a) (by simp; omega) hf hi.head hi.chunked hr with
        ⟨hv, _⟩ | ⟨_, hall, e⟩ | ⟨_, ha', hm⟩
      · cases hv
      · have hle := hall a rfl
        exact ⟨{ h with fp := none, chunkLeft := none }, by rw [List.take_of_length_le hle]; exact e,
          (List.drop_of_length_le hle).symm, hi.ended, rfl⟩
      · cases ha'
        obtain ⟨h', e, o1, o2⟩ := hi.moved hc hm
        exact ⟨h', e, o1, o2, rfl⟩
  readAll h lr hi _ := by
    obtain ⟨hi, rfl⟩ := hi
    cases hf : h.fp with
    | none =>
      have := cRem_none hf
      exact ⟨h, by simp [hSrc, hRead, hf, this], this, by simp [hSrc, H.isclosed, hf], hi, rfl⟩
    | some f =>
      obtain ⟨hc, hr⟩ := hi.ref f hf
      rcases hRead_ref h f none nofun hf hi.head hi.chunked hr with ⟨hv, _⟩ | ⟨_, _, e⟩ | ⟨_, ha', _⟩
      · cases hv
      · exact ⟨_, e, rfl, rfl, hi.ended, rfl⟩
      · cases ha'
  read1 h lr amt hamt hi _ := by
    obtain ⟨hi, rfl⟩ := hi
    cases hf : h.fp with
    | none =>
      exact ⟨0, h, by simp [hSrc, hRead1, hf], by simp, by simp [cRem, hf], fun a _ => Nat.zero_le _, hi, rfl⟩
    | some f =>
      obtain ⟨hc, hr⟩ := hi.ref f hf
      rcases hRead1_ref h f amt hamt hf hi.head hi.chunked hr with ⟨hv, _⟩ | ⟨_, e0, e⟩ | ⟨k, hk, hka, hm⟩
      · cases hv
      · exact ⟨0, _, e, by rw [e0]; rfl, fun hne => absurd e0 hne, fun a _ => Nat.zero_le _, hi.ended, rfl⟩
      · obtain ⟨h', e, o1, o2⟩ := hi.moved hc hm
        exact ⟨k, h', e, o1, fun _ => hk, hka, o2, rfl⟩
  atEnd h lr hi _ := ⟨Or.inl hi.2, ⟨CInv_close h hi.1, hi.2⟩, rfl, rfl⟩
  exact h lr n hi hn := by
    rw [hi.2] at hn
    cases hn

/-- a chunk on the wire: size line, data, and the two bytes after the data (`\r\n`; `http.client`
does not look at them) -/
structure WChunk where
  line : Bytes
  data : Bytes
  sep : Bytes

def WChunk.ok (c : WChunk) : Prop := SizeLineOk c.line c.data.length ∧ c.data ≠ [] ∧ c.sep.length = 2
def WChunk.enc (c : WChunk) : Bytes := c.line ++ c.data ++ c.sep

/-- a chunked body: the chunks, the last-chunk line, then trailers / blank line / anything -/
def encChunks (cs : List WChunk) (last after : Bytes) : Bytes :=
  (cs.map WChunk.enc).flatten ++ last ++ after

theorem refBody_encode (cs : List WChunk) (last after : Bytes) (hcs : ∀ c ∈ cs, c.ok)
    (hlast : SizeLineOk last 0) :
    refBody none (encChunks cs last after) = some (cs.map WChunk.data).flatten := by
  induction cs with
  | nil =>
    simp only [encChunks, List.map_nil, List.flatten_nil, List.nil_append]
    rw [refBody_line_eq, lineOf_of_line after hlast.1, hlast.2]
  | cons c t ih =>
    obtain ⟨⟨hl1, hl2⟩, hne, hsep⟩ := hcs c (by simp)
    obtain ⟨n, hn⟩ : ∃ n, c.data.length = n + 1 := ⟨c.data.length - 1, by
      have := List.length_pos_iff.mpr hne; omega⟩
    have henc : encChunks (c :: t) last after = c.line ++ (c.data ++ (c.sep ++ encChunks t last after)) := by
      simp [encChunks, WChunk.enc, List.append_assoc]
    -- the size line, the data, the separator, and the rest
    rw [henc, refBody_line_eq, lineOf_of_line _ hl1, hl2, hn]
    simp only []
    rw [List.drop_left, refBody_pos_eq, ← hn, if_neg (by simp), List.drop_left, List.take_left,
      refBody_zero_eq, if_neg (by simp [hsep]), ← hsep, List.drop_left,
      ih (fun x hx => hcs x (by simp [hx]))]
    simp

theorem CInv_of_encoded (h : H) (f : Fp) (cs : List WChunk) (last after : Bytes)
    (hh : h.head = false) (hc : h.chunked = true) (hcl : h.closed = false) (hf : h.fp = some f)
    (hl : h.chunkLeft = none) (hcont : f.content = encChunks cs last after)
    (hcs : ∀ c ∈ cs, c.ok) (hlast : SizeLineOk last 0) :
    CInv h ∧ cRem h = (cs.map WChunk.data).flatten := by
  have href := refBody_encode cs last after hcs hlast
  refine ⟨⟨hh, hc, fun g hg => ?_⟩, ?_⟩
  · rw [hf] at hg
    cases hg
    exact ⟨hcl, by rw [hl, hcont, href]; rfl⟩
  · simp [cRem, hf, hl, hcont, href]

end U3.Resp
