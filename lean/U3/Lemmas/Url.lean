import U3.Model.Url
import U3.Lemmas.Str
/-!
The components of `parse_url`: the `%HH` scanner (`tokenize`), `_encode_invalid_chars` (`NormalForm`, idempotence),
`_remove_path_dot_segments` (`CleanJoin`, idempotence), the encoder on a path, segment by segment, the cuts of
`_URI_RE` and the address matchers unfolded one step.
-/
namespace U3.Url
open U3

theorem rpart_eq_none {c : Nat} {s : Str} : rpart c s = none ↔ c ∉ s := by
  fun_induction rpart c s <;> simp_all <;> omega

theorem rpart_some {c : Nat} {s a b : Str} (h : rpart c s = some (a, b)) : s = a ++ c :: b ∧ c ∉ b := by
  fun_induction rpart c s generalizing a with
  | case2 x t a' b' hr ih =>
    simp only [Option.some.injEq, Prod.mk.injEq] at h
    obtain ⟨rfl, rfl⟩ := h
    simpa using ih hr
  | _ => simp_all [rpart_eq_none]

theorem rpart_append (c : Nat) (a : Str) {b : Str} (h : c ∉ b) : rpart c (a ++ c :: b) = some (a, b) := by
  induction a with
  | nil => simp [rpart, rpart_eq_none.mpr h]
  | cons x t ih => simp [rpart, ih]

theorem isPrefix_iff {p s : Str} : isPrefix p s = true ↔ p <+: s := by
  simp only [isPrefix, List.prefix_iff_eq_take, Bool.and_eq_true, decide_eq_true_eq, beq_iff_eq]
  refine ⟨fun h => h.2.symm, fun h => ⟨?_, h.symm⟩⟩
  have := congrArg List.length h
  simp only [List.length_take] at this
  omega

theorem endsWith_iff {s suf : Str} : endsWith s suf = true ↔ suf <:+ s := by
  rw [endsWith, isPrefix_iff, List.reverse_prefix]

/-- the text of a token list (the model writes `ts.flatMap Tok.text` where it needs it); `NormalForm` is stated
with it -/
def renderToks (ts : List Tok) : Str := ts.flatMap Tok.text

@[simp] theorem render_nil : renderToks [] = [] := rfl
@[simp] theorem render_cons (t : Tok) (ts : List Tok) : renderToks (t :: ts) = t.text ++ renderToks ts := by
  simp [renderToks]
@[simp] theorem render_append (a b : List Tok) : renderToks (a ++ b) = renderToks a ++ renderToks b := by
  simp [renderToks]

theorem hex2_eq_some {t : Str} {a b : Nat} :
    hex2 t = some (a, b) ↔ ∃ t', t = a :: b :: t' ∧ isHexC a = true ∧ isHexC b = true := by
  match t with
  | [] | [_] => simp [hex2]
  | x :: y :: t' =>
    rw [hex2]
    split <;> simp_all <;> rintro rfl rfl <;> assumption

theorem tokAux_skip (k : Nat) (s : Str) : tokAux k s = tokAux 0 (s.drop k) := by
  fun_induction tokAux k s <;> simp_all [tokAux]

theorem text_tokAux (k : Nat) (s : Str) : (tokAux k s).flatMap Tok.text = s.drop k := by
  fun_induction tokAux k s with
  | case3 t a b h ih =>
    obtain ⟨t', rfl, -, -⟩ := hex2_eq_some.mp h
    simpa [Tok.text] using ih
  | _ => simp_all [Tok.text]

theorem text_tokenize (s : Str) : (tokenize s).flatMap Tok.text = s := text_tokAux 0 s

/-- well-formed token: the two characters of an escape are hex digits -/
def Tok.ok : Tok → Bool
  | .chr _ => true
  | .esc a b => isHexC a && isHexC b

theorem tokAux_ok (k : Nat) (s : Str) : ∀ t ∈ tokAux k s, t.ok = true := by
  fun_induction tokAux k s with
  | case3 t a b h ih =>
    obtain ⟨t', rfl, ha, hb⟩ := hex2_eq_some.mp h
    simpa [Tok.ok, ha, hb] using ih
  | _ => simp_all [Tok.ok]

theorem tokenize_ok (s : Str) : ∀ t ∈ tokenize s, t.ok = true := tokAux_ok 0 s

/-- escapes well formed, no bare `%`: scanning the text gives the list back -/
theorem tokenize_renderToks (ts : List Tok) (h : ∀ t ∈ ts, t.ok = true ∧ t ≠ .chr 37) :
    tokenize (renderToks ts) = ts := by
  induction ts with
  | nil => rfl
  | cons t r ih =>
    have hr : tokAux 0 (renderToks r) = r := ih (fun x hx => h x (List.mem_cons_of_mem _ hx))
    have ht := h t (List.mem_cons_self ..)
    cases t with
    | chr c => simp_all [tokenize, Tok.text, tokAux]
    | esc a b =>
      have : hex2 (a :: b :: renderToks r) = some (a, b) := hex2_eq_some.mpr ⟨_, rfl, by simpa [Tok.ok] using ht.1⟩
      simp [tokenize, Tok.text, tokAux, this, hr]

theorem hex2_append_cons (x : Str) {c : Nat} (hc : isHexC c = false) (y : Str) :
    hex2 (x ++ c :: y) = hex2 x := by
  match x with
  | [] => cases y <;> simp [hex2, hc]
  | [a] => simp [hex2, hc]
  | a :: b :: t => simp [hex2]

theorem tokAux_append_cons (k : Nat) (x : Str) {c : Nat} (hc : isHexC c = false) (y : Str) :
    tokAux k (x ++ c :: y) = tokAux k x ++ tokAux (k - x.length) (c :: y) := by
  fun_induction tokAux k x with
  | case3 t a b h ih =>
    have hl : 2 - t.length = 0 := by
      obtain ⟨t', rfl, -, -⟩ := hex2_eq_some.mp h
      simp
    simp [tokAux, hex2_append_cons _ hc, h, ih, hl]
  | _ => simp_all [tokAux, hex2_append_cons]

theorem tokenize_append_cons (x : Str) {c : Nat} (hc : isHexC c = false) (y : Str) :
    tokenize (x ++ c :: y) = tokenize x ++ tokenize (c :: y) := by
  simpa [tokenize] using tokAux_append_cons 0 x hc y

theorem tokenize_cons {c : Nat} (hc : c ≠ 37) (t : Str) : tokenize (c :: t) = .chr c :: tokenize t := by
  simp [tokenize, tokAux, hc]

theorem tokenize_all_chars {P : Tok → Bool} {s : Str} (h : (tokenize s).all P = true) :
    ∀ c ∈ s, P (.chr c) = true ∨ c = 37 ∨ isHexC c = true := by
  intro c hc
  rw [← text_tokenize s] at hc
  obtain ⟨t, ht, hct⟩ := List.mem_flatMap.mp hc
  have hkt := tokenize_ok s t ht
  have hpt := List.all_eq_true.mp h t ht
  cases t with
  | chr d =>
    obtain rfl : c = d := by simpa [Tok.text] using hct
    exact Or.inl hpt
  | esc a b =>
    simp only [Tok.ok, Bool.and_eq_true] at hkt
    simp only [Tok.text, List.mem_cons, List.not_mem_nil, or_false] at hct
    rcases hct with rfl | rfl | rfl
    · exact Or.inr (Or.inl rfl)
    · exact Or.inr (Or.inr hkt.1)
    · exact Or.inr (Or.inr hkt.2)

theorem tokenize_of_no_pct {s : Str} (h : 37 ∉ s) : tokenize s = s.map .chr := by
  induction s with
  | nil => rfl
  | cons c t ih =>
    simp only [List.mem_cons, not_or] at h
    rw [tokenize_cons (Ne.symm h.1), ih h.2, List.map_cons]

def isHexUp (c : Nat) : Bool := isDigitC c || (65 ≤ c && c ≤ 70)

theorem isHexUp_iff {c : Nat} : isHexUp c = true ↔ (48 ≤ c ∧ c ≤ 57) ∨ (65 ≤ c ∧ c ≤ 70) := by
  simp [isHexUp, isDigitC]

/-- the codes of `0`–`9`, `A`–`F` as a list, so that a fact about a generated table can be had by evaluation
(`encSet_of`, `normalForm_forall`) -/
theorem isHexUp_cases {c : Nat} (h : isHexUp c = true) :
    c ∈ [48, 49, 50, 51, 52, 53, 54, 55, 56, 57, 65, 66, 67, 68, 69, 70] := by
  have key : ∀ d, d < 71 → isHexUp d = true →
      d ∈ [48, 49, 50, 51, 52, 53, 54, 55, 56, 57, 65, 66, 67, 68, 69, 70] := by decide +kernel
  exact key c (by have := isHexUp_iff.mp h; omega) h

theorem isHexUp_isHexC {c : Nat} (h : isHexUp c = true) : isHexC c = true :=
  isHexC_iff.mpr (by have := isHexUp_iff.mp h; omega)

theorem isHexUp_upperC {c : Nat} (h : isHexUp c = true) : upperC c = c := by
  have := isHexUp_iff.mp h
  unfold upperC
  split <;> omega

theorem upperC_hex {c : Nat} (h : isHexC c = true) : isHexUp (upperC c) = true := by
  have := isHexC_iff.mp h
  rw [isHexUp_iff]
  unfold upperC
  split <;> omega

theorem hexDigitU_up {n : Nat} (h : n < 16) : isHexUp (hexDigitU n) = true := by
  rw [isHexUp_iff]
  unfold hexDigitU
  split <;> omega

theorem hexDigitU_ge (n : Nat) : 48 ≤ hexDigitU n := by
  unfold hexDigitU
  split <;> omega

theorem hexDigitU_ne46 (n : Nat) : hexDigitU n ≠ 46 := by
  have := hexDigitU_ge n
  omega

/-- normal-form token w.r.t. an allowed set: an allowed ASCII char other than `%`, or an escape
with upper-case hex digits -/
def Tok.good (allowed : List Nat) : Tok → Bool
  | .chr c => mem allowed c && decide (c < 128) && c != 37
  | .esc a b => isHexUp a && isHexUp b

/-- "every character is in the allowed set or part of an upper-case valid escape" -/
def NormalForm (allowed : List Nat) (s : Str) : Prop :=
  ∃ ts : List Tok, (∀ t ∈ ts, t.good allowed = true) ∧ s = renderToks ts

/-- what idempotence needs of an allowed set: `%` not in it, the upper-case hex digits in it -/
def EncSet (A : List Nat) : Prop :=
  mem A 37 = false ∧ ∀ c, isHexUp c = true → mem A c = true

theorem good_ok {A : List Nat} {t : Tok} (h : t.good A = true) : t.ok = true ∧ t ≠ .chr 37 := by
  cases t with
  | chr c => simp_all [Tok.good, Tok.ok]
  | esc a b => simp_all [Tok.good, Tok.ok, isHexUp_isHexC]

theorem utf8cp_bytes (c : Nat) : utf8cp c ≠ [] ∧ ∀ b ∈ utf8cp c, b < 256 ∧ (b < 128 → b = c) := by
  unfold utf8cp
  split
  · simp
    omega
  · repeat' split
    all_goals
      simp only [ne_eq, reduceCtorEq, not_false_eq_true, List.mem_cons, List.not_mem_nil, or_false,
        forall_eq_or_imp, forall_eq, true_and]
      omega

theorem utf8cp_ascii {c : Nat} (h : c < 128) : utf8cp c = [c] := by simp [utf8cp, h]

theorem utf8_upper_esc {a b : Nat} (ha : isHexC a = true) (hb : isHexC b = true) :
    utf8 (Tok.esc a b).upper = [37, upperC a, upperC b] := by
  have ha' : upperC a < 128 := by
    have := isHexUp_iff.mp (upperC_hex ha)
    omega
  have hb' : upperC b < 128 := by
    have := isHexUp_iff.mp (upperC_hex hb)
    omega
  simp [Tok.upper, utf8, utf8cp, ha', hb']

/-- the bytes produced by one input token -/
def encTok (A : List Nat) (pe : Bool) (t : Tok) : Str := (utf8 t.upper).flatMap (encByte A pe)

theorem encodeInvalidChars_eq (A : List Nat) (s : Str) :
    encodeInvalidChars A s =
      (tokenize s).flatMap (encTok A (countEscapes s == (utf8 (upperEscapes s)).count 37)) := by
  simp only [encodeInvalidChars, upperEscapes, utf8, List.flatMap_assoc]
  congr 1
  funext t
  simp [encTok, utf8, List.flatMap_assoc]

theorem encTok_chr (A : List Nat) (pe : Bool) (c : Nat) :
    encTok A pe (.chr c) = (utf8cp c).flatMap (encByte A pe) := by
  simp [encTok, Tok.upper, utf8]

theorem encTok_esc (A : List Nat) (pe : Bool) {a b : Nat} (ha : isHexC a = true) (hb : isHexC b = true) :
    encTok A pe (.esc a b) = encByte A pe 37 ++ (encByte A pe (upperC a) ++ encByte A pe (upperC b)) := by
  simp [encTok, utf8_upper_esc ha hb]

theorem encByte_hexUp {A : List Nat} (hhex : ∀ c, isHexUp c = true → mem A c = true) (pe : Bool) {x : Nat}
    (hx : isHexUp x = true) : encByte A pe x = [x] := by
  have := isHexUp_iff.mp hx
  simp [encByte, hhex x hx]
  omega

theorem normalForm_nil (A : List Nat) : NormalForm A [] := ⟨[], by simp, rfl⟩

theorem normalForm_tok {A : List Nat} (t : Tok) (h : t.good A = true) : NormalForm A t.text :=
  ⟨[t], by simpa using h, by simp⟩

theorem normalForm_append {A : List Nat} {s t : Str} (hs : NormalForm A s) (ht : NormalForm A t) :
    NormalForm A (s ++ t) := by
  obtain ⟨a, ha, rfl⟩ := hs
  obtain ⟨b, hb, rfl⟩ := ht
  exact ⟨a ++ b, by simpa [or_imp, forall_and] using And.intro ha hb, by simp⟩

theorem normalForm_flatMap {α : Type} {A : List Nat} {f : α → Str} {l : List α}
    (h : ∀ x ∈ l, NormalForm A (f x)) : NormalForm A (l.flatMap f) := by
  induction l with
  | nil => exact normalForm_nil A
  | cons x r ih =>
    exact normalForm_append (h x (List.mem_cons_self ..)) (ih fun y hy => h y (List.mem_cons_of_mem _ hy))

/-- a byte that is not a kept `%` comes out as itself (allowed) or as its upper-case escape -/
theorem encByte_normal {A : List Nat} (hA : EncSet A) {pe : Bool} {b : Nat} (hb : b < 256)
    (h : pe = false ∨ b ≠ 37) : NormalForm A (encByte A pe b) := by
  have : (pe && b == 37) = false := by rcases h with h | h <;> simp [h]
  unfold encByte
  rw [this, Bool.false_or]
  split
  · rename_i hk
    have : b ≠ 37 := by
      rintro rfl
      simp [hA.1] at hk
    exact normalForm_tok (.chr b) (by simp_all [Tok.good])
  · exact normalForm_tok (.esc _ _)
      (by simp [Tok.good, hexDigitU_up (n := b / 16) (by omega), hexDigitU_up (n := b % 16) (by omega)])

theorem encTok_normal {A : List Nat} (hA : EncSet A) (pe : Bool) (t : Tok) (hok : t.ok = true)
    (hpe : pe = true → t ≠ .chr 37) : NormalForm A (encTok A pe t) := by
  cases t with
  | chr c =>
    rw [encTok_chr]
    refine normalForm_flatMap fun b hb => encByte_normal hA ((utf8cp_bytes c).2 b hb).1 ?_
    cases pe with
    | false => exact Or.inl rfl
    | true => exact Or.inr (by rintro rfl; exact hpe rfl (by rw [((utf8cp_bytes c).2 37 hb).2 (by omega)]))
  | esc a b =>
    simp only [Tok.ok, Bool.and_eq_true] at hok
    have ha := upperC_hex hok.1
    have hb := upperC_hex hok.2
    rw [encTok_esc A pe hok.1 hok.2]
    cases pe with
    | true =>
      rw [encByte_hexUp hA.2 true ha, encByte_hexUp hA.2 true hb]
      exact normalForm_tok (.esc _ _) (by simp [Tok.good, ha, hb])
    | false =>
      have hlt := isHexUp_iff.mp ha
      have hlt' := isHexUp_iff.mp hb
      exact normalForm_append (encByte_normal hA (by omega) (Or.inl rfl))
        (normalForm_append (encByte_normal hA (by omega) (Or.inl rfl)) (encByte_normal hA (by omega) (Or.inl rfl)))

/-- 37 is `%`: among the bytes of a token an escape has one, a bare `%` one, any other character none -/
theorem tok_count37 (t : Tok) (ht : t.ok = true) :
    (utf8 t.upper).count 37 = (if t.isEsc then 1 else 0) + (if t == Tok.chr 37 then 1 else 0) := by
  cases t with
  | esc a b =>
    simp only [Tok.ok, Bool.and_eq_true] at ht
    have := isHexUp_iff.mp (upperC_hex ht.1)
    have := isHexUp_iff.mp (upperC_hex ht.2)
    rw [utf8_upper_esc ht.1 ht.2]
    simp [List.count_cons, Tok.isEsc]
    omega
  | chr c =>
    by_cases hc : c = 37
    · subst hc
      simp [Tok.upper, utf8, utf8cp, Tok.isEsc]
    · have : (utf8cp c).count 37 = 0 :=
        List.count_eq_zero.mpr fun hm => hc (((utf8cp_bytes c).2 37 hm).2 (by omega)).symm
      simp [Tok.upper, utf8, this, Tok.isEsc, hc]

theorem count37 (ts : List Tok) (hok : ∀ t ∈ ts, t.ok = true) :
    (utf8 (ts.flatMap Tok.upper)).count 37 = ts.countP Tok.isEsc + ts.countP (· == Tok.chr 37) := by
  induction ts with
  | nil => rfl
  | cons t r ih =>
    have ihr := ih (fun x hx => hok x (List.mem_cons_of_mem _ hx))
    have ht := tok_count37 t (hok t (List.mem_cons_self ..))
    simp only [utf8, List.flatMap_cons, List.flatMap_append, List.count_append, List.countP_cons] at ihr ht ⊢
    omega

/-- the encoder's flag `is_percent_encoded`: no `%` outside an escape -/
theorem pe_iff (s : Str) :
    (countEscapes s == (utf8 (upperEscapes s)).count 37) = true ↔
      ∀ t ∈ tokenize s, t ≠ Tok.chr 37 := by
  rw [upperEscapes, count37 _ (tokenize_ok s), countEscapes]
  have : (tokenize s).countP (· == Tok.chr 37) = 0 ↔ ∀ t ∈ tokenize s, t ≠ Tok.chr 37 := by
    simp [List.countP_eq_zero]
  rw [← this, beq_iff_eq]
  omega

theorem encode_normal {A : List Nat} (hA : EncSet A) (s : Str) : NormalForm A (encodeInvalidChars A s) := by
  rw [encodeInvalidChars_eq]
  exact normalForm_flatMap fun t ht =>
    encTok_normal hA _ t (tokenize_ok s t ht) fun hp => (pe_iff s).mp hp t ht

theorem encode_keeps {A : List Nat} (hA : EncSet A) {s : Str} (h : NormalForm A s) :
    encodeInvalidChars A s = s := by
  obtain ⟨ts, hg, rfl⟩ := h
  have hok : ∀ t ∈ ts, t.ok = true ∧ t ≠ .chr 37 := fun t ht => good_ok (hg t ht)
  have hst := tokenize_renderToks ts hok
  have hpe : (countEscapes (renderToks ts) == (utf8 (upperEscapes (renderToks ts))).count 37) = true := by
    rw [pe_iff, hst]
    exact fun t ht => (hok t ht).2
  rw [encodeInvalidChars_eq, hpe, hst]
  apply flatMap_congr
  intro t ht
  have hgt := hg t ht
  cases t with
  | esc a b =>
    simp only [Tok.good, Bool.and_eq_true] at hgt
    rw [encTok_esc A true (isHexUp_isHexC hgt.1) (isHexUp_isHexC hgt.2), isHexUp_upperC hgt.1, isHexUp_upperC hgt.2,
      encByte_hexUp hA.2 true hgt.1, encByte_hexUp hA.2 true hgt.2]
    simp [encByte, Tok.text]
  | chr c =>
    simp only [Tok.good, Bool.and_eq_true, decide_eq_true_eq] at hgt
    simp [encTok_chr, utf8cp_ascii hgt.1.2, encByte, hgt.1.1, hgt.1.2, Tok.text]

theorem encode_idempotent {A : List Nat} (hA : EncSet A) (s : Str) :
    encodeInvalidChars A (encodeInvalidChars A s) = encodeInvalidChars A s :=
  encode_keeps hA (encode_normal hA s)

theorem normalForm_cons (A : List Nat) (c : Nat) (s : Str) (hc : (Tok.chr c).good A = true)
    (h : NormalForm A s) : NormalForm A (c :: s) :=
  normalForm_append (normalForm_tok (.chr c) hc) h

theorem normalForm_chars {A : List Nat} {s : Str} (h : NormalForm A s) :
    ∀ c ∈ s, (mem A c = true ∧ c < 128) ∨ c = 37 ∨ isHexUp c = true := by
  obtain ⟨ts, hg, rfl⟩ := h
  intro c hc
  obtain ⟨t, ht, hct⟩ := List.mem_flatMap.mp hc
  have := hg t ht
  cases t with
  | chr d => simp_all [Tok.good, Tok.text]
  | esc a b =>
    simp only [Tok.text, List.mem_cons, List.not_mem_nil, or_false] at hct
    rcases hct with rfl | rfl | rfl <;> simp_all [Tok.good]

/-- the way to "no character X in a normalised component": a test that holds of the allowed set, of `%` (37) and
of the upper-case hex digits holds of every character of the component -/
theorem normalForm_forall {A : List Nat} {q : Nat → Bool} (hA : ∀ c ∈ A, q c = true)
    (hx : ∀ c ∈ [37, 48, 49, 50, 51, 52, 53, 54, 55, 56, 57, 65, 66, 67, 68, 69, 70], q c = true)
    {z : Str} (h : NormalForm A z) : ∀ c ∈ z, q c = true := by
  intro c hc
  rcases normalForm_chars h c hc with h1 | rfl | h1
  · exact hA c (by simpa [mem] using h1.1)
  · exact hx 37 (List.mem_cons_self ..)
  · exact hx c (List.mem_cons_of_mem _ (isHexUp_cases h1))

theorem encSet_of (A : List Nat) (h37 : mem A 37 = false)
    (h : ∀ c ∈ [48, 49, 50, 51, 52, 53, 54, 55, 56, 57, 65, 66, 67, 68, 69, 70], mem A c = true) :
    EncSet A := ⟨h37, fun c hc => h c (isHexUp_cases hc)⟩

theorem encSet_unreserved : EncSet Gen.unreservedChars := encSet_of _ (by decide +kernel) (by decide +kernel)
theorem encSet_userinfo : EncSet Gen.userinfoChars := encSet_of _ (by decide +kernel) (by decide +kernel)
theorem encSet_path : EncSet Gen.pathChars := encSet_of _ (by decide +kernel) (by decide +kernel)
theorem encSet_query : EncSet Gen.queryChars := encSet_of _ (by decide +kernel) (by decide +kernel)
theorem encSet_fragment : EncSet Gen.fragmentChars := encSet_of _ (by decide +kernel) (by decide +kernel)

theorem encSet_of_mem {A : List Nat}
    (hA : A ∈ [Gen.unreservedChars, Gen.userinfoChars, Gen.pathChars, Gen.queryChars, Gen.fragmentChars]) :
    EncSet A := by
  simp only [List.mem_cons, List.not_mem_nil, or_false] at hA
  rcases hA with rfl | rfl | rfl | rfl | rfl
  · exact encSet_unreserved
  · exact encSet_userinfo
  · exact encSet_path
  · exact encSet_query
  · exact encSet_fragment

/-- a segment that may stay in the output: no `/` inside, neither `.` nor `..` -/
def CleanSeg (x : Str) : Prop := 47 ∉ x ∧ x ≠ dot ∧ x ≠ dotdot

/-- a text that is a `/`-joined list of clean segments -/
def CleanJoin (p : Str) : Prop := ∃ L, (∀ x ∈ L, CleanSeg x) ∧ p = joinWith [47] L

theorem cleanSeg_nil : CleanSeg [] := by simp [CleanSeg, dot, dotdot]

theorem cleanJoin_nil : CleanJoin [] := ⟨[], by simp, rfl⟩

theorem dotLoop_clean (l out : List Str) (hl : ∀ x ∈ l, 47 ∉ x) (ho : ∀ x ∈ out, CleanSeg x) :
    ∀ x ∈ dotLoop l out, CleanSeg x := by
  fun_induction dotLoop l out with
  | case1 => exact ho
  | case2 rest out ih => exact ih (fun x hx => hl x (List.mem_cons_of_mem _ hx)) ho
  | case3 seg rest out h1 h2 ih =>
    refine ih (fun x hx => hl x (List.mem_cons_of_mem _ hx)) fun x hx => ?_
    rcases List.mem_cons.mp hx with rfl | hx
    · exact ⟨hl _ (List.mem_cons_self ..), h1, h2⟩
    · exact ho x hx
  | case4 seg rest out _ _ ih =>
    exact ih (fun x hx => hl x (List.mem_cons_of_mem _ hx)) fun x hx => ho x (List.mem_of_mem_tail hx)

theorem removeDotSegments_cleanJoin (p : Str) : CleanJoin (removeDotSegments p) := by
  have h0 := dotLoop_clean _ [] (splitOn1_no_sep 47 p) (by simp)
  -- the output is the loop's stack, possibly with an empty segment in front and one at the end
  refine ⟨_, ?_, rfl⟩
  split <;> split <;> simpa [cleanSeg_nil, or_imp, forall_and] using h0

theorem cleanJoin_no_dots {p : Str} (h : CleanJoin p) :
    ∀ seg ∈ splitOn1 47 p, seg ≠ dot ∧ seg ≠ dotdot := by
  obtain ⟨L, hL, rfl⟩ := h
  by_cases hne : L = []
  · subst hne
    simp [joinWith, splitOn1, dot, dotdot]
  · rw [splitOn1_join 47 L hne (fun x hx => (hL x hx).1)]
    exact fun seg hs => (hL seg hs).2

theorem dotLoop_nodots (l out : List Str) (hl : ∀ x ∈ l, x ≠ dot ∧ x ≠ dotdot) :
    dotLoop l out = l.reverse ++ out := by
  induction l generalizing out with
  | nil => simp [dotLoop]
  | cons seg rest ih =>
    have h := hl seg (List.mem_cons_self ..)
    rw [dotLoop, if_neg h.1, if_pos h.2, ih _ (fun x hx => hl x (List.mem_cons_of_mem _ hx))]
    simp

theorem join_endsWith {l : List Str} (hl : ∀ x ∈ l, 47 ∉ x) {d : Str} (hd : 47 ∉ d)
    (h : endsWith (joinWith [47] l) (47 :: d) = true) : l.getLast? = some d := by
  obtain ⟨pre, hp⟩ := endsWith_iff.mp h
  have hne : l ≠ [] := by
    rintro rfl
    simp [joinWith] at hp
  -- split both sides of `hp` at the slashes
  rw [← splitOn1_join 47 l hne hl, ← hp, splitOn1_snoc 47 pre d hd]
  simp

theorem cleanJoin_fixed {p : Str} (h : CleanJoin p) : removeDotSegments p = p := by
  obtain ⟨l, hc, rfl⟩ := h
  by_cases hne : l = []
  · subst hne
    decide
  · have h47 : ∀ x ∈ l, 47 ∉ x := fun x hx => (hc x hx).1
    have hend : ∀ d, 47 ∉ d → (∀ x ∈ l, x ≠ d) → endsWith (joinWith [47] l) (47 :: d) = false := fun d hd hdl =>
      Bool.eq_false_iff.mpr fun hE => hdl d (List.mem_of_getLast? (join_endsWith h47 hd hE)) rfl
    have e1 : endsWith (joinWith [47] l) [47, 46] = false := hend dot (by decide) fun x hx => (hc x hx).2.1
    have e2 : endsWith (joinWith [47] l) [47, 46, 46] = false := hend dotdot (by decide) fun x hx => (hc x hx).2.2
    have hhead : ((joinWith [47] l).head? = some 47 && (l.isEmpty || l.head? != some [])) = false := by
      match l, hne, hc with
      | [] :: r, _, _ => simp
      | (a :: t) :: r, _, hc =>
        have : a ≠ 47 := fun e => (hc (a :: t) (List.mem_cons_self ..)).1 (e ▸ List.mem_cons_self ..)
        cases r <;> simp [joinWith, this]
    simp [removeDotSegments, splitOn1_join 47 l hne h47, dotLoop_nodots l [] (fun x hx => (hc x hx).2), hhead, e1, e2]

/-- what a segment becomes under the encoder (the `%`-flag `pe` is that of the whole component) -/
def encSeg (A : List Nat) (pe : Bool) (x : Str) : Str := (tokenize x).flatMap (encTok A pe)

theorem encTok_slash (A : List Nat) (pe : Bool) (h47 : mem A 47 = true) : encTok A pe (.chr 47) = [47] := by
  simp [encTok, Tok.upper, utf8, utf8cp, encByte, h47]

theorem enc_join (A : List Nat) (pe : Bool) (h47 : mem A 47 = true) (L : List Str) :
    (tokenize (joinWith [47] L)).flatMap (encTok A pe) = joinWith [47] (L.map (encSeg A pe)) := by
  fun_induction joinWith [47] L with
  | case1 => rfl
  | case2 x => rfl
  | case3 x y t ih =>
    rw [List.append_assoc, List.singleton_append, tokenize_append_cons x (by decide), tokenize_cons (by decide),
      List.flatMap_append, List.flatMap_cons, encTok_slash A pe h47, ih]
    simp [encSeg, joinWith]

/-- a byte is kept (ASCII only) or written as `%` and two upper-case hex digits -/
theorem encByte_cases (A : List Nat) (pe : Bool) (b : Nat) :
    encByte A pe b = [b] ∧ b < 128 ∨ encByte A pe b = [37, hexDigitU (b / 16), hexDigitU (b % 16)] := by
  unfold encByte pctByte
  split
  · rename_i h
    refine Or.inl ⟨rfl, ?_⟩
    simp only [Bool.or_eq_true, Bool.and_eq_true, beq_iff_eq, decide_eq_true_eq] at h
    omega
  · exact Or.inr rfl

theorem encTok_ne_nil (A : List Nat) (pe : Bool) (t : Tok) : encTok A pe t ≠ [] := by
  have key : ∀ b, encByte A pe b ≠ [] := fun b => by
    rcases encByte_cases A pe b with e | e
    · simp [e]
    · simp [e]
  cases t with
  | chr c => simpa [encTok_chr, key] using List.exists_mem_of_ne_nil _ (utf8cp_bytes c).1
  | esc x y => simp [encTok, Tok.upper, utf8, utf8cp, key]

/-- a byte below `'0'` (48) other than `%` in what a token becomes is the token itself, kept: an escape is written
with `%`, digits and letters.  (`/` and `.` are such bytes.) -/
theorem encTok_low (A : List Nat) (pe : Bool) (t : Tok) (hok : t.ok = true) {k : Nat} (hk : k < 48) (h37 : k ≠ 37)
    (hm : k ∈ encTok A pe t) : t = .chr k ∧ encTok A pe t = [k] := by
  have key : ∀ b, k ∈ encByte A pe b → b = k ∧ encByte A pe b = [k] := by
    intro b hb
    rcases encByte_cases A pe b with ⟨e, -⟩ | e
    · rw [e] at hb ⊢
      obtain rfl : k = b := by simpa using hb
      exact ⟨rfl, rfl⟩
    · have := hexDigitU_ge (b / 16)
      have := hexDigitU_ge (b % 16)
      rw [e] at hb
      simp only [List.mem_cons, List.not_mem_nil, or_false] at hb
      omega
  cases t with
  | chr c =>
    rw [encTok_chr] at hm ⊢
    obtain ⟨b, hb, hkb⟩ := List.mem_flatMap.mp hm
    obtain ⟨rfl, e⟩ := key b hkb
    obtain rfl := ((utf8cp_bytes c).2 b hb).2 (by omega)
    exact ⟨rfl, by simp [utf8cp_ascii (show b < 128 by omega), e]⟩
  | esc x y =>
    -- `%` and the two upper-case hex digits are no such bytes
    simp only [Tok.ok, Bool.and_eq_true] at hok
    have := isHexUp_iff.mp (upperC_hex hok.1)
    have := isHexUp_iff.mp (upperC_hex hok.2)
    rw [encTok_esc A pe hok.1 hok.2] at hm
    simp only [List.mem_append] at hm
    rcases hm with h | h | h
    · exact absurd (key _ h).1 (Ne.symm h37)
    · exact absurd (key _ h).1 (by omega)
    · exact absurd (key _ h).1 (by omega)

theorem encSeg_no47 (A : List Nat) (pe : Bool) (x : Str) (hx : 47 ∉ x) : 47 ∉ encSeg A pe x := by
  simp only [encSeg, List.mem_flatMap, not_exists, not_and]
  intro t ht hm
  obtain ⟨rfl, -⟩ := encTok_low A pe t (tokenize_ok x t ht) (by decide) (by decide) hm
  exact hx (by rw [← text_tokenize x]; exact List.mem_flatMap.mpr ⟨_, ht, by simp [Tok.text]⟩)

/-- a segment that comes out with bytes below `'0'` only, none of them `%`, comes out as it went in: so the
encoder makes neither `.` nor `..` (nor the empty text) of anything else -/
theorem encSeg_low (A : List Nat) (pe : Bool) (x : Str) (h : ∀ k ∈ encSeg A pe x, k < 48 ∧ k ≠ 37) :
    encSeg A pe x = x := by
  refine (flatMap_congr fun t ht => ?_).trans (text_tokenize x)
  obtain ⟨k, hk⟩ := List.exists_mem_of_ne_nil _ (encTok_ne_nil A pe t)
  have hl := h k (List.mem_flatMap.mpr ⟨t, ht, hk⟩)
  obtain ⟨rfl, e⟩ := encTok_low A pe t (tokenize_ok x t ht) hl.1 hl.2 hk
  exact e

theorem encSeg_clean (A : List Nat) (pe : Bool) (x : Str) (hx : CleanSeg x) : CleanSeg (encSeg A pe x) := by
  have key : ∀ d : Str, (∀ k ∈ d, k < 48 ∧ k ≠ 37) → x ≠ d → encSeg A pe x ≠ d := fun d hd hne e =>
    hne (by rw [← encSeg_low A pe x (e ▸ hd), e])
  exact ⟨encSeg_no47 A pe x hx.1, key dot (by decide) hx.2.1, key dotdot (by decide) hx.2.2⟩

theorem encode_cleanJoin {A : List Nat} (h47 : mem A 47 = true) {p : Str} (h : CleanJoin p) :
    CleanJoin (encodeInvalidChars A p) := by
  obtain ⟨L, hL, rfl⟩ := h
  rw [encodeInvalidChars_eq, enc_join A _ h47 L]
  refine ⟨_, fun x hx => ?_, rfl⟩
  obtain ⟨y, hy, rfl⟩ := List.mem_map.mp hx
  exact encSeg_clean A _ y (hL y hy)

theorem encode_ne_nil (A : List Nat) {s : Str} (h : s ≠ []) : encodeInvalidChars A s ≠ [] := by
  intro e
  rw [encodeInvalidChars_eq] at e
  exact h (by rw [← encSeg_low A _ s (by rw [encSeg, e]; simp), encSeg, e])

/-- the path `Url.__new__` stores: a leading `/` is added to a non-empty relative path -/
def finalPath (pa : Str) : Str := if !pa.isEmpty && pa.head? != some 47 then 47 :: pa else pa

theorem mkUrl_eq (sc au ho : Option Str) (po : Option Nat) (pa q f : Option Str) :
    mkUrl sc au ho po pa q f = ⟨sc.map lower, au, ho, po, pa.map finalPath, q, f⟩ := by
  cases pa with
  | none => rfl
  | some p =>
    simp only [mkUrl, finalPath, Option.map_some]
    split <;> rfl

theorem normPath_true (p : Str) : normPath true p = encodeInvalidChars Gen.pathChars (removeDotSegments p) := by
  cases p
  · rfl
  · simp [normPath]

theorem normOpt_true (A : List Nat) (q : Option Str) : normOpt true A q = q.map (encodeInvalidChars A) := by
  rcases q with _ | _ | _ <;> rfl

theorem cleanJoin_slash {p : Str} (h : CleanJoin p) (hne : p ≠ []) : CleanJoin (47 :: p) := by
  obtain ⟨L, hL, rfl⟩ := h
  cases L with
  | nil => exact absurd rfl hne
  | cons y t => exact ⟨[] :: y :: t, by simpa [cleanSeg_nil] using hL, by simp [joinWith]⟩

theorem finalPath_normPath {p : Str} (hne : normPath true p ≠ []) :
    (finalPath (normPath true p)).head? = some 47 ∧ NormalForm Gen.pathChars (finalPath (normPath true p)) ∧
      CleanJoin (finalPath (normPath true p)) := by
  have hn : NormalForm Gen.pathChars (normPath true p) := normPath_true p ▸ encode_normal encSet_path _
  have hc : CleanJoin (normPath true p) :=
    normPath_true p ▸ encode_cleanJoin (by decide) (removeDotSegments_cleanJoin p)
  generalize normPath true p = pa at hne hn hc
  unfold finalPath
  split
  · exact ⟨rfl, normalForm_cons _ 47 _ (by decide) hn, cleanJoin_slash hc hne⟩
  · rename_i hcnd
    exact ⟨by cases pa <;> simp_all, hn, hc⟩

theorem normOpt_normal {A : List Nat} (hA : EncSet A) {q : Option Str} :
    ∀ x, normOpt true A q = some x → NormalForm A x := by
  intro x hx
  rw [normOpt_true] at hx
  obtain ⟨y, -, rfl⟩ := Option.map_eq_some_iff.mp hx
  exact encode_normal hA y

/-- an optional component behind its delimiter -/
def optText (c : Nat) (o : Option Str) : Str := match o with | some q => c :: q | none => []

/-- `_URI_RE` cuts `path[?query][#fragment]` at the first `?` and the first `#` after it -/
theorem splitPQF_text {P : Str} {q f : Option Str} (hP : ∀ c ∈ P, pathChar c = true)
    (hq : ∀ x, q = some x → ∀ c ∈ x, queryChar c = true) :
    splitPQF (P ++ (optText 63 q ++ optText 35 f)) = (P, q, f) := by
  have hf : ∀ c ∈ (optText 35 f).head?, queryChar c = false ∧ pathChar c = false := by
    cases f <;> simp [optText, queryChar, pathChar]
  unfold splitPQF
  cases q with
  | some x =>
    have s1 := takeWhile_append_stop P 63 (x ++ optText 35 f) hP (by decide)
    have s2 := takeWhile_append_head x (optText 35 f) (hq x rfl) fun c hc => (hf c hc).1
    simp only [show optText 63 (some x) = 63 :: x from rfl, List.cons_append, s1.1, s1.2, s2.1, s2.2]
    cases f <;> rfl
  | none =>
    have s1 := takeWhile_append_head P (optText 35 f) hP fun c hc => (hf c hc).2
    simp only [show optText 63 none = [] from rfl, List.nil_append, s1.1, s1.2]
    cases f <;> rfl

/-- `isIPv4` on the list of dot-separated pieces -/
def isIPv4L : List Str → Bool
  | [a, b, c, d] => isDec13 a && isDec13 b && isDec13 c && isDec13 d
  | _ => false

theorem isIPv4_eq (p : Str) : isIPv4 p = isIPv4L (splitOn1 46 p) := by
  unfold isIPv4 isIPv4L
  split <;> simp_all

theorem ipv6AddrzMatch_cons (c : Nat) (t : Str) :
    ipv6AddrzMatch (c :: t) =
      (c == 91 && (decide (t.getLast? = some 93) && !(t.dropLast.contains 93) && bracketOk t.dropLast)) := by
  by_cases h : c = 91
  · subst h
    rfl
  · unfold ipv6AddrzMatch
    split
    · rename_i heq
      exact absurd (List.cons.inj heq).1 h
    · simp [h]

theorem stripNl_of_not_nl (b : Str) (h : b.getLast? ≠ some 10) : stripNl b = b := by
  simp [stripNl, h]

end U3.Url
