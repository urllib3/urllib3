import U3.Model.Pool
/-!
# The slot invariant of the pool lifecycle model (C01)

`InvL s L` is the invariant of DESIGN.md Appendix A with an explicit list `L` of *leased* connections (the local
variable `conn` of a running `urlopen`); `Inv s = InvL s []`.  Reading a response is a sequence of primitive `Step`s,
each of which keeps `InvL`; `_get_conn` and `_put_conn`, which change who owns a connection, are treated one by one.

`conn.close()`, `response.close()`, `_put_conn`, `release_conn()`, the exits of `_error_catcher`, `_get_conn` and
`pool.close()` are followed once, for every relation `R` between states that contains the few writes they consist of
(`Closing R`, `Pooling R`; `dispose_closure`, `run_closure`); `Steps C` here, `Safe` (`PoolSafe`) and `Mono`
(`PoolInv`) are instances.  A failure inside the checkout reaches the caller as it is (`request_checkout_error`).
-/
namespace U3.Pool

def queued (s : State) : List Nat := s.queue.filterMap id
def held (s : State) : List Nat := s.resps.filterMap (·.conn)
/-- every connection somebody is responsible for: idle in the queue, leased by a running `urlopen`,
or held by a response -/
def owned (s : State) (L : List Nat) : List Nat := queued s ++ (L ++ held s)

structure InvL (s : State) (L : List Nat) : Prop where
  pos : 0 < s.maxsize
  nodup : (owned s L).Nodup
  live : ∀ c cn, s.conns[c]? = some cn → cn.sock ≠ none → c ∈ owned s L
  bound : ∀ c ∈ owned s L, c < s.conns.length
  closedq : s.closed = true → s.queue = []
  len : s.queue.length ≤ s.maxsize
  slots : s.closed = false → s.maxsize ≤ s.queue.length + (L.length + (held s).length)
  slotsB : s.closed = false → s.block = true → s.queue.length + (L.length + (held s).length) = s.maxsize

abbrev Inv (s : State) : Prop := InvL s []

theorem mem_owned {s : State} {L : List Nat} {c : Nat} : c ∈ owned s L ↔ some c ∈ s.queue ∨ c ∈ L ∨ c ∈ held s := by
  simp [owned, queued]

/-- with no lease and no response holding a connection, every connected connection is idle in the queue -/
theorem InvL.idle {s : State} (h : InvL s []) (hq : held s = []) :
    ∀ c cn, s.conns[c]? = some cn → cn.sock ≠ none → some c ∈ s.queue := by
  intro c cn hc hs
  simpa [hq] using mem_owned.mp (h.live c cn hc hs)

theorem getElem?_lt {α : Type} {l : List α} {i : Nat} {a : α} (h : l[i]? = some a) : i < l.length :=
  (List.getElem?_eq_some_iff.mp h).1

theorem modify_some {α : Type} {l : List α} {f : α → α} {i j : Nat} {y : α} (h : (l.modify i f)[j]? = some y) :
    ∃ x, l[j]? = some x ∧ y = if i = j then f x else x := by
  rw [List.getElem?_modify] at h
  obtain ⟨x, hx, rfl⟩ := Option.map_eq_some_iff.mp h
  exact ⟨x, hx, rfl⟩

theorem modify_at {α : Type} {l : List α} (f : α → α) {i : Nat} {x : α} (h : l[i]? = some x) :
    (l.modify i f)[i]? = some (f x) := by
  simp [h]

theorem modify_ne {α : Type} (l : List α) (f : α → α) {i j : Nat} (h : j ≠ i) : (l.modify i f)[j]? = l[j]? := by
  simp [Ne.symm h]

theorem append_one_some {α : Type} {l : List α} {a y : α} {i : Nat} (h : (l ++ [a])[i]? = some y) :
    l[i]? = some y ∨ (i = l.length ∧ y = a) := by
  rcases Nat.lt_trichotomy i l.length with hi | hi | hi
  · rw [List.getElem?_append_left hi] at h
    exact Or.inl h
  · subst hi
    simp at h
    exact Or.inr ⟨rfl, h.symm⟩
  · rw [List.getElem?_eq_none (by simp; omega)] at h
    cases h

theorem filterMap_modify_perm {α β : Type} (g : α → Option β) (f : α → α) :
    ∀ (l : List α) (i : Nat) (x : α), l[i]? = some x →
      ((l.modify i f).filterMap g ++ (g x).toList).Perm (l.filterMap g ++ (g (f x)).toList) := by
  intro l
  induction l with
  | nil =>
    intro i x h
    simp at h
  | cons a t ih =>
    intro i x h
    cases i with
    | zero =>
      simp at h
      subst h
      simp only [List.modify_zero_cons, List.filterMap_cons]
      cases hga : g a <;> cases hgf : g (f a) <;> simp
      · exact (List.perm_append_singleton _ _).symm
      · rename_i c b
        exact ((List.perm_append_singleton c _).cons b).trans
          ((List.Perm.swap c b _).trans ((List.perm_append_singleton b _).symm.cons c))
    | succ j =>
      simp at h
      have := ih j x h
      simp only [List.modify_succ_cons, List.filterMap_cons]
      cases g a <;> simp [this]

theorem filterMap_modify_same {α β : Type} (g : α → Option β) (f : α → α) (hf : ∀ x, g (f x) = g x)
    (l : List α) (i : Nat) : (l.modify i f).filterMap g = l.filterMap g := by
  induction l generalizing i with
  | nil => simp
  | cons a t ih =>
    cases i with
    | zero => simp [List.filterMap_cons, hf]
    | succ j => simp [List.filterMap_cons, ih]

theorem filterMap_replicate_none (n : Nat) : (List.replicate n (none : Option Nat)).filterMap id = [] :=
  List.filterMap_replicate_of_none rfl

theorem setResp_at {s : State} {r : Nat} {rs : Resp} (g : Resp → Resp) (h : s.resps[r]? = some rs) :
    (setResp s r g).resps[r]? = some (g rs) := modify_at g h

theorem setResp_ne (s : State) (g : Resp → Resp) {r i : Nat} (h : i ≠ r) : (setResp s r g).resps[i]? = s.resps[i]? :=
  modify_ne _ g h

/-- `conn.close()` for a connection, nothing for the `None` placeholder -/
def closeItem (acc : State) (item : Option Nat) : State :=
  match item with
  | some c => connClose acc c
  | none => acc

/-- the four ways `_put_conn(x)` ends: `x` is queued; `FullPoolError` from a blocking pool; the queue of a non-blocking
pool is full (`x` is closed by the handler of `queue.Full`, and once more at the end); the pool is closed -/
theorem putConn_cases (s : State) (x : Option Nat) :
    let t := logEv s (.put x)
    (t.closed = false ∧ queueFull t = false ∧ putConn s x = ({ t with queue := x :: t.queue }, none)) ∨
    (t.closed = false ∧ queueFull t = true ∧ t.block = true ∧ putConn s x = (closeItem t x, some (exc Gen.cU3FullPoolError))) ∨
    (t.closed = false ∧ queueFull t = true ∧ t.block = false ∧ putConn s x = (closeItem (closeItem t x) x, none)) ∨
    (t.closed = true ∧ putConn s x = (closeItem t x, none)) := by
  unfold putConn
  cases hc : (logEv s (.put x)).closed <;> cases hf : queueFull (logEv s (.put x)) <;> cases hb : (logEv s (.put x)).block <;>
    simp [hc, hf, hb] <;> rfl

theorem fst_orElse {β : Type} {P : State → Prop} {q : State × Option Exc} {f : Exc → β} {b : β} (h : P q.1) :
    P (match (generalizing := false) q with
      | (s, some e) => (s, f e)
      | (s, none) => (s, b)).1 := by
  obtain ⟨t, o⟩ := q
  cases o <;> exact h

theorem fst_data {β : Type} {P : State → Prop} {q : State × DataOut} {f : List Cell → β} {g : Exc → β} (h : P q.1) :
    P (match (generalizing := false) q with
      | (s, .data d) => (s, f d)
      | (s, .exc e) => (s, g e)).1 := by
  obtain ⟨t, o⟩ := q
  cases o <;> exact h

theorem fst_of_eq {α : Type} {P : State → Prop} {x : State × α} {t : State} {o : α} (h : x = (t, o)) (p : P x.1) : P t := by
  subst h
  exact p

theorem drainConn_fst (s : State) (r : Nat) : (drainConn s r).1 = (rawRead s r none).1 := by
  unfold drainConn
  split <;> rename_i h <;> rw [h]
  split <;> rfl

theorem closePool_eq (s : State) :
    closePool s = if s.closed then s else s.queue.foldl closeItem { s with queue := [], closed := true } := rfl

theorem releaseConn_cases (s : State) (r : Nat) :
    (releaseConn s r = (s, none) ∧ ∀ rs : Resp, s.resps[r]? = some rs → rs.hasPool = false ∨ rs.conn = none) ∨
    ∃ (rs : Resp) (c : Nat), s.resps[r]? = some rs ∧ rs.hasPool = true ∧ rs.conn = some c ∧
      ((∃ e, (putConn s (some c)).2 = some e ∧ releaseConn s r = putConn s (some c)) ∨
       ((putConn s (some c)).2 = none ∧
        releaseConn s r = (setResp (putConn s (some c)).1 r fun x => { x with conn := none }, none))) := by
  unfold releaseConn
  split
  · rename_i hn
    exact .inl ⟨rfl, fun _ h => by rw [hn] at h; cases h⟩
  · rename_i rs hrs
    split
    · rename_i hp
      refine .inl ⟨rfl, fun _ h => ?_⟩
      rw [hrs] at h
      cases h
      exact .inl (by simpa using hp)
    · rename_i hp
      split
      · rename_i hc
        refine .inl ⟨rfl, fun _ h => ?_⟩
        rw [hrs] at h
        cases h
        exact .inr hc
      · rename_i c hc
        refine .inr ⟨rs, c, hrs, by simpa using hp, hc, ?_⟩
        generalize putConn s (some c) = q
        obtain ⟨t, _ | e⟩ := q
        · exact .inr ⟨rfl, rfl⟩
        · exact .inl ⟨e, rfl, rfl⟩

/-- the `finally` of `_error_catcher` after a clean body: `if self._original_response.isclosed(): self.release_conn()` -/
theorem errorCatcherExit_true (s : State) (r : Nat) :
    errorCatcherExit s r true = if respFpClosed s r then releaseConn s r else (s, none) := rfl

/-- … and after an exception `self._original_response.close()` and `self._connection.close()` come first: what
`HTTPResponse.close()` does (`respClose`) -/
theorem errorCatcherExit_false (s : State) (r : Nat) :
    errorCatcherExit s r false = errorCatcherExit (respClose s r) r true := rfl

/-- reflexive and transitive: what a walk along an operation needs of the relation it is stated for -/
structure Pre (R : State → State → Prop) : Prop where
  refl : ∀ s, R s s
  trans : ∀ {s t u}, R s t → R t u → R s u

/-- what an operation keeps, as a relation between the state before and the state after -/
theorem keeps_pre (P : State → Prop) : Pre fun s s' => P s → P s' := ⟨fun _ => id, fun a b p => b (a p)⟩

/-- a relation between states that contains what closing readers and connections consists of -/
structure Closing (R : State → State → Prop) : Prop extends Pre R where
  log : ∀ s e, R s (logEv s e)
  fp : ∀ s r, R s (setResp s r fun x => { x with fp := none, buf := [] })
  conn : ∀ s c, R s (setConn s c fun x => { x with sock := none, http := .idle, pending := none, proxyConnected := false })

/-- … and also what the traffic between a pool, its connections and its responses consists of: the queue (and the
`closed` flag) written, a response giving up its `_connection`, a new connection object -/
structure Pooling (R : State → State → Prop) : Prop extends Closing R where
  queue : ∀ s q cl, R s { s with queue := q, closed := cl }
  unhold : ∀ s r, R s (setResp s r fun x => { x with conn := none })
  new : ∀ s, R s (newConn s).1

section
variable {R : State → State → Prop}

theorem Closing.noteClose (F : Closing R) (s : State) (k : Nat) : R s (noteClose s k) := by
  unfold U3.Pool.noteClose
  split
  · exact F.refl s
  · exact F.log s _

theorem Closing.closeFp (F : Closing R) (s : State) (r : Nat) : R s (closeFp s r) := by
  unfold U3.Pool.closeFp
  split
  · exact F.refl s
  · split
    · exact F.refl s
    · exact F.trans (F.fp s r) (F.noteClose _ _)

theorem Closing.connClose (F : Closing R) (s : State) (c : Nat) : R s (connClose s c) := by
  unfold U3.Pool.connClose
  split
  · exact F.refl s
  · refine F.trans (F.conn s c) ?_
    split <;> split
    · exact F.trans (F.noteClose _ _) (F.closeFp _ _)
    · exact F.noteClose _ _
    · exact F.closeFp _ _
    · exact F.refl _

theorem Closing.closeItem (F : Closing R) (s : State) (x : Option Nat) : R s (closeItem s x) := by
  cases x with
  | none => exact F.refl s
  | some c => exact F.connClose s c

theorem Closing.respClose (F : Closing R) (s : State) (r : Nat) : R s (respClose s r) := by
  unfold U3.Pool.respClose
  refine F.trans (F.closeFp s r) ?_
  dsimp only
  split
  · exact F.refl _
  · split
    · exact F.connClose _ _
    · exact F.refl _

theorem Pooling.putConn (F : Pooling R) (s : State) (x : Option Nat) : R s (putConn s x).1 := by
  refine F.trans (F.log s (.put x)) ?_
  rcases putConn_cases s x with ⟨_, _, e⟩ | ⟨_, _, _, e⟩ | ⟨_, _, _, e⟩ | ⟨_, e⟩ <;> rw [e]
  · exact F.queue _ _ _
  · exact F.closeItem _ x
  · exact F.trans (F.closeItem _ x) (F.closeItem _ x)
  · exact F.closeItem _ x

theorem Pooling.releaseConn (F : Pooling R) (s : State) (r : Nat) : R s (releaseConn s r).1 := by
  rcases releaseConn_cases s r with ⟨e, _⟩ | ⟨_, c, _, _, _, ⟨_, _, e⟩ | ⟨_, e⟩⟩ <;> rw [e]
  · exact F.refl s
  · exact F.putConn s _
  · exact F.trans (F.putConn s _) (F.unhold _ r)

theorem Closing.errorCatcherExit (F : Closing R) (release : ∀ s r, R s (releaseConn s r).1) (s : State) (r : Nat) (clean : Bool) :
    R s (errorCatcherExit s r clean).1 := by
  have clean_exit : ∀ t, R t (U3.Pool.errorCatcherExit t r true).1 := by
    intro t
    rw [errorCatcherExit_true]
    split
    · exact release t r
    · exact F.refl t
  cases clean with
  | true => exact clean_exit s
  | false => exact F.trans (F.respClose s r) (clean_exit _)

theorem Closing.catcherExit (F : Closing R) (release : ∀ s r, R s (releaseConn s r).1) (s : State) (r : Nat) (o : DataOut) :
    R s (catcherExit s r o).1 := by
  cases o with
  | exc e => exact fst_orElse (F.errorCatcherExit release s r false)
  | data d => exact fst_orElse (F.errorCatcherExit release s r true)

theorem Pooling.discard (F : Pooling R) (s : State) (x : Option Nat) : R s (discard s x).1 := by
  cases x with
  | none => exact F.refl s
  | some c => exact F.trans (F.connClose s c) (F.putConn _ none)

theorem Pooling.getConn (F : Pooling R) (s : State) : R s (getConn s).1 := by
  unfold U3.Pool.getConn
  split
  · exact F.refl s
  · split
    · split
      · exact F.refl s
      · exact F.new s
    · rename_i item rest _
      refine F.trans (F.queue s rest s.closed) ?_
      cases item with
      | none => exact F.new _
      | some c =>
        dsimp only
        split
        · exact F.connClose _ c
        · exact F.refl _

theorem closePool_closure (F : Pre R) (empty : ∀ s, R s { s with queue := [], closed := true })
    (close : ∀ s c, R s (connClose s c)) (s : State) : R s (closePool s) := by
  have fold : ∀ (q : List (Option Nat)) (t : State), R t (q.foldl closeItem t) := by
    intro q
    induction q with
    | nil => exact F.refl
    | cons x q ih =>
      intro t
      cases x with
      | none => exact ih t
      | some c => exact F.trans (close t c) (ih _)
  rw [closePool_eq]
  split
  · exact F.refl s
  · exact F.trans (empty s) (fold _ _)

theorem Pooling.closePool (F : Pooling R) (s : State) : R s (closePool s) :=
  closePool_closure F.toPre (F.queue · [] true) F.connClose s

theorem respStream_closure (F : Pre R) {r n : Nat} (read : ∀ s, R s (respRead s r (some n)).1) :
    ∀ (fuel : Nat) (s : State) (acc : List Cell), R s (respStream fuel s r n acc).1
  | 0, s, _ => F.refl s
  | fuel + 1, s, acc => by
    unfold respStream
    split
    · exact F.refl s
    · have h1 := read s
      split <;> rename_i h <;> rw [h] at h1
      · exact h1
      · exact F.trans h1 (respStream_closure F read fuel _ _)

/-- `release` is asked for only where the caller itself calls `release_conn()`: an invariant that such an early release
breaks is still kept by every other `how` -/
theorem dispose_closure (F : Pre R) (rid : Nat) (how : How) (read : ∀ s r amt, R s (respRead s r amt).1)
    (drain : ∀ s r, R s (drainConn s r).1) (close : ∀ s r, R s (respClose s r))
    (chunked : ∀ s r k, respChunked s r = true → R s (readChunked s r k).1)
    (release : (how = .release ∨ ∃ k, how = .readKRelease k) → ∀ s r, R s (releaseConn s r).1) (s : State) :
    R s (dispose s rid how).1 := by
  unfold dispose
  split
  · exact F.refl s
  rename_i r _
  cases how with
  | readAll => exact fst_data (read s r none)
  | readK k => exact fst_data (read s r (some k))
  | readKRelease k =>
    have h1 := read s r (some k)
    unfold disposeResp
    dsimp only
    split <;> rename_i h <;> rw [h] at h1
    · exact h1
    · exact F.trans h1 (fst_orElse (release (.inr ⟨k, rfl⟩) _ r))
  | release => exact fst_orElse (release (.inl rfl) s r)
  | drain => exact fst_orElse (drain s r)
  | close => exact close s r
  | drop =>
    unfold disposeResp
    dsimp only
    split
    · exact F.refl s
    · exact close s r
  | stream k =>
    unfold disposeResp
    dsimp only
    refine fst_data ?_
    split
    · rename_i hc
      exact chunked s r k hc
    · exact respStream_closure F (fun s => read s r (some k)) _ s []

theorem run_closure {P : State → Prop} : ∀ (ops : List Op) (s : State), (∀ op ∈ ops, ∀ t, P t → P (step t op).1) → P s → P (run s ops)
  | [], _, _, h => h
  | op :: rest, s, st, h =>
    run_closure rest _ (fun op' hm => st op' (List.mem_cons_of_mem _ hm)) (st op (List.mem_cons_self ..) s h)

end

/-- a primitive write that keeps `InvL · L` as long as `C ⊆ L`: only a connection of `C` may get a socket, and no response
gets a `_connection` -/
inductive Step (C : List Nat) : State → State → Prop
  | frame {s s' : State} (h1 : s'.maxsize = s.maxsize) (h2 : s'.block = s.block) (h4 : s'.queue = s.queue)
      (h5 : s'.closed = s.closed) (h6 : s'.conns = s.conns) (h7 : s'.resps = s.resps) : Step C s s'
  | resp (s : State) (r : Nat) (f : Resp → Resp) (h : ∀ x, (f x).conn = x.conn) : Step C s (setResp s r f)
  | conn (s : State) (c : Nat) (f : Conn → Conn) (h : ∀ x : Conn, (f x).sock = x.sock ∨ (f x).sock = none) :
      Step C s (setConn s c f)
  | opn (s : State) (c : Nat) (f : Conn → Conn) (hc : c ∈ C) : Step C s (setConn s c f)
  | newResp (s : State) (x : Resp) (h : x.conn = none) : Step C s { s with resps := s.resps ++ [x] }

/-- `c.sock is None` (never connected, or closed): a connection nobody has to be responsible for (`InvL.live`) -/
def Unconnected (s : State) (c : Nat) : Prop := ∀ cn, s.conns[c]? = some cn → cn.sock = none

/-- the slot invariant carried over to a state `s'` and a lease list `L'`: the pool's size and blocking mode are as they
were, a closed pool stays closed, with an empty queue; the connections somebody is responsible for are those of before (`owned`, up to
order), with a list `A` of new connection objects, without a list `D` of connections that are not connected any more; the
number of slots accounted for is unchanged — or nothing is asked of it, the pool being closed, or it is large enough and
the pool does not block -/
theorem InvL.transfer {s s' : State} {L L' : List Nat} (A D : List Nat) (h : InvL s L)
    (hm : s'.maxsize = s.maxsize) (hb : s'.block = s.block) (hc : s'.closed = false → s.closed = false)
    (hcq : s'.closed = true → s'.queue = []) (hlen : s'.queue.length ≤ s.maxsize)
    (hn : s'.queue.length + (L'.length + (held s').length) = s.queue.length + (L.length + (held s).length) ∨
      s'.closed = true ∨ (s.block = false ∧ s.maxsize ≤ s'.queue.length + (L'.length + (held s').length)))
    (hp : (D ++ owned s' L').Perm (A ++ owned s L))
    (hA : A.Nodup ∧ ∀ a ∈ A, s.conns.length ≤ a ∧ a < s'.conns.length)
    (hD : ∀ c ∈ D, Unconnected s' c)
    (hlive : ∀ c cn, s'.conns[c]? = some cn → cn.sock ≠ none → c ∈ A ++ owned s L)
    (hcl : s.conns.length ≤ s'.conns.length) : InvL s' L' := by
  have hnd : (A ++ owned s L).Nodup :=
    List.nodup_append.mpr ⟨hA.1, h.nodup, fun a ha b hb e => by have := (hA.2 a ha).1; have := h.bound b hb; omega⟩
  refine ⟨hm ▸ h.pos, (List.nodup_append.mp (hp.nodup_iff.mpr hnd)).2.1, fun c cn g hs => ?_, fun c g => ?_, hcq,
    hm ▸ hlen, fun hc' => ?_, fun hc' hb' => ?_⟩
  · rcases List.mem_append.mp (hp.mem_iff.mpr (hlive c cn g hs)) with hd | ho
    · exact absurd (hD c hd cn g) hs
    · exact ho
  · rcases List.mem_append.mp (hp.mem_iff.mp (List.mem_append_right _ g)) with ha | ho
    · exact (hA.2 c ha).2
    · exact Nat.lt_of_lt_of_le (h.bound c ho) hcl
  · have := h.slots (hc hc')
    rcases hn with e | e | e
    · rw [hm, e]
      exact this
    · cases e.symm.trans hc'
    · exact hm ▸ e.2
  · have := h.slotsB (hc hc') (hb ▸ hb')
    rcases hn with e | e | e
    · rw [hm, e]
      exact this
    · cases e.symm.trans hc'
    · cases e.1.symm.trans (hb ▸ hb')

/-- the pool's own attributes are in `s'` what they are in `s` -/
structure SamePool (s s' : State) : Prop where
  queue : s'.queue = s.queue
  maxsize : s'.maxsize = s.maxsize
  block : s'.block = s.block
  closed : s'.closed = s.closed

theorem SamePool.trans {s t u : State} (a : SamePool s t) (b : SamePool t u) : SamePool s u :=
  ⟨b.queue.trans a.queue, b.maxsize.trans a.maxsize, b.block.trans a.block, b.closed.trans a.closed⟩

/-- `_put_conn` does not queue what it is given: the pool is closed, or full and not blocking -/
def NoRoom (s : State) : Prop := s.closed = true ∨ (s.maxsize ≤ s.queue.length ∧ s.block = false)

theorem SamePool.noRoom {s s' : State} (f : SamePool s s') (h : NoRoom s) : NoRoom s' := by
  unfold NoRoom
  rw [f.closed, f.maxsize, f.queue, f.block]
  exact h

theorem step_frame {C : List Nat} {s s' : State} (st : Step C s s') : SamePool s s' := by
  cases st <;> constructor <;> simp_all [setResp, setConn]

theorem invL_congr {s s' : State} {L : List Nat} (f : SamePool s s') (hheld : held s' = held s)
    (hlen : s'.conns.length = s.conns.length)
    (hl : ∀ c cn, s'.conns[c]? = some cn → cn.sock ≠ none → c ∈ owned s L ∨ ∃ cn0, s.conns[c]? = some cn0 ∧ cn0.sock ≠ none)
    (h : InvL s L) : InvL s' L := by
  have ho : owned s' L = owned s L := by simp [owned, queued, f.queue, hheld]
  refine h.transfer [] [] f.maxsize f.block (f.closed ▸ id) (fun e => f.queue ▸ h.closedq (f.closed ▸ e)) (f.queue ▸ h.len) (.inl (by rw [f.queue, hheld]))
    (by rw [List.nil_append, ho]; rfl) ⟨.nil, nofun⟩ nofun (fun c cn hc hs => ?_) (Nat.le_of_eq hlen.symm)
  rcases hl c cn hc hs with h' | ⟨cn0, h0, hs0⟩
  · exact h'
  · exact h.live c cn0 h0 hs0

theorem step_inv {C L : List Nat} {s s' : State} (hC : ∀ c ∈ C, c ∈ L) (st : Step C s s') (h : InvL s L) :
    InvL s' L := by
  have sp := step_frame st
  cases st with
  | frame h1 h2 h4 h5 h6 h7 =>
    refine invL_congr sp (by simp [held, h7]) (by rw [h6]) ?_ h
    intro c cn hc hs
    right
    exact ⟨cn, by rw [← h6]; exact hc, hs⟩
  | resp r f hf =>
    refine invL_congr sp ?_ rfl ?_ h
    · simp only [held, setResp]
      exact filterMap_modify_same (fun x : Resp => x.conn) f hf _ _
    · intro c cn hc hs
      right
      exact ⟨cn, hc, hs⟩
  | conn c f hf =>
    refine invL_congr sp rfl (by simp [setConn]) ?_ h
    intro c' cn hc hs
    right
    by_cases hcc : c = c'
    · subst hcc
      cases hx : s.conns[c]? with
      | none => simp [setConn, hx] at hc
      | some x =>
        simp [setConn, hx] at hc
        refine ⟨x, rfl, ?_⟩
        rcases hf x with h1 | h1
        · rw [← h1, hc]
          exact hs
        · rw [hc] at h1
          exact absurd h1 hs
    · simp [setConn, hcc] at hc
      exact ⟨cn, hc, hs⟩
  | opn c f hc =>
    refine invL_congr sp rfl (by simp [setConn]) ?_ h
    intro c' cn hc' hs
    by_cases hcc : c = c'
    · subst hcc
      exact .inl (mem_owned.mpr (.inr (.inl (hC _ hc))))
    · simp [setConn, hcc] at hc'
      right
      exact ⟨cn, hc', hs⟩
  | newResp x hx =>
    refine invL_congr sp ?_ rfl ?_ h
    · simp [held, List.filterMap_append, hx]
    · intro c cn hc hs
      right
      exact ⟨cn, hc, hs⟩

inductive Steps (C : List Nat) : State → State → Prop
  | refl (s : State) : Steps C s s
  | cons {s t u : State} : Step C s t → Steps C t u → Steps C s u

theorem Steps.trans {C : List Nat} {s t u : State} (a : Steps C s t) (b : Steps C t u) : Steps C s u := by
  induction a with
  | refl => exact b
  | cons st _ ih => exact .cons st (ih b)

theorem Steps.one {C : List Nat} {s t : State} (a : Step C s t) : Steps C s t := .cons a (.refl _)

theorem steps_inv {C L : List Nat} {s s' : State} (hC : ∀ c ∈ C, c ∈ L) (st : Steps C s s') (h : InvL s L) :
    InvL s' L := by
  induction st with
  | refl => exact h
  | cons a _ ih => exact ih (step_inv hC a h)

theorem logEv_steps (C : List Nat) (s : State) (e : Ev) : Steps C s (logEv s e) :=
  .one (.frame rfl rfl rfl rfl rfl rfl)

theorem steps_closing (C : List Nat) : Closing (Steps C) :=
  ⟨⟨.refl, .trans⟩, logEv_steps C, fun s r => .one (.resp s r _ fun _ => rfl), fun s c => .one (.conn s c _ fun _ => .inr rfl)⟩

theorem setSock_steps (C : List Nat) (s : State) (k : Nat) (f : Sock → Sock) : Steps C s (setSock s k f) :=
  .one (.frame rfl rfl rfl rfl rfl rfl)

theorem steps_frame {C : List Nat} {s s' : State} (st : Steps C s s') : SamePool s s' := by
  induction st with
  | refl => exact ⟨rfl, rfl, rfl, rfl⟩
  | cons a _ ih => exact (step_frame a).trans ih

theorem Steps.conns_length {C : List Nat} {s s' : State} (st : Steps C s s') : s'.conns.length = s.conns.length := by
  induction st with
  | refl => rfl
  | cons a _ ih =>
    rw [ih]
    cases a <;> simp_all [setResp, setConn]

theorem connClose_inv {s : State} {L : List Nat} (c : Nat) (h : InvL s L) : InvL (connClose s c) L :=
  steps_inv (C := []) (by simp) ((steps_closing []).connClose s c) h

theorem closeFp_inv {s : State} {L : List Nat} (r : Nat) (h : InvL s L) : InvL (closeFp s r) L :=
  steps_inv (C := []) (by simp) ((steps_closing []).closeFp s r) h

theorem logEv_inv {s : State} {L : List Nat} (e : Ev) (h : InvL s L) : InvL (logEv s e) L :=
  steps_inv (C := []) (by simp) (logEv_steps [] s e) h

theorem connClose_frame (s : State) (c : Nat) : SamePool s (connClose s c) :=
  steps_frame ((steps_closing []).connClose s c)

theorem init_inv (n : Nat) (b p : Bool) (hn : 0 < n) : Inv (init n b p) := by
  refine ⟨hn, ?_, ?_, ?_, ?_, ?_, ?_, ?_⟩ <;>
    simp [init, owned, queued, held]

theorem noteClose_fields (s : State) (k : Nat) :
    (noteClose s k).conns = s.conns ∧ (noteClose s k).resps = s.resps ∧ (noteClose s k).socks = s.socks := by
  unfold noteClose
  split <;> exact ⟨rfl, rfl, rfl⟩

theorem closeFp_fields (s : State) (r : Nat) :
    (closeFp s r).conns = s.conns ∧ (closeFp s r).socks = s.socks ∧ (closeFp s r).resps.length = s.resps.length ∧
    ∀ i, i ≠ r → (closeFp s r).resps[i]? = s.resps[i]? := by
  unfold closeFp
  split
  · exact ⟨rfl, rfl, rfl, fun _ _ => rfl⟩
  · split
    · exact ⟨rfl, rfl, rfl, fun _ _ => rfl⟩
    · obtain ⟨e1, e2, e3⟩ := noteClose_fields (setResp s r fun x => { x with fp := none, buf := [] }) ‹Nat›
      rw [e1, e2, e3]
      exact ⟨rfl, rfl, by simp [setResp], fun i hi => setResp_ne s _ hi⟩

theorem closeFp_congr {s t : State} (r : Nat) (h : s.resps = t.resps) : (closeFp s r).resps = (closeFp t r).resps := by
  unfold closeFp
  rw [h]
  split
  · exact h
  · split
    · exact h
    · rw [(noteClose_fields _ _).2.1, (noteClose_fields _ _).2.1]
      simp [setResp, h]

theorem connClose_conns (s : State) (c : Nat) :
    (connClose s c).conns = s.conns.modify c fun x => { x with sock := none, http := .idle, pending := none, proxyConnected := false } := by
  have hn (t : State) (k : Nat) : (noteClose t k).conns = t.conns := (noteClose_fields t k).1
  have hf (t : State) (r : Nat) : (closeFp t r).conns = t.conns := (closeFp_fields t r).1
  unfold connClose
  split
  · rename_i h
    rw [List.modify_eq_self]
    simp at h
    exact h
  · split <;> split <;> simp [hf, hn, setConn]

theorem connClose_socks (s : State) (c : Nat) : (connClose s c).socks = s.socks := by
  unfold connClose
  split
  · rfl
  · split <;> split <;> simp [(closeFp_fields _ _).2.1, (noteClose_fields _ _).2.2, setConn]

theorem connClose_resps {s : State} {c : Nat} {cn : Conn} (hc : s.conns[c]? = some cn) :
    (connClose s c).resps = match cn.pending with
      | some r => (closeFp s r).resps
      | none => s.resps := by
  unfold connClose
  simp only [hc]
  cases cn.sock <;> cases cn.pending <;> dsimp only
  · rfl
  · exact closeFp_congr _ rfl
  · exact (noteClose_fields _ _).2.1
  · exact closeFp_congr _ (noteClose_fields _ _).2.1

theorem connClose_sock_none (s : State) (c : Nat) (cn : Conn) (h : (connClose s c).conns[c]? = some cn) :
    cn.sock = none := by
  rw [connClose_conns] at h
  cases hx : s.conns[c]? with
  | none => simp [hx] at h
  | some x =>
    simp [hx] at h
    rw [← h]

theorem owned_cons (s : State) (c : Nat) (L : List Nat) : (c :: owned s L).Perm (owned s (c :: L)) :=
  List.perm_middle.symm

theorem drop_lease {s : State} {L : List Nat} {c : Nat} (h : InvL s (c :: L)) (hs : Unconnected s c) (hq : NoRoom s) :
    InvL s L :=
  h.transfer [] [c] rfl rfl id h.closedq h.len (.inr (hq.imp id fun q => ⟨q.2, Nat.le_trans q.1 (Nat.le_add_right _ _)⟩)) (owned_cons s c L)
    ⟨.nil, nofun⟩ (fun _ hd => by cases List.mem_singleton.mp hd; exact hs) h.live (Nat.le_refl _)

/-- `x` is what goes back to the pool when the lease of `c` ends: `c` itself, or the `None` placeholder that takes the slot
of a `c` that has been closed -/
def Returned (s : State) (c : Nat) (x : Option Nat) : Prop := x = some c ∨ (x = none ∧ Unconnected s c)

/-- `self.pool.put(x)` -/
theorem enqueue_inv {s : State} {L : List Nat} {c : Nat} (x : Option Nat) (h : InvL s (c :: L)) (hx : Returned s c x)
    (hc : s.closed = false) (hl : s.queue.length < s.maxsize) :
    InvL { s with queue := x :: s.queue } L := by
  have hn : (x :: s.queue).length + (L.length + (held s).length) = s.queue.length + ((c :: L).length + (held s).length) := by
    simp only [List.length_cons]
    omega
  rcases hx with rfl | ⟨rfl, hs⟩
  · exact h.transfer [] [] rfl rfl id (fun e => nomatch hc.symm.trans e) hl (.inl hn) (owned_cons s c L) ⟨.nil, nofun⟩ (fun _ hd => nomatch hd) h.live (Nat.le_refl _)
  · exact h.transfer [] [c] rfl rfl id (fun e => nomatch hc.symm.trans e) hl (.inl hn) (owned_cons s c L) ⟨.nil, nofun⟩
      (fun _ hd => by cases List.mem_singleton.mp hd; exact hs) h.live (Nat.le_refl _)

theorem closeItem_lease {u : State} {L : List Nat} {c : Nat} {x : Option Nat} (h : InvL u (c :: L))
    (hx : Returned u c x) :
    InvL (closeItem u x) (c :: L) ∧ Unconnected (closeItem u x) c ∧ SamePool u (closeItem u x) := by
  rcases hx with rfl | ⟨rfl, hs⟩
  · exact ⟨connClose_inv c h, connClose_sock_none u c, connClose_frame u c⟩
  · exact ⟨h, hs, rfl, rfl, rfl, rfl⟩

theorem putConn_inv {s : State} {L : List Nat} {c : Nat} (x : Option Nat) (h : InvL s (c :: L))
    (hx : Returned s c x) : InvL (putConn s x).1 L := by
  have h0 : InvL (logEv s (.put x)) (c :: L) := logEv_inv _ h
  have hx0 : Returned (logEv s (.put x)) c x := hx
  have cs := putConn_cases s x
  dsimp only at cs
  generalize logEv s (.put x) = t at h0 hx0 cs
  obtain ⟨h1, s1, f1⟩ := closeItem_lease h0 hx0
  rcases cs with ⟨hcl, hf, e⟩ | ⟨hcl, hf, hb, e⟩ | ⟨hcl, hf, hb, e⟩ | ⟨hcl, e⟩ <;> rw [e]
  · have hl : t.queue.length < t.maxsize := by
      have := h0.pos
      simp [queueFull] at hf
      omega
    exact enqueue_inv x h0 hx0 hcl hl
  · -- `FullPoolError`: a pool that blocks is never full while a connection is leased
    have := h0.slotsB hcl hb
    simp [queueFull] at hf this
    omega
  · obtain ⟨h2, s2, f2⟩ := closeItem_lease h1 (hx0.imp id fun g => ⟨g.1, s1⟩)
    have hfull : t.maxsize ≤ t.queue.length := by
      simp [queueFull] at hf
      exact hf.2
    exact drop_lease h2 s2 ((f1.trans f2).noRoom (Or.inr ⟨hfull, hb⟩))
  · exact drop_lease h1 s1 (f1.noRoom (Or.inl hcl))

theorem putConn_lease_inv {s : State} {L : List Nat} {c : Nat} (h : InvL s (c :: L)) :
    InvL (putConn s (some c)).1 L := putConn_inv (some c) h (Or.inl rfl)

theorem discard_lease_inv {s : State} {L : List Nat} {c : Nat} (h : InvL s (c :: L)) :
    InvL (discard s (some c)).1 L :=
  putConn_inv none (connClose_inv c h) (Or.inr ⟨rfl, connClose_sock_none s c⟩)

/-- a new connection object is leased, in exchange for a `None` taken off the queue if there was one -/
theorem lease_fresh {s : State} {q : List (Option Nat)} (h : Inv s) (hc : s.closed = false)
    (hq : q.filterMap id = queued s) (hl1 : q.length ≤ s.queue.length) (hl2 : s.queue.length ≤ q.length + 1)
    (hb : s.block = true → s.queue.length = q.length + 1) :
    InvL { s with queue := q, conns := s.conns ++ [{}] } [s.conns.length] := by
  refine h.transfer [s.conns.length] [] rfl rfl id (fun e => nomatch hc.symm.trans e) (Nat.le_trans hl1 h.len) ?_ ?_
    ⟨by simp, fun a ha => by cases List.mem_singleton.mp ha; exact ⟨Nat.le_refl _, by simp⟩⟩ nofun
    (fun c cn g hs => ?_) (by simp)
  · -- a pool that blocks had a placeholder to give; one that does not may grow
    show q.length + (1 + (held s).length) = s.queue.length + (0 + (held s).length) ∨ _ ∨ _ ∧ s.maxsize ≤ q.length + (1 + (held s).length)
    have := h.slots hc
    cases hblk : s.block with
    | true => exact .inl (by have := hb hblk; omega)
    | false => exact .inr (.inr ⟨rfl, by simp only [List.length_nil] at this; omega⟩)
  · show ([] ++ (List.filterMap id q ++ ([s.conns.length] ++ held s))).Perm _
    rw [hq]
    exact List.perm_middle
  · rcases append_one_some (l := s.conns) g with g | ⟨_, rfl⟩
    · exact List.mem_append_right _ (h.live c cn g hs)
    · exact absurd rfl hs

theorem lease_queued {s : State} {c0 : Nat} {rest : List (Option Nat)} (h : Inv s) (hq : s.queue = some c0 :: rest) :
    InvL { s with queue := rest } [c0] := by
  have hcl : s.closed = false := by
    cases hx : s.closed with
    | false => rfl
    | true => cases hq.symm.trans (h.closedq hx)
  have hlen := h.len
  rw [hq] at hlen
  refine h.transfer [] [] rfl rfl id (fun e => nomatch hcl.symm.trans e) (Nat.le_of_succ_le hlen) (.inl (by simp [hq, held]; omega)) ?_ ⟨.nil, nofun⟩
    (fun _ hd => nomatch hd) h.live (Nat.le_refl _)
  simp only [owned, queued, hq, List.filterMap_cons, id, List.nil_append, List.singleton_append]
  exact List.perm_middle

theorem getConn_inv {s s' : State} {c : Nat} (h : Inv s) (hg : getConn s = (s', .ok c)) : InvL s' [c] := by
  unfold getConn at hg
  by_cases hcl : s.closed = true
  · simp [hcl] at hg
  · have hcl' : s.closed = false := by cases hx : s.closed <;> simp_all
    simp only [hcl', Bool.false_eq_true, if_false] at hg
    cases hq : s.queue with
    | nil =>
      rw [hq] at hg
      by_cases hb : s.block = true
      · simp [hb] at hg
      · have hb' : s.block = false := by cases hx : s.block <;> simp_all
        simp [hb', newConn] at hg
        obtain ⟨rfl, rfl⟩ := hg
        have := lease_fresh (q := []) h hcl' (by simp [queued, hq]) (by simp) (by simp [hq]) (by simp [hb'])
        simp only [hq, hb', hcl'] at this ⊢
        exact this
    | cons item rest =>
      rw [hq] at hg
      cases item with
      | none =>
        simp [newConn] at hg
        obtain ⟨rfl, rfl⟩ := hg
        have e := lease_fresh (q := rest) h hcl' (by simp [queued, hq]) (by simp [hq]) (by simp [hq]) (by intro _; simp [hq])
        simp only [hcl'] at e ⊢
        exact e
      | some c0 =>
        simp at hg
        obtain ⟨rfl, rfl⟩ := hg
        have h1 := lease_queued h hq
        simp only [hcl'] at h1 ⊢
        split
        · exact connClose_inv _ h1
        · exact h1

theorem getConn_error_state {s s' : State} {e : Exc} (hg : getConn s = (s', .error e)) : s' = s := by
  unfold getConn at hg
  split at hg
  · simp at hg
    exact hg.1.symm
  · split at hg
    · split at hg
      · simp at hg
        exact hg.1.symm
      · simp [newConn] at hg
    · split at hg <;> simp [newConn] at hg

theorem getConnT_cases (s : State) (b : Bool) :
    getConnT s b = getConn s ∨
    (getConnT s b = (s, .error (exc Gen.cValueError)) ∧ s.closed = false ∧ s.block = true ∧ b = true) := by
  unfold getConnT
  split
  · rename_i hc
    simp only [Bool.and_eq_true, Bool.not_eq_eq_eq_not, Bool.not_true] at hc
    exact Or.inr ⟨rfl, hc.1.1, hc.1.2, hc.2⟩
  · exact Or.inl rfl

theorem getConnT_false (s : State) : getConnT s false = getConn s := by
  simp [getConnT]

theorem getConnT_ok {s s' : State} {b : Bool} {c : Nat} (hg : getConnT s b = (s', .ok c)) : getConn s = (s', .ok c) := by
  rcases getConnT_cases s b with hT | ⟨hT, -⟩
  · rw [← hT]
    exact hg
  · rw [hT] at hg
    cases hg

theorem getConnT_inv {s s' : State} {b : Bool} {c : Nat} (h : Inv s) (hg : getConnT s b = (s', .ok c)) : InvL s' [c] :=
  getConn_inv h (getConnT_ok hg)

theorem getConnT_error {s s' : State} {b : Bool} {e : Exc} (hg : getConnT s b = (s', .error e)) :
    s' = s ∧ ((b = true ∧ e.cls = Gen.cValueError) ∨ e.cls = Gen.cU3ClosedPoolError ∨ e.cls = Gen.cU3EmptyPoolError) := by
  rcases getConnT_cases s b with hT | ⟨hT, -, -, hb⟩
  · rw [hT] at hg
    refine ⟨getConn_error_state hg, ?_⟩
    unfold getConn at hg
    split at hg
    · cases hg
      exact Or.inr (Or.inl rfl)
    · split at hg
      · split at hg
        · cases hg
          exact Or.inr (Or.inr rfl)
        · simp [newConn] at hg
      · split at hg <;> simp [newConn] at hg
  · rw [hT] at hg
    cases hg
    exact ⟨rfl, Or.inl ⟨hb, rfl⟩⟩

theorem getConnT_error_state {s s' : State} {b : Bool} {e : Exc} (hg : getConnT s b = (s', .error e)) : s' = s :=
  (getConnT_error hg).1

theorem handleError_valueError (u : Bool) (rt : Retry) (m : Bool) : handleError u rt m Gen.cValueError = .propagate := by
  unfold handleError
  rw [if_neg (by decide), if_neg (by decide)]

theorem discard_none (s : State) : discard s none = (s, none) := rfl

theorem handleError_emptyPool (u : Bool) (rt : Retry) (m : Bool) : handleError u rt m Gen.cU3EmptyPoolError = .noCleanup := by
  unfold handleError
  rw [if_pos (by decide)]

theorem handleError_closedPool (u : Bool) (rt : Retry) (m : Bool) : handleError u rt m Gen.cU3ClosedPoolError = .propagate := by
  unfold handleError
  rw [if_neg (by decide), if_neg (by decide)]

/-- a failure inside the checkout reaches the caller as it is: none of `urlopen`'s `except` clauses retries these
classes, and the `finally` clause, which sees `conn is None`, puts nothing back -/
theorem request_checkout_error {s s' : State} {rid : Nat} {rc : ReqCfg} {retries : Retry} {a : Attempt} {rest : List Attempt}
    {e : Exc} (hp : preflight rc a = none) (hg : getConnT s rc.badPoolTimeout = (s', .error e)) :
    request s rid rc retries (a :: rest) = (s, .raised e) := by
  obtain ⟨rfl, hcls⟩ := getConnT_error hg
  rw [request, hp]
  dsimp only
  rw [hg]
  dsimp only
  rcases hcls with ⟨_, q⟩ | q | q <;> rw [q]
  · rw [handleError_valueError]
    rfl
  · rw [handleError_closedPool]
    rfl
  · rw [handleError_emptyPool]

end U3.Pool
