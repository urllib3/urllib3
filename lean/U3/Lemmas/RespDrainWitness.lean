import U3.Lemmas.RespBroken
import U3.Lemmas.RespMulti
import U3.Lemmas.RespWitness
/-! Concrete responses for the non-vacuity examples of C12 / C13.  What `begin()` makes of each wire is
evaluated once (`begin_…`); the witnesses and the examples over the same wire rewrite with it. -/
namespace U3.Resp.Witness
open U3 U3.Resp

/-- `Content-Encoding: gzip`, `Content-Length: 28`, body "hello", segmentation 3 -/
def respGzipHello : R H CD :=
  { fp := hBegin ⟨[], wireGzipHello, 3⟩ none (some (lit "28")) false 200 false,
    lengthRemaining := some 28, conn := true }

/-- the same body in three chunks (10 / 10 / 8 bytes, one chunk extension, a trailer) -/
def respChunkedGzipHello : R H CD :=
  { fp := hBegin ⟨[], wireChunkedGzipHello, 3⟩ (some (lit "chunked")) none false 200 false,
    lengthRemaining := none, conn := true }

theorem begin_gzipHello :
    respGzipHello.fp = ⟨some ⟨[], gzipHello, 3⟩, false, false, none, some 28, false, false⟩ := by
  decide +kernel

theorem begin_chunkedGzipHello : respChunkedGzipHello.fp =
    ⟨some ⟨chunkedGzipHello.take 1, chunkedGzipHello.drop 1, 3⟩, false, true, none, none, false, false⟩ := by
  rw [respChunkedGzipHello, wireChunkedGzipHello, chunkedGzipHello]
  simp only [lit_ofList]
  decide +kernel

theorem begin_shortCL : (respOf wireShortCL 0 (some (lit "5")) false (some 5)).fp =
    ⟨some ⟨[97, 98], [], 0⟩, false, false, none, some 5, false, false⟩ := by
  decide +kernel

theorem begin_chunkedCut : respChunked wireChunkedCut 3 =
    { fp := ⟨some ⟨[53], [13, 10, 97, 98], 3⟩, false, true, none, none, false, false⟩,
      lengthRemaining := none, conn := true } :=
  congrArg (fun h => ({ fp := h, lengthRemaining := none, conn := true } : R H CD))
    (by
      rw [wireChunkedCut]
      simp only [lit_ofList]
      decide +kernel)

theorem begin_chunkedBadLine : respChunked wireChunkedBadLine 3 =
    { fp := ⟨some ⟨[50], [13, 10, 97, 98, 13, 10, 122, 122, 13, 10, 99, 100, 13, 10, 48, 13, 10, 13, 10], 3⟩,
              false, true, none, none, false, false⟩,
      lengthRemaining := none, conn := true } :=
  congrArg (fun h => ({ fp := h, lengthRemaining := none, conn := true } : R H CD))
    (by
      rw [wireChunkedBadLine]
      simp only [lit_ofList]
      decide +kernel)

theorem HI_begin {h : H} {f : Fp} {l : Nat} (hh : h = ⟨some f, false, false, none, some l, false, false⟩)
    (hl : l = f.content.length) : HI h (some l) ∧ hRem h = f.content := by
  subst hh hl
  exact HI_whole rfl rfl rfl rfl (.inl ⟨rfl, rfl⟩)

theorem gzipHello_hello : CDGall (.one (.gzip (Gz.new gzipO))) gzipHello (lit "hello") :=
  GzG_of_gzOk gzipO _ _ _ rfl (by decide +kernel)

theorem inv_gzipHello : Inv cfgGzipHello hRem HI CDGall respGzipHello (lit "hello") := by
  obtain ⟨hi, hrem⟩ := HI_begin begin_gzipHello (l := 28) rfl
  refine ⟨hi, lit "hello", ?_, rfl⟩
  show CDGall (.one (.gzip (Gz.new gzipO))) (hRem respGzipHello.fp) (lit "hello")
  rw [hrem]
  exact gzipHello_hello

/-- with decoding off what is left is the raw (still gzip-encoded) body -/
theorem rawInv_gzipHello : RawInv hRem HI respGzipHello gzipHello := by
  obtain ⟨hi, hrem⟩ := HI_begin begin_gzipHello (l := 28) rfl
  exact ⟨hi, rfl, rfl, hrem⟩

theorem inv_chunkedGzipHello : Inv cfgGzipChunked cRem CI CDGall respChunkedGzipHello (lit "hello") := by
  have href : refBody none (Fp.content ⟨chunkedGzipHello.take 1, chunkedGzipHello.drop 1, 3⟩) = some gzipHello := by
    rw [Fp.content, List.take_append_drop]; decide +kernel
  have hrem : cRem respChunkedGzipHello.fp = gzipHello := by
    simp only [cRem, begin_chunkedGzipHello, href, Option.getD_some]
  refine ⟨⟨⟨by rw [begin_chunkedGzipHello], by rw [begin_chunkedGzipHello], fun g hg => ?_⟩, rfl⟩, lit "hello", ?_, rfl⟩
  · rw [begin_chunkedGzipHello] at hg ⊢
    cases hg
    exact ⟨rfl, by rw [href]; rfl⟩
  · show CDGall (.one (.gzip (Gz.new gzipO))) (cRem respChunkedGzipHello.fp) (lit "hello")
    rw [hrem]
    exact gzipHello_hello

/-- `Content-Length: 5`, only "ab" arrives: short of its Content-Length -/
theorem lShort_shortCL : LShort (respOf wireShortCL 0 (some (lit "5")) false (some 5)).fp (some 5) := by
  rw [begin_shortCL]
  exact ⟨rfl, rfl, rfl, _, 5, rfl, rfl, by decide, rfl⟩

theorem lit_cut : lit "5\r\nab" = [53, 13, 10, 97, 98] := by
  simp only [lit_ofList]
  decide +kernel

/-- the chunk of 5 of which only "ab" arrives -/
theorem broken_cut : Broken none [53, 13, 10, 97, 98] := .line _ 4 (by decide) (.short 4 _ (by decide))

theorem cBroken_chunkedCut : CBroken (respChunked wireChunkedCut 3).fp none := by
  rw [begin_chunkedCut]
  exact ⟨rfl, rfl, rfl, ⟨_, rfl, broken_cut⟩, rfl⟩

end U3.Resp.Witness
