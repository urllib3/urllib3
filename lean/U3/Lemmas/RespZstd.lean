import U3.Lemmas.RespFold
/-! The wrapper lemma `zstd_multiframe` of DESIGN §6 (`zsDec_streamLaw`): the `ZstdDecoder` wrapper as in /repo
(a fresh `decompressobj` if the last one is at `eof`, feed, then the `while eof and unused_data` loop)
obeys the streaming law for EVERY byte-step `decompressobj` — in particular a frame that ends exactly at
the end of one `decompress()` input may be followed by another frame in the next input.

The wrapper is characterised by a byte fold `zsRun` (restart with a fresh `decompressobj` whenever
the current one is at `eof` and another byte arrives); `zsDecompress` run on `a` puts out a prefix of
what the fold yields on `a ++ b` and is left in the state from which the fold over `b` yields the rest
(`zsDecompress_run`): that is the streaming law.  At the end, the law on the driver's decoder family `cdDec`
for `Content-Encoding: zstd` alone (`CDG`, `cdDec_streamLaw_zstd`). -/
namespace U3.Resp
open U3

section
variable {ρ : Type} (O : RawObj ρ)

/-- byte-wise semantics of the wrapper: returns the final core state and the output -/
def zsRun : ρ → Bytes → Except ZErr (ρ × Bytes)
  | s, [] => .ok (s, [])
  | s, b :: t =>
    let s0 := if O.eof s then O.init else s
    if O.eof s0 then .error .error
    else match O.step s0 b with
      | .error e => .error e
      | .ok (s1, o) =>
        match zsRun s1 t with
        | .error e => .error e
        | .ok (s2, o2) => .ok (s2, o ++ o2)

theorem zsRun_nil (s : ρ) : zsRun O s [] = .ok (s, []) := by rw [zsRun]

section
variable {s : ρ} {b : Nat} {t : Bytes}

theorem zsRun_step_ok (he : O.eof s = false) {s1 : ρ} {o : Bytes} (hs : O.step s b = .ok (s1, o)) :
    zsRun O s (b :: t) = (zsRun O s1 t).map fun r => (r.1, o ++ r.2) := by
  rw [zsRun]
  simp only [he, hs, if_false, Bool.false_eq_true]
  cases zsRun O s1 t <;> rfl

theorem zsRun_step_error (he : O.eof s = false) {e : ZErr} (hs : O.step s b = .error e) :
    zsRun O s (b :: t) = .error e := by
  rw [zsRun]
  simp only [he, hs, if_false, Bool.false_eq_true]

theorem zsRun_eof (he : O.eof s = true) :
    zsRun O s (b :: t) = if O.eof O.init = true then .error .error else zsRun O O.init (b :: t) := by
  rw [zsRun, zsRun]
  simp only [he, if_true]
  cases hi : O.eof O.init <;> simp [hi]

end

theorem zsRun_noteof (s : ρ) (he : O.eof s = false) (data : Bytes) :
    zsRun O (if O.eof s = true then O.init else s) data = zsRun O s data := by
  simp [he]

theorem zsRun_feeds {s s' : ρ} {used out : Bytes} (h : Feeds O s used s' out) (rest : Bytes) :
    zsRun O s (used ++ rest) = (zsRun O s' rest).map fun r => (r.1, out ++ r.2) := by
  induction h with
  | nil s =>
    rw [List.nil_append]
    cases zsRun O s rest <;> rfl
  | cons he hs _ ih =>
    rw [List.cons_append, zsRun_step_ok O he hs, ih]
    cases zsRun O _ rest <;> simp [Except.map, List.append_assoc]

/-- "a `ZstdDecoder` in state `z` that is still to receive `raw` will still deliver `p`": the
remaining input is a sequence of complete frames (the first possibly begun) decoding to `p` -/
def ZsG (z : ZObj ρ) (raw p : Bytes) : Prop :=
  z.unused = [] ∧ ∃ s2, zsRun O z.st raw = .ok (s2, p) ∧ O.eof s2 = true

section
variable {s2 : ρ} {p b : Bytes}

theorem zstdFeed_run {z : ZObj ρ} (he : O.eof z.st = false) {data : Bytes} (hne : data ≠ [])
    (h : zsRun O z.st (data ++ b) = .ok (s2, p)) :
    ∃ s' out rest, zstdFeed O z data = .ok (out, ⟨s', rest⟩) ∧
      ∃ p', zsRun O s' (rest ++ b) = .ok (s2, p') ∧ p = out ++ p' ∧
        (rest ≠ [] → O.eof s' = true) ∧ rest.length < data.length := by
  obtain ⟨used, rest, s', out, hd, hu, hc⟩ := feedLoop_split O data z.st
  rw [hd, List.append_assoc, zsRun_feeds O hu] at h
  rcases hc with ⟨hf, heof, hlt⟩ | ⟨x, t, e, rfl, he', hs, hf⟩
  · cases hr : zsRun O s' (rest ++ b) with
    | error e => rw [hr] at h; cases h
    | ok r =>
      rw [hr] at h
      cases h
      have hlt := hlt hne
      rw [he] at hlt
      exact ⟨s', out, rest, by simp [zstdFeed, he, hf], r.2, hr, rfl, heof, hlt⟩
  · rw [List.cons_append, zsRun_step_error O he' hs] at h
    cases h

/-- the `while self._obj.eof and self._obj.unused_data` loop -/
theorem zsLoop_run (fuel : Nat) (z : ZObj ρ) (parts : Bytes)
    (hf : z.unused.length < fuel) (hinv : z.unused ≠ [] → O.eof z.st = true)
    (hrun : zsRun O z.st (z.unused ++ b) = .ok (s2, p)) :
    ∃ o s', zsLoop O fuel z parts = (.ok (parts ++ o), ⟨s', []⟩) ∧ ∃ p', p = o ++ p' ∧ zsRun O s' b = .ok (s2, p') := by
  induction fuel generalizing z parts p with
  | zero => omega
  | succ k ih =>
    obtain ⟨st, unused⟩ := z
    unfold zsLoop
    cases unused with
    | nil => exact ⟨[], st, by simp, p, rfl, hrun⟩
    | cons x t =>
      have he : O.eof st = true := hinv (List.cons_ne_nil x t)
      rw [List.cons_append, zsRun_eof O he] at hrun
      -- a fresh decompressobj is not at eof, else `zsRun` would have failed
      split at hrun
      · cases hrun
      · rename_i hinit
        obtain ⟨s', out, rest, hfeed, p1, h2, rfl, h4, hlt⟩ :=
          zstdFeed_run O (z := ZObj.fresh O) (Bool.eq_false_iff.mpr hinit) (List.cons_ne_nil x t) hrun
        obtain ⟨o, s3, e1, p', rfl, e3⟩ := ih ⟨s', rest⟩ (parts ++ out)
          (by simp only [List.length_cons] at hf hlt ⊢; omega) h4 h2
        simp only [he, List.isEmpty_cons, Bool.not_false, and_self, if_true, hfeed]
        exact ⟨out ++ o, s3, by rw [e1, List.append_assoc], p', by rw [List.append_assoc], e3⟩

/-- `ZstdDecoder.decompress` on `data`, when `b` is still to come, computes `zsRun` -/
theorem zsDecompress_run {z : ZObj ρ} {data : Bytes}
    (hu : z.unused = []) (hrun : zsRun O z.st (data ++ b) = .ok (s2, p)) :
    ∃ o s', zsDecompress O z data = (.ok o, ⟨s', []⟩) ∧ ∃ p', p = o ++ p' ∧ zsRun O s' b = .ok (s2, p') := by
  obtain ⟨st, unused⟩ := z
  cases hu
  cases data with
  | nil => exact ⟨[], st, rfl, p, rfl, hrun⟩
  | cons x t =>
    -- the object the data is fed to is not at `eof`
    obtain ⟨z0, hz0, hrun0, he0⟩ : ∃ z0 : ZObj ρ, (if O.eof st = true then ZObj.fresh O else ⟨st, []⟩) = z0 ∧
        zsRun O z0.st (x :: t ++ b) = .ok (s2, p) ∧ O.eof z0.st = false := by
      cases he : O.eof st with
      | false => exact ⟨_, rfl, hrun, he⟩
      | true =>
        rw [List.cons_append, zsRun_eof O he] at hrun
        split at hrun
        · cases hrun
        · rename_i hinit
          exact ⟨_, rfl, hrun, Bool.eq_false_iff.mpr hinit⟩
    obtain ⟨s', out, rest, hfeed, p1, h2, rfl, h4, h5⟩ := zstdFeed_run O he0 (List.cons_ne_nil x t) hrun0
    obtain ⟨o, s3, e1, p', rfl, e3⟩ := zsLoop_run O ((x :: t).length + 1) ⟨s', rest⟩ out
      (by simp only [List.length_cons] at h5 ⊢; omega) h4 h2
    unfold zsDecompress
    simp only [List.isEmpty_cons, Bool.false_eq_true, if_false, hz0, hfeed]
    exact ⟨out ++ o, s3, e1, p', by rw [List.append_assoc], e3⟩

end

/-- `zstd_multiframe`: the wrapper obeys the streaming law, for any `decompressobj` -/
theorem zsDec_streamLaw : StreamLaw (zsDec O) (ZsG O) := by
  constructor
  · intro z a b p ⟨hu, s2, hrun, he⟩
    obtain ⟨o, s', e1, p', e2, e3⟩ := zsDecompress_run O hu hrun
    exact ⟨o, ⟨s', []⟩, e1, p', e2, rfl, s2, e3, he⟩
  · intro z p ⟨hu, s2, hrun, he⟩
    rw [zsRun_nil] at hrun
    cases hrun
    exact ⟨rfl, z, by simp [zsDec, zsFlush, he], hu, z.st, zsRun_nil O _, he⟩

end

/-- Boolean test implying `ZsG` for a decoder without unused data (`ZsG_of_zsOk`) -/
def zsOk {ρ : Type} (O : RawObj ρ) (s : ρ) (raw p : Bytes) : Bool :=
  match zsRun O s raw with
  | .ok (s2, o) => o == p && O.eof s2
  | .error _ => false

theorem ZsG_of_zsOk {ρ : Type} (O : RawObj ρ) (z : ZObj ρ) (raw p : Bytes) (hu : z.unused = [])
    (h : zsOk O z.st raw p = true) : ZsG O z raw p := by
  unfold zsOk at h
  split at h
  · rename_i s2 o hr
    simp only [Bool.and_eq_true, beq_iff_eq] at h
    exact ⟨hu, s2, by rw [hr, h.1], h.2⟩
  · cases h

/-- `ZsG` on the concrete decoder family `CD`: `Content-Encoding: zstd` alone -/
def CDG (c : CD) (raw p : Bytes) : Prop :=
  match c with
  | .one (.zstd z) => ZsG zstdObj z raw p
  | _ => False

theorem CDG_zstd {c : CD} {raw p : Bytes} (h : CDG c raw p) : ∃ z, c = .one (.zstd z) := by
  cases c with
  | multi ds => exact h.elim
  | one d =>
    cases d with
    | zstd z => exact ⟨z, rfl⟩
    | _ => exact h.elim

theorem cdDec_streamLaw_zstd : StreamLaw cdDec CDG := by
  have zs := StreamLaw.At.lift (D' := cdDec) (G' := CDG) (fun z => .one (.zstd z)) (zsDec_streamLaw zstdObj)
    (fun _ _ => rfl) (fun _ => rfl)
  constructor
  · intro c a b p h
    obtain ⟨z, rfl⟩ := CDG_zstd h
    exact (zs z).1 a b p h
  · intro c p h
    obtain ⟨z, rfl⟩ := CDG_zstd h
    exact (zs z).2 p h

end U3.Resp
