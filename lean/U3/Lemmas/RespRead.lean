import U3.Lemmas.Resp
/-! The glue through `read()` / `read(n)`: for ANY body source obeying `RawReadSpec` / `RawReadAllSpec`
and ANY content decoder obeying the `StreamLaw` (or no decoder at all), one call of `read(n)` returns
exactly the next `min n |rest|` bytes of the decoded payload and re-establishes the invariant `Inv`,
`buffered ++ still to be decoded = rest` (`read_n_spec`); `read()` returns all of `rest` (`read_all_spec`); `.data` is
the same bytes (`data_spec`).  `InvB` is `Inv` with fuel for the refill loops of one call: what call
sequences and `stream` carry along.

The laws a body source and a decoder have to obey are hypotheses throughout, one letter each: `hR`
(`RawReadSpec`, in `Resp`), `hA` (`RawReadAllSpec`), `hD` (`StreamLaw`, in `Resp`); `RespRead1` adds `hR1`
(`RawRead1Spec`), `RespCalls` the closing laws `hCN`, `hCA`, `hZ` (`ClosesN`, `ClosesAll`, `ClosedNil`).  They are
kept apart because the C12 theorems assume only the ones they need; `RespInst` derives all of them from one
contract on the body source (`SrcSpec`), which `http.client`'s reader meets on a length-framed or close-delimited
body (`hSrc_spec`) and on a chunked one (`hSrc_spec_chunked`, in `RespChunked`). -/
namespace U3.Resp
open U3

section
variable {σ δ : Type} (S : Src σ) (D : Dec δ) (cfg : Cfg δ)

/-- what the read family needs from `_raw_read()` (no amount) on a well-framed body: everything
that is left, without raising -/
structure RawReadAllSpec (rem : σ → Bytes) (I : σ → Option Int → Prop) : Prop where
  spec : ∀ (r : R σ δ), I r.fp r.lengthRemaining →
    ∃ r', rawRead S cfg r none false = (.ok (rem r.fp), r') ∧
      rem r'.fp = [] ∧ I r'.fp r'.lengthRemaining ∧
      r'.buf = r.buf ∧ r'.decoder = r.decoder ∧ r'.hasDecoded = r.hasDecoded ∧ r'.body = r.body

/-- source law used for `stream`: a `_raw_read(a)` at the end of the body closes the file -/
def ClosesN (rem : σ → Bytes) (I : σ → Option Int → Prop) : Prop :=
  ∀ (r : R σ δ) (a : Nat), 0 < a → I r.fp r.lengthRemaining → rem r.fp = [] →
    S.isclosed (rawRead S cfg r (some a) false).2.fp = true

/-- source law used for `stream`: a `_raw_read()` without amount always closes the file -/
def ClosesAll (I : σ → Option Int → Prop) : Prop :=
  ∀ (r : R σ δ), I r.fp r.lengthRemaining → S.isclosed (rawRead S cfg r none false).2.fp = true

/-- source law used for `stream`: a closed file has nothing left -/
def ClosedNil (rem : σ → Bytes) (I : σ → Option Int → Prop) : Prop :=
  ∀ (h : σ) (lr : Option Int), I h lr → S.isclosed h = true → rem h = []

/-- the decoder `read` works with: the installed one, else what `_init_decoder` installs -/
def effDec (od : Option δ) : Option δ :=
  match od with
  | some d => some d
  | none => cfg.newDecoder

/-- "a response whose decoder slot is `od` and whose source still delivers `raw` still owes `p`":
with a decoder the streaming-law relation, without one the raw bytes themselves -/
def Owes (G : δ → Bytes → Bytes → Prop) (od : Option δ) (raw p : Bytes) : Prop :=
  match od with
  | some d => G d raw p
  | none => p = raw

/-- the read-family invariant: framing invariant + `buffered ++ p = rest`, where `p` is what the decoder will
still produce from the source (`Owes`; not the `owed` of `Resp.lean`, which is the `IncompleteRead` test) -/
structure Inv (rem : σ → Bytes) (I : σ → Option Int → Prop) (G : δ → Bytes → Bytes → Prop)
    (r : R σ δ) (rest : Bytes) : Prop where
  framing : I r.fp r.lengthRemaining
  owes : ∃ p, Owes G (effDec cfg r.decoder) (rem r.fp) p ∧ bqAll r.buf ++ p = rest

theorem initDec_eq (r : R σ δ) : initDec cfg r = { r with decoder := effDec cfg r.decoder } := by
  obtain ⟨_, dec, _, _, _, _, _, _, _, _, _⟩ := r
  cases dec <;> rfl

/-- a slot that is `some`, or `none` because nothing is to be installed, is stable under `_init_decoder` -/
def Settled (od : Option δ) : Prop := effDec cfg od = od

theorem settled_effDec (od : Option δ) : Settled cfg (effDec cfg od) := by
  unfold Settled effDec
  cases od with
  | some d => rfl
  | none => cases cfg.newDecoder <;> rfl

theorem settled_some (d : δ) : Settled cfg (some d) := rfl

theorem initDec_settled (r : R σ δ) (h : Settled cfg r.decoder) : initDec cfg r = r := by
  rw [initDec_eq, h]

variable {G : δ → Bytes → Bytes → Prop} {rem : σ → Bytes} {I : σ → Option Int → Prop}
  (hR : RawReadSpec S cfg rem I) (hA : RawReadAllSpec S cfg rem I) (hD : StreamLaw D G)

/-- the decoder slot `od` is what `read` works with and still owes `p` for the raw bytes `raw` -/
def Due (G : δ → Bytes → Bytes → Prop) (od : Option δ) (raw p : Bytes) : Prop :=
  Settled cfg od ∧ Owes G od raw p

theorem Inv.due {r : R σ δ} {rest : Bytes}
    (h : Inv cfg rem I G r rest) :
    ∃ p, Due cfg G (effDec cfg r.decoder) (rem r.fp) p ∧ bqAll r.buf ++ p = rest :=
  let ⟨p, hO, hp⟩ := h.owes
  ⟨p, ⟨settled_effDec cfg _, hO⟩, hp⟩

theorem Due.inv {r : R σ δ} {p : Bytes}
    (h : Due cfg G r.decoder (rem r.fp) p) (hI : I r.fp r.lengthRemaining) :
    Inv cfg rem I G r (bqAll r.buf ++ p) :=
  ⟨hI, p, by rw [h.1]; exact h.2, rfl⟩

/-- `Inv` after `_init_decoder`: the decoder slot is the one `_decode` works with.  This is what the refill
loops of `read(amt)` and `read1` conserve, for a fixed `rest` -/
def InvS (rem : σ → Bytes) (I : σ → Option Int → Prop) (G : δ → Bytes → Bytes → Prop)
    (r : R σ δ) (rest : Bytes) : Prop :=
  Settled cfg r.decoder ∧ Inv cfg rem I G r rest

theorem InvS.due {r : R σ δ} {rest : Bytes} (h : InvS cfg rem I G r rest) :
    ∃ p, Due cfg G r.decoder (rem r.fp) p ∧ bqAll r.buf ++ p = rest :=
  let ⟨p, hO, hp⟩ := h.2.owes
  ⟨p, ⟨h.1, h.1 ▸ hO⟩, hp⟩

theorem Due.invS {r : R σ δ} {p : Bytes}
    (h : Due cfg G r.decoder (rem r.fp) p) (hI : I r.fp r.lengthRemaining) :
    InvS cfg rem I G r (bqAll r.buf ++ p) :=
  ⟨h.1, h.inv cfg hI⟩

/-- `read` starts with `_init_decoder` -/
theorem Inv.settle {r : R σ δ} {rest : Bytes} (h : Inv cfg rem I G r rest) :
    InvS cfg rem I G (initDec cfg r) rest := by
  obtain ⟨p, hdue, hp⟩ := h.due
  rw [initDec_eq]
  exact hp ▸ hdue.invS (r := { r with decoder := effDec cfg r.decoder }) cfg h.framing

include hD in
theorem Due.nil {od : Option δ} {p : Bytes} (h : Due cfg G od [] p) : p = [] := by
  cases od with
  | none => exact h.2
  | some d => exact (hD.done d p h.2).1

include hD in
theorem decode_feed (r : R σ δ) (a b p : Bytes) (h : Due cfg G r.decoder (a ++ b) p) :
    ∃ o od hd, decode D r a true false = (.ok o, { r with decoder := od, hasDecoded := hd }) ∧
      od.isSome = r.decoder.isSome ∧ ∃ p', p = o ++ p' ∧ Due cfg G od b p' := by
  obtain ⟨hs, hO⟩ := h
  cases hd : r.decoder with
  | none =>
    rw [hd] at hO hs
    exact ⟨a, r.decoder, r.hasDecoded, decode_none D r a hd, by rw [hd], b, hO, by rw [hd]; exact ⟨hs, rfl⟩⟩
  | some d =>
    rw [hd] at hO
    obtain ⟨o, d', hdec, p', hp, hG'⟩ := hD.feed d a b p hO
    exact ⟨o, some d', true, decode_ok D r d d' a o hd hdec, rfl, p', hp, settled_some cfg d', hG'⟩

include hD in
theorem flushDecoder_done (r : R σ δ) (p : Bytes) (h : Due cfg G r.decoder [] p) :
    p = [] ∧ ∃ od, flushDecoder D r = (.ok [], { r with decoder := od }) ∧ od.isSome = r.decoder.isSome ∧
      Due cfg G od [] [] := by
  have hp := h.nil D cfg hD
  subst hp
  refine ⟨rfl, ?_⟩
  cases hd : r.decoder with
  | none => exact ⟨r.decoder, flushDecoder_none D r hd, by rw [hd], h⟩
  | some d =>
    rw [hd] at h
    obtain ⟨o, d', hdec, p', hp', hG'⟩ := hD.feed d [] [] [] h.2
    obtain ⟨rfl, rfl⟩ := List.append_eq_nil_iff.mp hp'.symm
    obtain ⟨_, d'', hfl, hG''⟩ := hD.done d' [] hG'
    exact ⟨some d'', by simp [flushDecoder, hd, hdec, hfl], rfl, settled_some cfg d'', hG''⟩

include hD in
theorem decode_last (r : R σ δ) (a p : Bytes) (h : Due cfg G r.decoder a p) :
    ∃ od hd, decode D r a true true = (.ok p, { r with decoder := od, hasDecoded := hd }) ∧ Due cfg G od [] [] := by
  obtain ⟨o, od, hd, hdec, _, p', hp, hdue⟩ := decode_feed D cfg hD r a [] p (by rw [List.append_nil]; exact h)
  obtain ⟨rfl, od2, hfl, _, hdue2⟩ := flushDecoder_done D cfg hD ({ r with decoder := od, hasDecoded := hd } : R σ δ) p' hdue
  refine ⟨od2, hd, ?_, hdue2⟩
  rw [decode_flush, hdec]
  simp only [hfl, hp, List.append_nil]

include hD in
/-- with the source at its end, all that is left is in the decoded buffer -/
theorem Inv.ended {r : R σ δ} {rest : Bytes} (h : Inv cfg rem I G r rest) (h0 : rem r.fp = []) :
    rest = bqAll r.buf := by
  obtain ⟨p, hdue, rfl⟩ := h.due
  have hp : p = [] := (h0 ▸ hdue).nil D cfg hD
  rw [hp, List.append_nil]

include hD in
/-- the piece a `_raw_read` took off the source (`r` before it, `r1` after it) is decoded and queued, and the
invariant holds again.  The flush flag `fl` is only ever set at the end of the raw body, where the flush
adds nothing -/
theorem InvS.fetch {r r1 : R σ δ} {rest : Bytes} {k : Nat} (h : InvS cfg rem I G r rest) (fl : Bool)
    (hfl : fl = true → rem r.fp = []) (hrem : rem r1.fp = (rem r.fp).drop k) (hI1 : I r1.fp r1.lengthRemaining)
    (hb : r1.buf = r.buf) (hd : r1.decoder = r.decoder) :
    ∃ o od hd', decode D r1 ((rem r.fp).take k) true fl = (.ok o, { r1 with decoder := od, hasDecoded := hd' }) ∧
      od.isSome = r.decoder.isSome ∧
      InvS cfg rem I G { r1 with decoder := od, hasDecoded := hd', buf := bqPut r1.buf o } rest := by
  obtain ⟨p, hdue, rfl⟩ := h.due
  rw [← List.take_append_drop k (rem r.fp), ← hd] at hdue
  obtain ⟨o, od, hd', hdec, hsome, p', rfl, hdue'⟩ := decode_feed D cfg hD r1 _ _ p hdue
  rw [← hrem] at hdue'
  have fin : ∀ od2, Due cfg G od2 (rem r1.fp) p' →
      InvS cfg rem I G { r1 with decoder := od2, hasDecoded := hd', buf := bqPut r1.buf o } (bqAll r.buf ++ (o ++ p')) := by
    intro od2 h2
    have := h2.invS (r := { r1 with decoder := od2, hasDecoded := hd', buf := bqPut r1.buf o }) cfg hI1
    rwa [show bqAll (bqPut r1.buf o) = bqAll r.buf ++ o by rw [bqPut_all, hb], List.append_assoc] at this
  cases fl with
  | false => exact ⟨o, od, hd', hdec, hd ▸ hsome, fin od hdue'⟩
  | true =>
    rw [hrem, hfl rfl, List.drop_nil] at hdue'
    obtain ⟨rfl, od2, e2, hsome2, hdue2⟩ :=
      flushDecoder_done D cfg hD ({ r1 with decoder := od, hasDecoded := hd' } : R σ δ) p' hdue'
    refine ⟨o, od2, hd', ?_, hd ▸ hsome2.trans hsome, fin od2 (by rw [hrem, hfl rfl, List.drop_nil]; exact hdue2)⟩
    rw [decode_flush, hdec]
    simp only [e2, List.append_nil]

theorem decode_body (r : R σ δ) (a : Bytes) (dc fl : Bool) : (decode D r a dc fl).2.body = r.body := by
  obtain ⟨res, od, hd, h, _⟩ := decode_cases D r a dc fl
  rw [h]

include hR hD in
/-- the inner loop of `read(amt)` conserves the invariant, with or without a decoder, and ends with `amt`
bytes buffered or the raw body exhausted (and then the file closed) -/
theorem readLoop_inv (a : Nat) (ha : 0 < a) (fl : Bool) :
    ∀ (fuel : Nat) (r : R σ δ) (data rest : Bytes), (fl = true → data = []) → InvS cfg rem I G r rest →
      (rem r.fp).length + (if data = [] then 0 else 1) < fuel → (data = [] → rem r.fp = []) →
      ∃ r', readLoop S D cfg a true fl fuel r data = (.ok (), r') ∧ InvS cfg rem I G r' rest ∧
        r'.decoder.isSome = r.decoder.isSome ∧
        (bqLen r'.buf < a → rem r'.fp = []) ∧ (r.buf ≠ [] → r'.buf ≠ []) ∧
        (rem r'.fp).length ≤ (rem r.fp).length ∧
        (ClosesN S cfg rem I → (data = [] → S.isclosed r.fp = true) → bqLen r'.buf < a →
          S.isclosed r'.fp = true) := by
  intro fuel
  induction fuel with
  | zero =>
    intro r data rest _ _ hf
    omega
  | succ k ih =>
    intro r data rest hfl hS hf hdata
    unfold readLoop
    by_cases hc : bqLen r.buf < a ∧ (!data.isEmpty) = true
    · rw [if_pos hc]
      have hdne : data ≠ [] := by
        intro h
        simp [h] at hc
      -- the stale `flush_decoder` is off while there was data
      have hfl0 : fl = false := by
        cases fl with
        | false => rfl
        | true => exact absurd (hfl rfl) hdne
      subst hfl0
      obtain ⟨r1, h1, hrem1, hI1, hb1, hd1, _⟩ := hR.spec r a ha hS.2.framing
      obtain ⟨o, od, hd, hdec, hsome, hS2⟩ := hS.fetch D cfg hD false nofun hrem1 hI1 hb1 hd1
      rw [h1]
      simp only [hdec]
      have hlen : (rem r1.fp).length + (if (rem r.fp).take a = [] then 0 else 1) < k := by
        rw [hrem1]
        exact drop_measure (fun _ => ha) (by simpa [hdne] using hf)
      obtain ⟨r', f1, f2, f3, f4, f5, f6, f7⟩ := ih _ ((rem r.fp).take a) rest nofun hS2 hlen
        (fun h => by rw [hrem1, take_eq_nil_of_pos ha h, List.drop_nil])
      refine ⟨r', f1, f2, f3.trans hsome, f4, fun _ => f5 (by simp [bqPut]), ?_, ?_⟩
      · refine Nat.le_trans f6 ?_
        rw [hrem1, List.length_drop]
        omega
      · intro hC _ hlt
        refine f7 hC (fun h0 => ?_) hlt
        have := hC r a ha hS.2.framing (take_eq_nil_of_pos ha h0)
        rw [h1] at this
        exact this
    · rw [if_neg hc]
      have hd0 : bqLen r.buf < a → data = [] := by
        intro hlt
        have : ¬ ((!data.isEmpty) = true) := fun h => hc ⟨hlt, h⟩
        simpa using this
      exact ⟨r, rfl, hS, rfl, fun hlt => hdata (hd0 hlt), id, Nat.le_refl _,
        fun _ hcl hlt => hcl (hd0 hlt)⟩

include hD in
/-- the final `self._decoded_buffer.get(amt)` of `read(amt)` -/
theorem bufGet_final (a : Nat) (r : R σ δ) (rest : Bytes) (h : Inv cfg rem I G r rest) (hne : r.buf ≠ [])
    (hshort : bqLen r.buf < a → rem r.fp = []) :
    ∃ q, bufGet r a = (.ok (rest.take a), { r with buf := q }) ∧ Inv cfg rem I G { r with buf := q } (rest.drop a) := by
  obtain ⟨q, hget, hq⟩ := bufGet_eq r a (Or.inl hne)
  obtain ⟨p, hO, hp⟩ := h.owes
  -- the split point lies inside the buffer, or nothing is owed
  have hsplit : rest.take a = (bqAll r.buf).take a ∧ rest.drop a = (bqAll r.buf).drop a ++ p := by
    by_cases hlt : bqLen r.buf < a
    · have := h.ended D cfg hD (hshort hlt)
      rw [this] at hp
      rw [this, List.append_right_eq_self.mp hp, List.append_nil]
      exact ⟨rfl, rfl⟩
    · rw [bqLen_eq] at hlt
      rw [← hp]
      exact ⟨List.take_append_of_le_length (by omega), List.drop_append_of_le_length (by omega)⟩
  exact ⟨q, by rw [hget, hsplit.1], h.framing, p, hO, by rw [hsplit.2, ← hq]⟩

include hR hD in
theorem read_n_spec (a : Nat) (ha : 0 < a) (r : R σ δ) (rest : Bytes) (dco : Option Bool)
    (hdc : dco.getD cfg.decodeDefault = true)
    (hinv : Inv cfg rem I G r rest) (hfuel : (rem r.fp).length + 1 < cfg.fuel) :
    ∃ r', read S D cfg r (some a) dco = (.ok (rest.take a), r') ∧ Inv cfg rem I G r' (rest.drop a) ∧
      (rem r'.fp).length ≤ (rem r.fp).length ∧
      (ClosesN S cfg rem I → rest.length < a → S.isclosed r'.fp = true) := by
  have hS := hinv.settle
  rw [show r.fp = (initDec cfg r).fp by rw [initDec_eq]] at hfuel ⊢
  unfold read
  generalize initDec cfg r = r at hS hfuel ⊢
  simp only [hdc]
  by_cases hge : bqLen r.buf ≥ a
  · -- answered from the decoded buffer
    rw [if_pos hge]
    obtain ⟨q, e1, e2⟩ := bufGet_final D cfg hD a r rest hS.2 (ne_nil_of_bqLen_pos (by omega)) (by intro h; omega)
    refine ⟨_, e1, e2, Nat.le_refl _, fun _ hlt => ?_⟩
    obtain ⟨p, _, rfl⟩ := hS.due
    rw [bqLen_eq] at hge
    rw [List.length_append] at hlt
    omega
  · rw [if_neg hge]
    obtain ⟨r1, h1, hrem1, hI1, hb1, hd1, _⟩ := hR.spec r a ha hS.2.framing
    have hclose : ClosesN S cfg rem I → (rem r.fp).take a = [] → S.isclosed r1.fp = true := by
      intro hC h0
      have := hC r a ha hS.2.framing (take_eq_nil_of_pos ha h0)
      rw [h1] at this
      exact this
    simp only [h1]
    by_cases hend : (rem r.fp).take a = [] ∧ bqLen r1.buf = 0
    · -- nothing left at all
      have hrem0 := take_eq_nil_of_pos ha hend.1
      have hrest : rest = [] := by
        rw [hS.2.ended D cfg hD hrem0, ← hb1]
        exact bqLen_eq_zero.mp hend.2
      subst hrest
      rw [hrem0, List.drop_nil] at hrem1
      rw [if_pos ⟨by rw [hend.1]; rfl, hend.2⟩, hend.1, List.take_nil, List.drop_nil]
      obtain ⟨p, hO, hp⟩ := hS.2.owes
      refine ⟨r1, rfl, ⟨hI1, p, by rw [hd1, hrem1]; exact hrem0 ▸ hO, by rw [hb1]; exact hp⟩,
        by rw [hrem1]; exact Nat.zero_le _, fun hC _ => hclose hC hend.1⟩
    · -- decode what arrived (flushing if it was nothing), top the buffer up, hand out `a` bytes
      rw [if_neg (fun h => hend ⟨List.isEmpty_iff.mp h.1, h.2⟩)]
      have hfl : ((some a).isNone || decide (some a ≠ some 0) && ((rem r.fp).take a).isEmpty) =
          ((rem r.fp).take a).isEmpty := by
        simp
        omega
      obtain ⟨o, od, hd, hdec, _, hS2⟩ := hS.fetch D cfg hD ((rem r.fp).take a).isEmpty
        (fun h => take_eq_nil_of_pos ha (List.isEmpty_iff.mp h)) hrem1 hI1 hb1 hd1
      simp only [Bool.not_true, Bool.false_eq_true, if_false, hfl, hdec]
      obtain ⟨r3, l1, l2, _, l4, l5, l6, l7⟩ :=
        readLoop_inv S D cfg hR hD a ha ((rem r.fp).take a).isEmpty cfg.fuel _ ((rem r.fp).take a) rest
          List.isEmpty_iff.mp hS2
          (by
            show (rem r1.fp).length + _ < _
            rw [hrem1, List.length_drop]
            split <;> omega)
          (fun h => by rw [hrem1, take_eq_nil_of_pos ha h, List.drop_nil])
      obtain ⟨q, f1, f2⟩ := bufGet_final D cfg hD a r3 rest l2.2 (l5 (by simp [bqPut])) l4
      rw [l1]
      simp only [f1]
      refine ⟨_, rfl, f2, ?_, fun hC hlt => ?_⟩
      · refine Nat.le_trans l6 ?_
        show (rem r1.fp).length ≤ _
        rw [hrem1, List.length_drop]
        omega
      · refine l7 hC (hclose hC) ?_
        obtain ⟨p3, _, hp3⟩ := l2.due
        rw [bqLen_eq]
        rw [← hp3, List.length_append] at hlt
        omega

theorem prependBuffered_spec (r : R σ δ) (out : Bytes) :
    ∃ q, prependBuffered r out = (bqAll r.buf ++ out, { r with buf := q }) ∧ bqAll q = [] := by
  unfold prependBuffered
  by_cases h : bqLen r.buf > 0
  · rw [if_pos h]
    exact ⟨[], by simp [bqGetAll, bqPut_all], rfl⟩
  · rw [if_neg h]
    have h0 : bqAll r.buf = [] := bqLen_eq_zero.mp (by omega)
    exact ⟨r.buf, by rw [h0]; rfl, h0⟩

theorem prependBuffered_body (r : R σ δ) (out : Bytes) : (prependBuffered r out).2.body = r.body := by
  unfold prependBuffered
  split <;> rfl

include hA hD in
theorem read_all_spec (r : R σ δ) (rest : Bytes) (dco : Option Bool) (cache : Bool)
    (hdc : dco.getD cfg.decodeDefault = true)
    (hinv : Inv cfg rem I G r rest) :
    ∃ r', read S D cfg r none dco cache = (.ok rest, r') ∧ Inv cfg rem I G r' [] ∧
      rem r'.fp = [] ∧ (cache = true → r'.body = some rest ∨ (rest = [] ∧ r'.body = r.body)) ∧
      (ClosesAll S cfg I → S.isclosed r'.fp = true) := by
  have hS := hinv.settle
  rw [show r.body = (initDec cfg r).body from (congrArg R.body (initDec_eq cfg r)).symm]
  unfold read
  generalize initDec cfg r = r at hS ⊢
  obtain ⟨p, hdue, rfl⟩ := hS.due
  have hI := hS.2.framing
  simp only [hdc]
  obtain ⟨r1, h1, hrem1, hI1, hb1, hd1, _, hbody1⟩ := hA.spec r hI
  have hcl : ClosesAll S cfg I → S.isclosed r1.fp = true := by
    intro hC
    have := hC r hI
    rw [h1] at this
    exact this
  simp only [h1]
  by_cases hc : (rem r.fp).isEmpty = true ∧ bqLen r1.buf = 0
  · rw [if_pos hc]
    have hrem0 : rem r.fp = [] := List.isEmpty_iff.mp hc.1
    have hp : p = [] := (hrem0 ▸ hdue).nil D cfg hD
    have hball : bqAll r.buf = [] := by
      rw [← hb1]
      exact bqLen_eq_zero.mp hc.2
    have hdue1 : Due cfg G r1.decoder (rem r1.fp) [] := by
      rw [hd1, hrem1]
      rw [hrem0, hp] at hdue
      exact hdue
    have := hdue1.inv (I := I) cfg hI1
    rw [hb1, hball] at this
    rw [hrem0, hp, hball]
    exact ⟨r1, rfl, this, hrem1, fun _ => Or.inr ⟨rfl, hbody1⟩, hcl⟩
  · rw [if_neg hc]
    simp only [Option.isNone_none, Bool.true_or]
    obtain ⟨od, hd, hdec, hdue'⟩ := decode_last D cfg hD r1 (rem r.fp) p (hd1 ▸ hdue)
    obtain ⟨q, hpb, hq⟩ := prependBuffered_spec ({ r1 with decoder := od, hasDecoded := hd } : R σ δ) p
    simp only [hdec, hpb]
    rw [hb1]
    have hinv' : ∀ b : Option Bytes, Inv cfg rem I G
        { r1 with decoder := od, hasDecoded := hd, buf := q, body := b } [] := by
      intro b
      have := Due.inv (r := { r1 with decoder := od, hasDecoded := hd, buf := q, body := b }) (rem := rem) (I := I)
        cfg (by rw [hrem1]; exact hdue') hI1
      rw [hq] at this
      exact this
    cases cache with
    | true => exact ⟨_, rfl, hinv' _, hrem1, fun _ => Or.inl rfl, hcl⟩
    | false => exact ⟨_, rfl, hinv' _, hrem1, nofun, hcl⟩

theorem read_zero_spec
    (r : R σ δ) (rest : Bytes) (dco : Option Bool) (hinv : Inv cfg rem I G r rest) :
    ∃ r', read S D cfg r (some 0) dco = (.ok [], r') ∧ Inv cfg rem I G r' rest ∧ r'.fp = r.fp := by
  refine ⟨initDec cfg r, ?_, hinv.settle.2, by rw [initDec_eq]⟩
  unfold read
  simp [bufGet, bqGet]

/-- `Inv` with fuel for the refill loops of one call.  The raw bytes to come never grow, so it holds again
after every call: this is what call sequences and `stream` carry along -/
def InvB (rem : σ → Bytes) (I : σ → Option Int → Prop) (G : δ → Bytes → Bytes → Prop)
    (r : R σ δ) (rest : Bytes) : Prop :=
  Inv cfg rem I G r rest ∧ (rem r.fp).length + 1 < cfg.fuel

include hR hA hD in
/-- one call of `read` with decoding on: `read()`, `read(0)`, `read(n)` / `readinto(n)`.  What `stream`
needs of `read(amt)`, `amt ≠ 0`, besides: b"" only when nothing is left, and then (under the closing
laws) the file is closed -/
theorem read_any_spec (amt : Option Nat) (dco : Option Bool) (hdc : dco.getD cfg.decodeDefault = true)
    (r : R σ δ) (rest : Bytes) (h : InvB cfg rem I G r rest) :
    ∃ out r' rest', read S D cfg r amt dco = (.ok out, r') ∧ InvB cfg rem I G r' rest' ∧ out ++ rest' = rest ∧
      (amt ≠ some 0 → (rest ≠ [] → out ≠ []) ∧
        (ClosesN S cfg rem I → ClosesAll S cfg I → out = [] → S.isclosed r'.fp = true)) := by
  obtain ⟨hinv, hfuel⟩ := h
  cases amt with
  | none =>
    obtain ⟨r', h1, h2, h3, _, h5⟩ := read_all_spec S D cfg hA hD r rest dco false hdc hinv
    exact ⟨rest, r', [], h1, ⟨h2, by rw [h3, List.length_nil]; omega⟩, List.append_nil _,
      fun _ => ⟨id, fun _ hCA _ => h5 hCA⟩⟩
  | some a =>
    by_cases ha : a = 0
    · subst ha
      obtain ⟨r', h1, h2, h3⟩ := read_zero_spec S D cfg r rest dco hinv
      exact ⟨[], r', rest, h1, ⟨h2, by rw [h3]; exact hfuel⟩, rfl, fun h => absurd rfl h⟩
    · have ha : 0 < a := Nat.pos_of_ne_zero ha
      obtain ⟨r', h1, h2, h3, h4⟩ := read_n_spec S D cfg hR hD a ha r rest dco hdc hinv hfuel
      refine ⟨_, r', _, h1, ⟨h2, by omega⟩, List.take_append_drop a rest, fun _ =>
        ⟨fun hr h0 => hr (take_eq_nil_of_pos ha h0), fun hCN _ h0 => h4 hCN ?_⟩⟩
      rw [take_eq_nil_of_pos ha h0]
      exact ha

include hA hD in
/-- `.data` (and preload): everything that is left, cached; asking again returns the same bytes -/
theorem data_spec (r : R σ δ) (rest : Bytes) (hdc : cfg.decodeDefault = true) (hb : r.body = none)
    (hinv : Inv cfg rem I G r rest) :
    ∃ r', data S D cfg r = (.ok rest, r') ∧ (data S D cfg r').1 = .ok rest := by
  obtain ⟨r', h1, h2, _, h4, _⟩ := read_all_spec S D cfg hA hD r rest none true (by simpa using hdc) hinv
  refine ⟨r', by simp [data, hb, h1], ?_⟩
  obtain ⟨r'', g1, _⟩ := read_all_spec S D cfg hA hD r' [] none true (by simpa using hdc) h2
  rcases h4 rfl with hbody | ⟨hr, hbody⟩
  · by_cases hr : rest = []
    · subst hr
      simp [data, hbody, g1]
    · have : rest.isEmpty = false := by simpa [List.isEmpty_iff] using hr
      simp [data, hbody, this]
  · subst hr
    rw [hb] at hbody
    simp [data, hbody, g1]

end
end U3.Resp
