import U3.Model.Headers
/-! The grouped `_container` of `HTTPHeaderDict` against the flat list of header lines it stands for:
the primitive mutators have simulation lemmas `Rep h f → Rep (op h) (specOp f)` (`*_rep`), the others are
reduced to them by equations (`delItem_eq`, `pop_eq`; `U3.Props.C16` puts them together); the observers are
functions of `f` (`*_refines`).  `setItem` and `add` are instances of one recursion, `alter`, and so are their lemmas. -/
namespace U3.Headers
open U3

/-- what every reachable `_container` satisfies: keys pairwise distinct, each the lower-cased name of its entry
(the spelling of the first `add` / the last assignment), no entry with an empty value list -/
def Inv (h : HD) : Prop :=
  (h.map (·.key)).Nodup ∧ ∀ e ∈ h, e.key = lower e.name ∧ e.vals ≠ []

/-- the header lines an entry stands for: its values in order, each under the entry's spelling of the name -/
def lines (e : Entry) : Flat := e.vals.map (fun v => (e.name, v))

theorem iteritems_cons (e : Entry) (t : HD) : iteritems (e :: t) = lines e ++ iteritems t := by
  simp [iteritems, lines]

@[simp] theorem iteritems_nil : iteritems [] = [] := rfl

theorem inv_nil : Inv [] := ⟨by simp, by simp⟩

theorem inv_cons {e : Entry} {t : HD} :
    Inv (e :: t) ↔ e.key ∉ t.map (·.key) ∧ (e.key = lower e.name ∧ e.vals ≠ []) ∧ Inv t := by
  simp only [Inv, List.map_cons, List.nodup_cons, List.forall_mem_cons]
  exact ⟨fun ⟨⟨a, b⟩, c, d⟩ => ⟨a, c, b, d⟩, fun ⟨a, c, b, d⟩ => ⟨⟨a, b⟩, c, d⟩⟩

/-- the simulation relation of the `*_rep` lemmas; `f` is kept a variable so that they chain under `List.foldl_rel` -/
def Rep (h : HD) (f : Flat) : Prop := Inv h ∧ iteritems h = f

theorem fHas_append (a b : Flat) (k : Str) : fHas (a ++ b) k = (fHas a k || fHas b k) :=
  List.any_append

theorem fHas_lines (e : Entry) (k : Str) (hne : e.vals ≠ []) :
    fHas (lines e) k = (lower e.name == lower k) := by
  obtain ⟨a, t, hv⟩ := List.exists_cons_of_ne_nil hne
  cases h : lower e.name == lower k <;> simp [fHas, lines, hv, h, Function.comp_def]

theorem filter_lines (P : Str → Bool) (e : Entry) :
    (lines e).filter (fun q => P q.1) = if P e.name then lines e else [] := by
  have hq : ∀ q ∈ lines e, P q.1 = P e.name := fun q hq => by
    obtain ⟨v, _, rfl⟩ := List.mem_map.mp hq; rfl
  split
  · next h => exact List.filter_eq_self.mpr fun q m => hq q m ▸ h
  · next h => exact List.filter_eq_nil_iff.mpr fun q m => hq q m ▸ h

theorem filter_of_fHas_false (f : Flat) (k : Str) (h : fHas f k = false) :
    f.filter (fun q => !(lower q.1 == lower k)) = f :=
  List.filter_eq_self.mpr fun q hq => by simpa using List.any_eq_false.mp h q hq

theorem hasKey_refines (h : HD) (k : Str) (hinv : Inv h) : hasKey h k = fHas (iteritems h) k := by
  induction h with
  | nil => rfl
  | cons e t ih =>
    obtain ⟨_, he, ht⟩ := inv_cons.mp hinv
    rw [iteritems_cons, fHas_append, fHas_lines e k he.2, ← ih ht, ← he.1]
    rfl

theorem fHas_tail {e : Entry} {t : HD} {k : Str} (hinv : Inv (e :: t)) (hk : e.key = lower k) :
    fHas (iteritems t) k = false := by
  obtain ⟨hn, _, ht⟩ := inv_cons.mp hinv
  rw [← hasKey_refines t k ht, hasKey, List.any_eq_false]
  exact fun x hx heq => hn (hk ▸ (beq_iff_eq.mp heq) ▸ List.mem_map_of_mem hx)

/-- the entry under key `lk` becomes `g e`; when there is none, `d` is appended -/
def alter (g : Entry → Entry) (d : Entry) (lk : Str) : HD → HD
  | [] => [d]
  | e :: t => if e.key = lk then g e :: t else e :: alter g d lk t

theorem setItem_eq_alter (h : HD) (k v : Str) :
    setItem h k v = alter (fun _ => ⟨lower k, k, [v]⟩) ⟨lower k, k, [v]⟩ (lower k) h := by
  induction h with
  | nil => rfl
  | cons e t ih => simp only [setItem, alter, ih]

def addTo (v : Str) (c : Bool) (e : Entry) : Entry :=
  { e with vals := if c then modLast (fun x => x ++ commaSp ++ v) e.vals else e.vals ++ [v] }

theorem add_eq_alter (h : HD) (k v : Str) (c : Bool) :
    add h k v c = alter (addTo v c) ⟨lower k, k, [v]⟩ (lower k) h := by
  induction h with
  | nil => rfl
  | cons e t ih => cases c <;> simp only [add, alter, ih, addTo] <;> rfl

section
variable {g : Entry → Entry} {d : Entry} {lk : Str}

theorem alter_mem {h : HD} {e : Entry} (he : e ∈ alter g d lk h) :
    e ∈ h ∨ e = d ∨ ∃ e0 ∈ h, e0.key = lk ∧ e = g e0 := by
  induction h with
  | nil => exact .inr (.inl (List.mem_singleton.mp he))
  | cons a t ih =>
    simp only [alter] at he
    split at he
    · next hk =>
      rcases List.mem_cons.mp he with rfl | he
      · exact .inr (.inr ⟨a, List.mem_cons_self, hk, rfl⟩)
      · exact .inl (List.mem_cons_of_mem _ he)
    · rcases List.mem_cons.mp he with rfl | he
      · exact .inl List.mem_cons_self
      · rcases ih he with h1 | h1 | ⟨e0, h0, h1⟩
        · exact .inl (List.mem_cons_of_mem _ h1)
        · exact .inr (.inl h1)
        · exact .inr (.inr ⟨e0, List.mem_cons_of_mem _ h0, h1⟩)

theorem alter_names (hg : ∀ e, (g e).name = e.name ∨ (g e).name = d.name) (h : HD) :
    ∀ n ∈ iterKeys (alter g d lk h), n ∈ iterKeys h ∨ n = d.name := by
  intro n hn
  obtain ⟨e, he, rfl⟩ := List.mem_map.mp hn
  rcases alter_mem he with h1 | rfl | ⟨e0, h0, _, rfl⟩
  · exact .inl (List.mem_map_of_mem h1)
  · exact .inr rfl
  · exact (hg e0).imp (fun hn => by rw [hn]; exact List.mem_map_of_mem h0) id

theorem alter_inv (hd : d.key = lk ∧ d.key = lower d.name ∧ d.vals ≠ [])
    (hg : ∀ e, e.key = lk → e.key = lower e.name ∧ e.vals ≠ [] →
      (g e).key = lk ∧ (g e).key = lower (g e).name ∧ (g e).vals ≠ [])
    {h : HD} (hinv : Inv h) : Inv (alter g d lk h) := by
  induction h with
  | nil => exact inv_cons.mpr ⟨by simp, hd.2, inv_nil⟩
  | cons e t ih =>
    obtain ⟨hn, he, ht⟩ := inv_cons.mp hinv
    simp only [alter]
    split
    · next hk => exact inv_cons.mpr ⟨by rw [(hg e hk he).1, ← hk]; exact hn, (hg e hk he).2, ht⟩
    · next hk =>
      refine inv_cons.mpr ⟨fun hx => ?_, he, ih ht⟩
      -- a key of `alter g d lk t` is a key of `t` or is `lk`
      obtain ⟨x, hx, hxk⟩ := List.mem_map.mp hx
      rcases alter_mem hx with h1 | rfl | ⟨e0, h0, h1, rfl⟩
      · exact hn (hxk ▸ List.mem_map_of_mem h1)
      · exact hk (hxk ▸ hd.1)
      · exact hk (hxk ▸ (hg e0 h1 (ht.2 e0 h0)).1)

/-- `spec` passes over a line of another name (`hskip`) and rewrites a whole group of lines of the
name `k` behind which the name does not occur again (`hblock`). -/
theorem alter_refines {k : Str} {spec : Flat → Flat} (hnil : spec [] = lines d)
    (hskip : ∀ n x t, lower n ≠ lower k → spec ((n, x) :: t) = (n, x) :: spec t)
    (hblock : ∀ e rest, lower e.name = lower k → e.vals ≠ [] → fHas rest k = false →
      spec (lines e ++ rest) = lines (g e) ++ rest)
    {h : HD} (hinv : Inv h) : iteritems (alter g d (lower k) h) = spec (iteritems h) := by
  induction h with
  | nil => rw [iteritems_nil, hnil, alter, iteritems_cons, iteritems_nil, List.append_nil]
  | cons e t ih =>
    obtain ⟨_, he, ht⟩ := inv_cons.mp hinv
    simp only [alter]
    split
    · next hk => rw [iteritems_cons, iteritems_cons, hblock e _ (he.1 ▸ hk) he.2 (fHas_tail hinv hk)]
    · next hk =>
      have hskips : ∀ vs : List Str, spec (vs.map (fun x => (e.name, x)) ++ iteritems t) =
          vs.map (fun x => (e.name, x)) ++ spec (iteritems t) := by
        intro vs
        induction vs with
        | nil => rfl
        | cons a vs ih => simp only [List.map_cons, List.cons_append, hskip _ _ _ (he.1 ▸ hk), ih]
      rw [iteritems_cons, iteritems_cons, ih ht, lines, hskips]

end

theorem specSet_block (k v : Str) (e : Entry) (rest : Flat) (hn : lower e.name = lower k)
    (hne : e.vals ≠ []) (hrest : fHas rest k = false) :
    specSet (lines e ++ rest) k v = (k, v) :: rest := by
  obtain ⟨a, t, hv⟩ := List.exists_cons_of_ne_nil hne
  rw [lines, hv, List.map_cons, List.cons_append, specSet, if_pos hn, List.filter_append,
    filter_of_fHas_false rest k hrest, List.filter_eq_nil_iff.mpr, List.nil_append]
  simp [hn]

theorem setItem_rep {h : HD} {f : Flat} (k v : Str) (hr : Rep h f) :
    Rep (setItem h k v) (specSet f k v) := by
  obtain ⟨hi, rfl⟩ := hr
  rw [setItem_eq_alter]
  refine ⟨alter_inv (by simp) (by simp) hi, ?_⟩
  apply alter_refines (spec := fun f => specSet f k v) rfl _ _ hi
  · exact fun n x t hn => by simp only [specSet, hn, ↓reduceIte]
  · exact specSet_block k v

theorem modLast_ne_nil (f : Str → Str) (l : List Str) (h : l ≠ []) : modLast f l ≠ [] := by
  match l with
  | [x] => simp [modLast]
  | x :: y :: t => simp [modLast]

theorem addTo_vals_ne_nil (v : Str) (c : Bool) (e : Entry) (h : e.vals ≠ []) :
    (addTo v c e).vals ≠ [] := by
  cases c
  · simp [addTo]
  · exact modLast_ne_nil _ _ h

/-- `add(key, val, combine=c)` on the flat list, as `specStep` writes it -/
def specAddIf (c : Bool) (f : Flat) (k v : Str) : Flat := if c then specAddC f k v else specAdd f k v

theorem specAddIf_cons (c : Bool) (p : Str × Str) (t : Flat) (k v : Str)
    (h : lower p.1 = lower k → fHas t k = true) : specAddIf c (p :: t) k v = p :: specAddIf c t k v := by
  by_cases hp : lower p.1 = lower k
  · cases c <;> simp [specAddIf, specAdd, specAddC, hp, h hp]
  · cases c <;> simp [specAddIf, specAdd, specAddC, hp]

theorem specAddIf_block (c : Bool) (k v : Str) (e : Entry) (rest : Flat) (hn : lower e.name = lower k)
    (hne : e.vals ≠ []) (hrest : fHas rest k = false) :
    specAddIf c (lines e ++ rest) k v = lines (addTo v c e) ++ rest := by
  obtain ⟨lk, n, vs⟩ := e
  simp only [lines, addTo] at hn hne ⊢
  induction vs with
  | nil => exact absurd rfl hne
  | cons a t ih =>
    cases t with
    | nil => cases c <;> simp [specAddIf, specAdd, specAddC, modLast, hn, hrest]
    | cons b t' =>
      have hk : fHas ((b :: t').map (fun x => (n, x)) ++ rest) k = true := by simp [fHas, hn]
      rw [List.map_cons, List.cons_append, specAddIf_cons c _ _ k v (fun _ => hk),
        ih (List.cons_ne_nil b t')]
      cases c <;> rfl

theorem add_rep {h : HD} {f : Flat} (k v : Str) (c : Bool) (hr : Rep h f) :
    Rep (add h k v c) (specAddIf c f k v) := by
  obtain ⟨hi, rfl⟩ := hr
  rw [add_eq_alter]
  refine ⟨alter_inv (g := addTo v c) (by simp)
    (fun e hk he => ⟨hk, he.1, addTo_vals_ne_nil v c e he.2⟩) hi, ?_⟩
  apply alter_refines (spec := fun f => specAddIf c f k v) _ _ _ hi
  · cases c <;> rfl
  · exact fun n x t hn => specAddIf_cons c (n, x) t k v (fun h => absurd h hn)
  · exact specAddIf_block c k v

theorem iteritems_filter_name (h : HD) (q : Str → Bool) :
    iteritems (h.filter (fun e => q e.name)) = (iteritems h).filter (fun l => q l.1) := by
  induction h with
  | nil => rfl
  | cons e t ih =>
    rw [iteritems_cons, List.filter_append, filter_lines q, ← ih, List.filter_cons]
    split
    · exact iteritems_cons _ _
    · rfl

theorem iteritems_filter_key (P : Str → Bool) (h : HD) (hinv : Inv h) :
    iteritems (h.filter (fun e => P e.key)) = (iteritems h).filter (fun q => P (lower q.1)) := by
  rw [← iteritems_filter_name h fun n => P (lower n)]
  congr 1
  exact List.filter_congr fun e he => by rw [(hinv.2 e he).1]

theorem filter_inv (h : HD) (p : Entry → Bool) (hinv : Inv h) : Inv (h.filter p) :=
  ⟨(List.filter_sublist.map _).nodup hinv.1, fun e he => hinv.2 e (List.mem_filter.mp he).1⟩

theorem discard_eq (h : HD) (k : Str) : discard h k = h.filter (fun e => !(e.key == lower k)) := by
  unfold discard delItem
  split
  · rfl
  · next hk =>
    rw [hasKey, Bool.not_eq_true, List.any_eq_false] at hk
    exact (List.filter_eq_self.mpr fun e he => by simpa using hk e he).symm

theorem delItem_eq (h : HD) (k : Str) : delItem h k = if hasKey h k then some (discard h k) else none := by
  unfold discard delItem
  split <;> rfl

theorem discard_rep {h : HD} {f : Flat} (k : Str) (hr : Rep h f) : Rep (discard h k) (specDiscard f k) := by
  obtain ⟨hi, rfl⟩ := hr
  rw [discard_eq]
  exact ⟨filter_inv h _ hi, iteritems_filter_key (fun lk => !(lk == lower k)) h hi⟩

theorem extend_rep {h : HD} {f : Flat} (ps : List (Str × Str)) (hr : Rep h f) :
    Rep (extend h ps) (specExtend f ps) :=
  List.foldl_rel hr fun p _ _ _ hr => add_rep p.1 p.2 false hr

theorem update_rep {h : HD} {f : Flat} (ps : List (Str × Str)) (hr : Rep h f) :
    Rep (update h ps) (specUpdate f ps) :=
  List.foldl_rel hr fun p _ _ _ hr => setItem_rep p.1 p.2 hr

theorem pmc_rep {h : HD} {f : Flat} (hr : Rep h f) :
    Rep (prepareForMethodChange h) (contentSpecific.foldl specDiscard f) :=
  List.foldl_rel hr fun k _ _ _ hr => discard_rep k hr

theorem filter_key_eq_lookup (h : HD) (lk : Str) (hinv : Inv h) :
    h.filter (fun e => e.key == lk) = (lookup h lk).toList := by
  induction h with
  | nil => rfl
  | cons e t ih =>
    obtain ⟨hn, _, ht⟩ := inv_cons.mp hinv
    rw [List.filter_cons, lookup, List.find?_cons]
    cases hk : e.key == lk
    · exact ih ht
    · have : t.filter (fun e => e.key == lk) = [] :=
        List.filter_eq_nil_iff.mpr fun x hx hxk =>
          hn (beq_iff_eq.mp hk ▸ beq_iff_eq.mp hxk ▸ List.mem_map_of_mem hx)
      simp [this]

theorem getlist_refines (h : HD) (k : Str) (hinv : Inv h) :
    getlist h k = specGetlist (iteritems h) k := by
  rw [specGetlist, ← iteritems_filter_key (· == lower k) h hinv, filter_key_eq_lookup h _ hinv, getlist]
  cases lookup h (lower k) <;> simp [iteritems, Function.comp_def]

theorem getItem_eq (h : HD) (k : Str) :
    getItem h k = if hasKey h k then some (merged (getlist h k)) else none := by
  have : hasKey h k = (lookup h (lower k)).isSome := by
    rw [Bool.eq_iff_iff]
    simp [hasKey, lookup]
  unfold getItem getlist
  rw [this]
  cases lookup h (lower k) <;> rfl

theorem getItem_refines (h : HD) (k : Str) (hinv : Inv h) : getItem h k = specGet (iteritems h) k := by
  rw [getItem_eq, hasKey_refines h k hinv, getlist_refines h k hinv]
  rfl

theorem pop_eq (h : HD) (k : Str) :
    pop h k = if hasKey h k then some (discard h k, merged (getlist h k)) else none := by
  unfold pop
  rw [getItem_eq, delItem_eq]
  cases hasKey h k <;> rfl

theorem specPop_eq (f : Flat) (k : Str) :
    specPop f k = if fHas f k then some (specDiscard f k, merged (specGetlist f k)) else none := by
  unfold specPop specGet
  cases fHas f k <;> rfl

theorem specGetlist_cons (q : Str × Str) (g : Flat) (k : Str) :
    specGetlist (q :: g) k = if lower q.1 = lower k then q.2 :: specGetlist g k else specGetlist g k := by
  by_cases hq : lower q.1 = lower k <;> simp [specGetlist, hq]

theorem specGetlist_filter (f : Flat) (q : Str × Str → Bool) (n : Str)
    (h : ∀ l ∈ f, lower l.1 = lower n → q l = true) :
    specGetlist (f.filter q) n = specGetlist f n := by
  unfold specGetlist
  rw [List.filter_filter]
  congr 1
  apply List.filter_congr
  intro l hl
  by_cases hn : lower l.1 = lower n
  · simp [hn, h l hl hn]
  · simp [hn]

theorem specGetlist_of_fHas_false (f : Flat) (k : Str) (h : fHas f k = false) : specGetlist f k = [] := by
  rw [specGetlist, List.filter_eq_nil_iff.mpr (List.any_eq_false.mp h), List.map_nil]

theorem specGetlist_specAdd (f : Flat) (k v n : Str) :
    specGetlist (specAdd f k v) n
      = if lower k = lower n then specGetlist f n ++ [v] else specGetlist f n := by
  induction f with
  | nil => by_cases h : lower k = lower n <;> simp [specAdd, specGetlist, h]
  | cons p t ih =>
    by_cases h : lower p.1 = lower k → fHas t k = true
    · rw [show specAdd (p :: t) k v = p :: specAdd t k v from specAddIf_cons false p t k v h,
        specGetlist_cons, specGetlist_cons, ih]
      split <;> split <;> rfl
    · obtain ⟨hp, ht⟩ := Classical.not_imp.mp h
      have ht' : lower k = lower n → specGetlist t n = [] := fun hkn =>
        specGetlist_of_fHas_false t n (by simpa [fHas, ← hkn] using ht)
      by_cases hkn : lower k = lower n
      · simp [specAdd, hp, ht, specGetlist_cons, hkn, ht' hkn]
      · simp [specAdd, hp, ht, specGetlist_cons, hkn]

theorem lookup_none_of_not_mem (h : HD) (lk : Str) (hk : lk ∉ h.map (·.key)) : lookup h lk = none := by
  unfold lookup
  simp only [List.find?_eq_none, beq_iff_eq]
  intro e he heq
  exact hk (by rw [← heq]; exact List.mem_map_of_mem he)

theorem lookup_of_mem (h : HD) (hinv : Inv h) (e : Entry) (he : e ∈ h) : lookup h e.key = some e := by
  have : e ∈ (lookup h e.key).toList :=
    filter_key_eq_lookup h e.key hinv ▸ List.mem_filter.mpr ⟨he, beq_self_eq_true _⟩
  simpa [eq_comm] using this

theorem getlist_of_mem (h : HD) (hinv : Inv h) (e : Entry) (he : e ∈ h) : getlist h e.name = e.vals := by
  unfold getlist
  rw [← (hinv.2 e he).1, lookup_of_mem h hinv e he]

theorem foldl_eq_append {α} {F : List α → α → List α} {l : List α}
    (hF : ∀ pre e suf, l = pre ++ e :: suf → F pre e = pre ++ [e]) (pre suf : List α)
    (hl : l = pre ++ suf) : suf.foldl F pre = l := by
  induction suf generalizing pre with
  | nil =>
    rw [hl]
    exact (List.append_nil pre).symm
  | cons e t ih =>
    rw [List.foldl_cons, hF pre e t hl]
    exact ih _ (by rw [hl, List.append_assoc]; rfl)

theorem copy_eq (h : HD) (hinv : Inv h) : copy h = h := by
  refine foldl_eq_append (fun pre e suf hl => ?_) [] h rfl
  -- `_copy_from` meets `e` with the entries before it copied: its key is new, `getlist` finds its values
  have he : e ∈ h := by simp [hl]
  have hnot : (pre.any fun x => x.key == e.key) = false := by
    have hnd := hinv.1
    rw [hl, List.map_append, List.nodup_append] at hnd
    simp only [List.any_eq_false, beq_iff_eq]
    exact fun x hx heq => hnd.2.2 x.key (List.mem_map_of_mem hx) e.key (by simp) heq
  simp only [← (hinv.2 e he).1, hnot, getlist_of_mem h hinv e he, Bool.false_eq_true, if_false]

theorem copy_rep {h : HD} {f : Flat} (hr : Rep h f) : Rep (copy h) f := by
  rwa [copy_eq h hr.1]

theorem specNamesAux_skip (seen : List Str) (n : Str) (vs : List Str) (rest : Flat)
    (hs : lower n ∈ seen) :
    specNamesAux seen (vs.map (fun x => (n, x)) ++ rest) = specNamesAux seen rest := by
  induction vs with
  | nil => rfl
  | cons a t ih => simpa [specNamesAux, hs] using ih

theorem specNamesAux_refines (h : HD) (hinv : Inv h) (seen : List Str)
    (hdis : ∀ k ∈ h.map (·.key), k ∉ seen) : specNamesAux seen (iteritems h) = iterKeys h := by
  induction h generalizing seen with
  | nil => rfl
  | cons e t ih =>
    obtain ⟨hn, he, ht⟩ := inv_cons.mp hinv
    obtain ⟨a, vs, hv⟩ := List.exists_cons_of_ne_nil he.2
    have hns : lower e.name ∉ seen := he.1 ▸ hdis e.key (by simp)
    -- the first line of the group announces the name, the others are passed over
    rw [iteritems_cons, lines, hv, List.map_cons, List.cons_append, specNamesAux, if_neg (by simpa using hns),
      specNamesAux_skip _ e.name vs _ (by simp), iterKeys, List.map_cons, ih ht]
    · rfl
    · intro k hk
      rw [List.mem_cons, not_or]
      exact ⟨fun heq => hn (by rw [he.1, ← heq]; exact hk), hdis k (List.mem_cons_of_mem _ hk)⟩

theorem iterKeys_refines (h : HD) (hinv : Inv h) : iterKeys h = specNames (iteritems h) :=
  (specNamesAux_refines h hinv [] (by simp)).symm

theorem itermerged_refines (h : HD) (hinv : Inv h) : itermerged h = specMerged (iteritems h) := by
  unfold specMerged
  rw [← iterKeys_refines h hinv, itermerged, iterKeys, List.map_map]
  apply List.map_congr_left
  intro e he
  simp only [Function.comp, ← getlist_refines h e.name hinv, getlist_of_mem h hinv e he]

theorem iteritems_head (e : Entry) (t : HD) (hinv : Inv (e :: t)) :
    ∃ v rest, iteritems (e :: t) = (e.name, v) :: rest := by
  obtain ⟨a, vs, hv⟩ := List.exists_cons_of_ne_nil (inv_cons.mp hinv).2.1.2
  exact ⟨a, _, by rw [iteritems_cons, lines, hv]; rfl⟩

theorem iteritems_eq_nil (h : HD) (hinv : Inv h) : iteritems h = [] ↔ h = [] := by
  cases h with
  | nil => simp
  | cons e t =>
    obtain ⟨v, rest, hh⟩ := iteritems_head e t hinv
    simp [hh]

theorem modLast_map (n : Str) (f : Str → Str) (vs : List Str) :
    (modLast f vs).map (fun x => (n, x)) =
      match vs.map (fun x => (n, x)) with
      | [] => []
      | l => l.dropLast ++ [(n, f (vs.getLast?.getD []))] := by
  induction vs with
  | nil => simp [modLast]
  | cons a t ih =>
    cases t with
    | nil => simp [modLast]
    | cons b t' =>
      simp only [modLast, List.map_cons] at ih ⊢
      rw [ih]
      simp [List.dropLast]

end U3.Headers
