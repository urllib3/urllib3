import U3.Model.Timeout
/-! The vocabulary of C19's statements (`TV.le`, `connectSpec`, `readSpec`, `wire`, `elapsed`), what the
constructor and the clock functions of `Timeout` return, and `_make_request` / `urlopen` in closed form
(`served`: `makeRequest_form`, `urlopen_form`). -/
namespace U3.Timeout

/-- the bound a configured slot puts on a wait: `none` = no bound of its own (unset / None) -/
def TV.fin : TV → Option Int
  | .val q => Option.some q
  | _ => Option.none

/-- minimum where `none` is +∞ -/
def optMin : Option Int → Option Int → Option Int
  | some a, some b => some (min a b)
  | some a, none => some a
  | none, some b => some b
  | none, none => none

/-- `v.le b`: the applied value `v` respects the configured slot `b` (`None`/unset configure no bound;
a number `B` demands a number `≤ B`).  Not an order on `TV`: the two sides play different roles. -/
def TV.le (v b : TV) : Prop :=
  match b with
  | .val B => ∃ q, v = .val q ∧ q ≤ B
  | _ => True

/-- a value the socket layer accepts: a number is `≥ 0` (`settimeout` raises on a negative one) -/
def TV.nonneg : TV → Prop
  | .val q => 0 ≤ q
  | _ => True

/-- what `_validate_timeout` lets through -/
def Arg.Valid : Arg → Prop
  | .unset => True
  | .none => True
  | .num q => 0 < q
  | .bool _ => False
  | .nonNumber => False

/-- a validated slot: a number is `> 0` (the range of `validateTimeout`, see `validate_ok`) -/
def TV.WF : TV → Prop
  | .val q => 0 < q
  | _ => True

/-- every numeric attribute is positive (what the constructor guarantees) -/
def Timeout.WF (t : Timeout) : Prop := t.connect.WF ∧ t.read.WF ∧ t.total.WF

def TArg.WF : TArg → Prop
  | .tobj t => t.WF
  | _ => True

/-- the events that reach the operating system: the timeout of the connect phase and every
`settimeout` -/
def isWire : Ev → Bool
  | .connect _ => true
  | .sockSet _ => true
  | _ => false

def wire (evs : List Ev) : List Ev := evs.filter isWire

def Ev.value : Ev → TV
  | .newConn v => v
  | .setConn v => v
  | .connect v => v
  | .sockSet v => v

/-- time between `start_connect()` and the evaluation of `read_timeout` inside one request -/
def elapsed (conn : ConnSt) (cdur sdur : Int) : Int :=
  if conn = .alive then sdur else cdur + sdur

/-- the property's value for the connect phase: min(connect, total), an unset slot falling back to
the system default only when nothing bounds the wait -/
def connectSpec (gdt : TV) (t : Timeout) : TV :=
  match optMin t.connect.fin t.total.fin with
  | some m => .val m
  | none => resolveDefault gdt t.connect

/-- the property's value for the response wait after `el` seconds: min(read, max(0, total − el)) -/
def readSpec (gdt : TV) (t : Timeout) (el : Int) : TV :=
  match optMin t.read.fin (t.total.fin.map fun T => max 0 (T - el)) with
  | some m => .val m
  | none => resolveDefault gdt t.read

theorem validate_ok_iff (a : Arg) : (∃ v, validateTimeout a = .ok v) ↔ a.Valid := by
  cases a <;> simp [validateTimeout, Arg.Valid]
  rename_i q
  by_cases h : q ≤ 0 <;> simp [h] <;> omega

theorem validate_ok (a : Arg) (h : a.Valid) :
    ∃ v, validateTimeout a = .ok v ∧ v.toArg = a ∧ v.WF := by
  cases a <;> simp_all [validateTimeout, Arg.Valid, TV.toArg, TV.WF]
  rename_i q
  have : ¬ q ≤ 0 := by omega
  simp [this, h]

theorem validate_err (a : Arg) (h : ¬ a.Valid) : validateTimeout a = .error .valueError := by
  cases a <;> simp_all [validateTimeout, Arg.Valid]

theorem validate_toArg (v : TV) (h : v.WF) : validateTimeout v.toArg = .ok v := by
  cases v <;> simp_all [validateTimeout, TV.toArg, TV.WF]

theorem mk_ok (total connect read : Arg) (ht : total.Valid) (hc : connect.Valid) (hr : read.Valid) :
    ∃ t, mk total connect read = .ok t ∧ t.start = none ∧ t.total.toArg = total ∧
      t.connect.toArg = connect ∧ t.read.toArg = read ∧ t.WF := by
  obtain ⟨vt, h1, h2, h3⟩ := validate_ok total ht
  obtain ⟨vc, h4, h5, h6⟩ := validate_ok connect hc
  obtain ⟨vr, h7, h8, h9⟩ := validate_ok read hr
  exact ⟨⟨vc, vr, vt, none⟩, by simp [mk, h1, h4, h7], rfl, h2, h5, h8, h6, h9, h3⟩

theorem mk_err (total connect read : Arg) (h : ¬ (total.Valid ∧ connect.Valid ∧ read.Valid)) :
    mk total connect read = .error .valueError := by
  unfold mk
  by_cases hc : connect.Valid
  · obtain ⟨vc, h4, _⟩ := validate_ok connect hc
    by_cases hr : read.Valid
    · obtain ⟨vr, h7, _⟩ := validate_ok read hr
      have ht : ¬ total.Valid := fun ht => h ⟨ht, hc, hr⟩
      simp [h4, h7, validate_err total ht]
    · simp [h4, validate_err read hr]
  · simp [validate_err connect hc]

theorem mk_wf {total connect read : Arg} {t : Timeout} (h : mk total connect read = .ok t) :
    t.start = none ∧ t.WF := by
  by_cases hv : total.Valid ∧ connect.Valid ∧ read.Valid
  · obtain ⟨t', h1, h2, _, _, _, h3⟩ := mk_ok total connect read hv.1 hv.2.1 hv.2.2
    rw [h1] at h
    cases h
    exact ⟨h2, h3⟩
  · rw [mk_err _ _ _ hv] at h
    cases h

theorem clone_ok (t : Timeout) (h : t.WF) : clone t = .ok { t with start := none } := by
  obtain ⟨hc, hr, ht⟩ := h
  simp [clone, mk, validate_toArg _ hc, validate_toArg _ hr, validate_toArg _ ht]

theorem getTimeout_unstarted {P : Timeout} {arg : TArg} {t : Timeout} (h : getTimeout P arg = .ok t) :
    t.start = none ∧ t.WF := by
  cases arg with
  | num a => exact mk_wf (total := .none) (connect := a) h
  | _ => exact mk_wf h

theorem getTimeout_idem {P : Timeout} {arg : TArg} {t : Timeout} (h : getTimeout P arg = .ok t) (P' : Timeout) :
    getTimeout P' (.tobj t) = .ok t := by
  obtain ⟨hs, hw⟩ := getTimeout_unstarted h
  simp only [getTimeout, clone_ok t hw]
  cases t
  simp_all

theorem connectTimeout_start (t : Timeout) (s : Option Int) :
    connectTimeout { t with start := s } = connectTimeout t := rfl

/-- `connect_timeout` never raises.  Unresolved, its value is the property's value with the sentinel as
system default: resolving the sentinel to itself changes nothing. -/
theorem connectTimeout_ok (t : Timeout) : connectTimeout t = .ok (connectSpec .unset t) := by
  obtain ⟨c, r, T, s⟩ := t
  cases T <;> cases c <;> rfl

theorem resolve_connectSpec (gdt : TV) (t : Timeout) :
    resolveDefault gdt (connectSpec .unset t) = connectSpec gdt t := by
  obtain ⟨c, r, T, s⟩ := t
  cases T <;> cases c <;> rfl

theorem connectTimeout_spec (gdt : TV) (t : Timeout) :
    ∃ v, connectTimeout t = .ok v ∧ resolveDefault gdt v = connectSpec gdt t :=
  ⟨_, connectTimeout_ok t, resolve_connectSpec gdt t⟩

theorem readTimeout_spec (gdt : TV) (t : Timeout) (hw : t.WF) (s now : Int) (hs : t.start = some s) :
    readTimeout gdt t now = .ok (readSpec gdt t (now - s)) := by
  obtain ⟨c, r, T, st⟩ := t
  obtain ⟨_, hr, hT⟩ := hw
  cases T <;> cases r <;>
    simp_all [readTimeout, readSpec, optMin, TV.fin, resolveDefault, getConnectDuration, TV.WF]
  omega

theorem connectSpec_facts (gdt : TV) (t : Timeout) (hw : t.WF) :
    (connectSpec gdt t).le t.connect ∧ (connectSpec gdt t).le t.total ∧
    (gdt.nonneg → (connectSpec gdt t).nonneg) ∧ (gdt ≠ .unset → connectSpec gdt t ≠ .unset) := by
  obtain ⟨c, r, T, st⟩ := t
  obtain ⟨hc, _, hT⟩ := hw
  cases T <;> cases c <;>
    simp_all [connectSpec, optMin, TV.fin, resolveDefault, TV.WF, TV.nonneg, TV.le] <;> omega

theorem readSpec_facts (gdt : TV) (t : Timeout) (hw : t.WF) (el : Int) :
    (0 ≤ el → (readSpec gdt t el).le t.read ∧ (readSpec gdt t el).le t.total) ∧
    (gdt.nonneg → (readSpec gdt t el).nonneg) ∧ (gdt ≠ .unset → readSpec gdt t el ≠ .unset) ∧
    (gdt ≠ .val 0 → (readSpec gdt t el = .val 0 ↔ ∃ T, t.total = .val T ∧ T ≤ el)) := by
  obtain ⟨c, r, T, st⟩ := t
  obtain ⟨_, hr, hT⟩ := hw
  cases T <;> cases r <;>
    simp_all [readSpec, optMin, TV.fin, resolveDefault, TV.WF, TV.nonneg, TV.le] <;> omega

theorem elapsed_nonneg (conn : ConnSt) (cdur sdur : Int) (hc : 0 ≤ cdur) (hs : 0 ≤ sdur) :
    0 ≤ elapsed conn cdur sdur := by
  unfold elapsed
  split <;> omega

/-- the first socket-level event of a request: a re-used socket gets `settimeout`, a new one is
connected -/
def firstEv (conn : ConnSt) (cv : TV) : Ev := if conn = .alive then .sockSet cv else .connect cv

theorem isWire_firstEv (conn : ConnSt) (cv : TV) : isWire (firstEv conn cv) = true := by
  unfold firstEv
  split <;> rfl

theorem firstEv_value (conn : ConnSt) (cv : TV) : (firstEv conn cv).value = cv := by
  unfold firstEv
  split <;> rfl

/-- `_make_request` / `urlopen` in closed form, written field by field so that every projection of it
reduces (`rfl`, `simp only [served]`).  `pre`: the events before the connect-phase value is assigned;
`failed`: the state of the connection after `ReadTimeoutError` -/
def served (gdt : TV) (t : Timeout) (conn : ConnSt) (now cdur sdur : Int) (cl : Bool) (pre : List Ev)
    (failed : ConnSt) : Res :=
  let rv := readSpec gdt t (elapsed conn cdur sdur)
  { evs := pre ++ .setConn (connectSpec gdt t) :: firstEv conn (connectSpec gdt t) ::
      (if rv = .val 0 then [] else [.setConn rv, .sockSet rv])
    out := if rv = .val 0 then .exc .readTimeoutError else .ok
    conn := if rv = .val 0 then failed else if cl then .closed else .alive
    now := now + elapsed conn cdur sdur }

theorem makeRequest_form (gdt : TV) (P : Timeout) (arg : TArg) (conn : ConnSt) (now cdur sdur : Int)
    (cl : Bool) (t : Timeout) (hg : getTimeout P arg = .ok t) :
    makeRequest gdt P arg conn now cdur sdur cl = served gdt t conn now cdur sdur cl [] .alive := by
  obtain ⟨hs, hw⟩ := getTimeout_unstarted hg
  have hrt := readTimeout_spec gdt { t with start := some now } hw now (now + elapsed conn cdur sdur) rfl
  rw [show now + elapsed conn cdur sdur - now = elapsed conn cdur sdur by omega,
    show readSpec gdt { t with start := some now } = readSpec gdt t from rfl] at hrt
  have hnow2 : (if conn = .alive then now + sdur else now + cdur + sdur) = now + elapsed conn cdur sdur := by
    unfold elapsed
    split <;> omega
  simp only [makeRequest, served, hg, startConnect, hs, connectTimeout_start, connectTimeout_ok t, hnow2, hrt,
    resolve_connectSpec, firstEv]
  split <;> split <;> simp

/-- the events `_get_conn` produces when the slot is empty: the new connection object is made with the
pool's own `connect_timeout` -/
def newConnEvs (gdt : TV) (conn : ConnSt) (P : Timeout) : List Ev :=
  if conn = .noConn then [.newConn (connectSpec .unset P), .setConn (connectSpec gdt P)] else []

/-- before `_make_request`, `urlopen` assigns the unresolved connect timeout of the request's Timeout -/
theorem urlopen_form (gdt : TV) (P : Timeout) (arg : TArg) (conn : ConnSt) (now cdur sdur : Int)
    (cl : Bool) {t : Timeout} (hg : getTimeout P arg = .ok t) :
    urlopen gdt P arg conn now cdur sdur cl =
      served gdt t conn now cdur sdur cl (newConnEvs gdt conn P ++ [.setConn (connectSpec .unset t)]) .noConn := by
  have hmr := fun c => makeRequest_form gdt P (.tobj t) c now cdur sdur cl t (getTimeout_idem hg P)
  by_cases h0 : readSpec gdt t (elapsed conn cdur sdur) = .val 0 <;> cases conn <;> simp [elapsed] at h0 <;>
    simp [urlopen, hg, connectTimeout_ok, resolve_connectSpec, hmr, served, newConnEvs, elapsed, firstEv, h0]

theorem wire_served (gdt : TV) (t : Timeout) (conn : ConnSt) (now cdur sdur : Int) (cl : Bool) (pre : List Ev)
    (failed : ConnSt) :
    wire (served gdt t conn now cdur sdur cl pre failed).evs =
      wire pre ++ firstEv conn (connectSpec gdt t) ::
        (if readSpec gdt t (elapsed conn cdur sdur) = .val 0 then []
         else [.sockSet (readSpec gdt t (elapsed conn cdur sdur))]) := by
  simp only [served, wire, List.filter_append]
  rw [List.filter_cons_of_neg Bool.false_ne_true, List.filter_cons_of_pos (isWire_firstEv _ _)]
  split <;> rfl

theorem wire_newConnEvs (gdt : TV) (conn : ConnSt) (P : Timeout) (a : TV) :
    wire (newConnEvs gdt conn P ++ [.setConn a]) = [] := by
  unfold newConnEvs wire
  split <;> simp [isWire]

theorem urlopen_wire (gdt : TV) (P : Timeout) (arg : TArg) (conn : ConnSt) (now cdur sdur : Int) (cl : Bool)
    {t : Timeout} (hg : getTimeout P arg = .ok t) :
    wire (urlopen gdt P arg conn now cdur sdur cl).evs =
      firstEv conn (connectSpec gdt t) ::
        (if readSpec gdt t (elapsed conn cdur sdur) = .val 0 then []
         else [.sockSet (readSpec gdt t (elapsed conn cdur sdur))]) ∧
    (urlopen gdt P arg conn now cdur sdur cl).out =
      (if readSpec gdt t (elapsed conn cdur sdur) = .val 0 then .exc .readTimeoutError else .ok) ∧
    (readSpec gdt t (elapsed conn cdur sdur) = .val 0 → (urlopen gdt P arg conn now cdur sdur cl).conn = .noConn) := by
  rw [urlopen_form gdt P arg conn now cdur sdur cl hg, wire_served, wire_newConnEvs]
  exact ⟨rfl, rfl, fun h => if_pos h⟩

theorem urlopen_shift (gdt : TV) (P : Timeout) (arg : TArg) (conn : ConnSt)
    (now now' cd sd : Int) (cl : Bool) :
    (urlopen gdt P arg conn now cd sd cl).evs = (urlopen gdt P arg conn now' cd sd cl).evs ∧
    (urlopen gdt P arg conn now cd sd cl).out = (urlopen gdt P arg conn now' cd sd cl).out ∧
    (urlopen gdt P arg conn now cd sd cl).conn = (urlopen gdt P arg conn now' cd sd cl).conn ∧
    (urlopen gdt P arg conn now cd sd cl).now - now = (urlopen gdt P arg conn now' cd sd cl).now - now' := by
  cases hg : getTimeout P arg with
  | error e => simp [urlopen, hg]
  | ok t =>
    rw [urlopen_form gdt P arg conn now cd sd cl hg, urlopen_form gdt P arg conn now' cd sd cl hg]
    exact ⟨rfl, rfl, rfl, by simp only [served]; omega⟩

/-- the pool's own Timeout is only ever replaced by a freshly constructed one -/
theorem step_timeout_start (p : Pool) (o : Op) (h : p.timeout.start = none) :
    (step p o).1.timeout.start = none := by
  cases o with
  | pool total connect read =>
    simp only [step]
    split
    · exact h
    · exact (mk_wf ‹_›).1
  | poolNum a =>
    simp only [step, fromFloat]
    split
    · exact h
    · exact (mk_wf ‹_›).1
  | _ =>
    simp only [step]
    repeat' split
    all_goals exact h

end U3.Timeout
