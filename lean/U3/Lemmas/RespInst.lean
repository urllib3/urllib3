import U3.Lemmas.RespRead1
import U3.Lemmas.RespIO
/-! From the body source to `_raw_read`: a contract `SrcSpec` on what `read(a)` / `read()` / `read1(n)`
of the source do on a well-framed body yields all the hypotheses of the read-family lemmas (`RawReadSpec`,
`RawReadAllSpec`, `RawRead1Spec` and the closing laws `stream` needs).  `http.client`'s body reader
on a well-framed Content-Length or close-delimited body meets the contract for every network
segmentation. -/
namespace U3.Resp
open U3

theorem map_sub_zero (lr : Option Int) : lr.map (· - ((0 : Nat) : Int)) = lr := by
  cases lr <;> simp

section
variable {σ δ : Type} (S : Src σ) (cfg : Cfg δ)

/-- what `_raw_read` needs of the body source on a well-framed body (`I` = framing invariant over
the file and `length_remaining`, `rem` = the raw body bytes still to come): each way of reading
delivers a prefix of `rem` and moves the invariant along; at the end of the body closing the file
keeps it; a closed file has nothing left -/
structure SrcSpec (rem : σ → Bytes) (I : σ → Option Int → Prop) : Prop where
  closed : ∀ h lr, I h lr → S.closed h = true → S.isclosed h = true
  closedNil : ∀ h lr, I h lr → S.isclosed h = true → rem h = []
  read : ∀ h lr a, 0 < a → I h lr → S.closed h = false →
    ∃ h', S.read h (some a) = (.ok ((rem h).take a), h') ∧ rem h' = (rem h).drop a ∧
      I h' (lr.map (· - (((rem h).take a).length : Int)))
  readAll : ∀ h lr, I h lr → S.closed h = false →
    ∃ h', S.read h none = (.ok (rem h), h') ∧ rem h' = [] ∧ S.isclosed h' = true ∧
      I h' (lr.map (· - ((rem h).length : Int)))
  read1 : ∀ h lr amt, amt ≠ some 0 → I h lr → S.closed h = false →
    ∃ k h', S.read1 h amt = (.ok ((rem h).take k), h') ∧ rem h' = (rem h).drop k ∧
      (rem h ≠ [] → 0 < k) ∧ (∀ a, amt = some a → k ≤ a) ∧ I h' (lr.map (· - (((rem h).take k).length : Int)))
  atEnd : ∀ h lr, I h lr → rem h = [] →
    (lr = none ∨ lr = some 0) ∧ I (S.close h) lr ∧ rem (S.close h) = [] ∧ S.isclosed (S.close h) = true
  exact : ∀ h lr (n : Nat), I h lr → lr = some (n : Int) → n = (rem h).length

variable {S cfg} {rem : σ → Bytes} {I : σ → Option Int → Prop}

/-- every `_raw_read(amt, read1)` but `_raw_read()`, which is `rawReadAll_of_src` -/
theorem rawRead_of_src (h : SrcSpec S rem I) (r : R σ δ) (amt : Option Nat) (rd1 : Bool) (hamt : amt ≠ some 0)
    (hrd : rd1 = false → amt ≠ none) (hI : I r.fp r.lengthRemaining) :
    ∃ k r', rawRead S cfg r amt rd1 = (.ok ((rem r.fp).take k), r') ∧
      rem r'.fp = (rem r.fp).drop k ∧ (rem r.fp ≠ [] → 0 < k) ∧ (∀ a, amt = some a → k ≤ a) ∧
      I r'.fp r'.lengthRemaining ∧ r'.buf = r.buf ∧ r'.decoder = r.decoder ∧ r'.hasDecoded = r.hasDecoded ∧
      (rd1 = false → k = amt.getD 0) ∧ (rem r.fp = [] → S.isclosed r'.fp = true) := by
  obtain ⟨k, data, fp', hsrc, hdata, hrem', hk, hka, hI', hkd⟩ : ∃ k data fp', srcRead S r amt rd1 = (.ok data, fp') ∧
      data = (rem r.fp).take k ∧ rem fp' = (rem r.fp).drop k ∧ (rem r.fp ≠ [] → 0 < k) ∧
      (∀ a, amt = some a → k ≤ a) ∧ I fp' (r.lengthRemaining.map (· - (data.length : Int))) ∧
      (rd1 = false → k = amt.getD 0) := by
    unfold srcRead
    cases hcl : S.closed r.fp with
    | true =>
      have h0 := h.closedNil _ _ hI (h.closed _ _ hI hcl)
      exact ⟨amt.getD 0, [], r.fp, rfl, by rw [h0, List.take_nil], by rw [h0, List.drop_nil], fun hne => absurd h0 hne,
        fun a ha => by rw [ha]; exact Nat.le_refl _, by rw [List.length_nil, map_sub_zero]; exact hI, fun _ => rfl⟩
    | false =>
      cases rd1 with
      | true =>
        obtain ⟨k, h', e1, e2, e3, e4, e5⟩ := h.read1 _ _ amt hamt hI hcl
        exact ⟨k, _, h', e1, rfl, e2, e3, e4, e5, nofun⟩
      | false =>
        obtain ⟨a, rfl⟩ := Option.ne_none_iff_exists'.mp (hrd rfl)
        have ha : 0 < a := pos_of_some_ne_zero hamt
        obtain ⟨h', e1, e2, e3⟩ := h.read _ _ a ha hI hcl
        exact ⟨a, _, h', e1, rfl, e2, fun _ => ha, fun b hb => by cases hb; exact Nat.le_refl _, e3, fun _ => rfl⟩
  refine ⟨k, ?_⟩
  rw [rawRead_form, hsrc, ← hdata]
  -- closing the file is harmless: it happens only when nothing is left
  have hclose : rem fp' = [] → rem (S.close fp') = (rem r.fp).drop k ∧
      I (S.close fp') (r.lengthRemaining.map (· - (data.length : Int))) ∧ S.isclosed (S.close fp') = true := by
    intro h0
    obtain ⟨_, hIc, hremc, hclc⟩ := h.atEnd fp' _ hI' h0
    exact ⟨by rw [hremc, ← hrem', h0], hIc, hclc⟩
  by_cases hd : data = []
  · -- end of the body: nothing is owed
    subst hd
    have h0 := take_eq_nil_of_ne hk hdata.symm
    obtain ⟨e1, e2, e3⟩ := hclose (by rw [hrem', h0, List.drop_nil])
    obtain ⟨hlr, _⟩ := h.atEnd r.fp _ hI h0
    have hno : owed cfg r.lengthRemaining [] = false := by
      rcases hlr with hlr | hlr <;> simp [owed, hlr]
    have heof : atEof amt rd1 r.lengthRemaining [] = true := by
      cases rd1 <;> simp [atEof, hamt, hrd]
    simp only [heof, hno, Bool.and_false, Bool.false_eq_true, if_false, if_true, relIf_eq]
    exact ⟨_, rfl, e1, hk, hka, e2, rfl, rfl, rfl, hkd, fun _ => e3⟩
  · have hno : owed cfg r.lengthRemaining data = false := by simp [owed, hd]
    have hne : rem r.fp ≠ [] := fun h0 => hd (by rw [hdata, h0, List.take_nil])
    simp only [hno, Bool.and_false, Bool.false_eq_true, if_false, relIf_eq]
    by_cases heof : atEof amt rd1 r.lengthRemaining data = true
    · -- `read1` and `length_remaining == len(data)`: the body ends with this piece
      have hlr : rd1 = true ∧ r.lengthRemaining = some (data.length : Int) := by simpa [atEof, hd, hamt] using heof
      have hlen := h.exact r.fp _ _ hI hlr.2
      obtain ⟨e1, e2, _⟩ := hclose (by
        rw [hrem']
        apply List.drop_eq_nil_of_le
        rw [hdata, List.length_take] at hlen
        omega)
      simp only [heof, if_true]
      exact ⟨_, rfl, e1, hk, hka, e2, rfl, rfl, rfl, hkd, fun h0 => absurd h0 hne⟩
    · simp only [heof, Bool.false_eq_true, if_false]
      exact ⟨_, rfl, hrem', hk, hka, hI', rfl, rfl, rfl, hkd, fun h0 => absurd h0 hne⟩

theorem rawReadAll_of_src (h : SrcSpec S rem I) (r : R σ δ) (hI : I r.fp r.lengthRemaining) :
    ∃ r', rawRead S cfg r none false = (.ok (rem r.fp), r') ∧
      rem r'.fp = [] ∧ I r'.fp r'.lengthRemaining ∧
      r'.buf = r.buf ∧ r'.decoder = r.decoder ∧ r'.hasDecoded = r.hasDecoded ∧ r'.body = r.body ∧
      S.isclosed r'.fp = true := by
  obtain ⟨fp', hsrc, hrem', hcl', hI'⟩ : ∃ fp', srcRead S r none false = (.ok (rem r.fp), fp') ∧
      rem fp' = [] ∧ S.isclosed fp' = true ∧ I fp' (r.lengthRemaining.map (· - ((rem r.fp).length : Int))) := by
    unfold srcRead
    cases hcl : S.closed r.fp with
    | true =>
      have hic := h.closed _ _ hI hcl
      have h0 := h.closedNil _ _ hI hic
      exact ⟨r.fp, by rw [h0]; rfl, h0, hic, by rw [h0, List.length_nil, map_sub_zero]; exact hI⟩
    | false => exact h.readAll _ _ hI hcl
  rw [rawRead_form, hsrc]
  have heof : atEof none false r.lengthRemaining (rem r.fp) = false := by simp [atEof]
  simp only [heof, Bool.false_and, Bool.false_eq_true, if_false, relIf_eq]
  exact ⟨_, rfl, hrem', hI', rfl, rfl, rfl, rfl, hcl'⟩

theorem rawReadSpec_of_src (h : SrcSpec S rem I) : RawReadSpec S cfg rem I := by
  refine ⟨fun r a ha hI => ?_⟩
  obtain ⟨k, r', e1, e2, _, _, e5, e6, e7, e8, e9, _⟩ := rawRead_of_src h r (some a) false (by simp; omega) nofun hI
  cases e9 rfl
  exact ⟨r', e1, e2, e5, e6, e7, e8⟩

theorem closesN_of_src (h : SrcSpec S rem I) : ClosesN S cfg rem I := by
  intro r a ha hI hrem
  obtain ⟨k, r', e1, _, _, _, _, _, _, _, _, e10⟩ :=
    rawRead_of_src (cfg := cfg) h r (some a) false (by simp; omega) nofun hI
  rw [e1]
  exact e10 hrem

theorem rawReadAllSpec_of_src (h : SrcSpec S rem I) : RawReadAllSpec S cfg rem I :=
  ⟨fun r hI => let ⟨r', e1, e2, e3, e4, e5, e6, e7, _⟩ := rawReadAll_of_src h r hI; ⟨r', e1, e2, e3, e4, e5, e6, e7⟩⟩

theorem closesAll_of_src (h : SrcSpec S rem I) : ClosesAll S cfg I := by
  intro r hI
  obtain ⟨r', e1, _, _, _, _, _, _, e8⟩ := rawReadAll_of_src (cfg := cfg) h r hI
  rw [e1]
  exact e8

theorem rawRead1Spec_of_src (h : SrcSpec S rem I) : RawRead1Spec S cfg rem I :=
  ⟨fun r amt hamt hI =>
    let ⟨k, r', e1, e2, e3, e4, e5, e6, e7, e8, _⟩ := rawRead_of_src h r amt true hamt nofun hI
    ⟨k, r', e1, e2, e3, e4, e5, e6, e7, e8⟩⟩
end

/-- the raw body bytes a non-chunked `http.client` response will still deliver -/
def hRem (h : H) : Bytes :=
  match h.fp with
  | none => []
  | some f =>
    match h.length with
    | some l => f.content.take l
    | none => f.content

/-- a well-framed non-chunked body: not HEAD, not chunked, and while the file is open all the
bytes the Content-Length promises are (or will be) there -/
structure HInv (h : H) : Prop where
  head : h.head = false
  chunked : h.chunked = false
  avail : ∀ f, h.fp = some f → h.closed = false ∧ ∀ l, h.length = some l → l ≤ f.content.length

/-- `length_remaining` is in step with `http.client`: the number of body bytes still to come, or
`None` on a close-delimited body -/
def LR (h : H) (lr : Option Int) : Prop :=
  lr = some ((hRem h).length : Int) ∨ (lr = none ∧ (h.fp = none ∨ h.length = none))

/-- framing invariant of a Content-Length / close-delimited body: well framed (`HInv`) and
`length_remaining` in step (`LR`) -/
def HI (h : H) (lr : Option Int) : Prop := HInv h ∧ LR h lr

theorem HI_whole {h : H} {f : Fp} {lr : Option Int} (hh : h.head = false) (hc : h.chunked = false)
    (hcl : h.closed = false) (hf : h.fp = some f)
    (hlen : (h.length = some f.content.length ∧ lr = some (f.content.length : Int)) ∨
      (h.length = none ∧ lr = none)) :
    HI h lr ∧ hRem h = f.content := by
  have hrem : hRem h = f.content := by
    rcases hlen with ⟨h1, _⟩ | ⟨h1, _⟩ <;> simp [hRem, hf, h1]
  refine ⟨⟨⟨hh, hc, fun g hg => ⟨hcl, fun l hl => ?_⟩⟩, ?_⟩, hrem⟩
  · rw [hf] at hg
    cases hg
    rcases hlen with ⟨h1, _⟩ | ⟨h1, _⟩
    · rw [h1] at hl
      cases hl
      exact Nat.le_refl _
    · rw [h1] at hl
      cases hl
  · rcases hlen with ⟨_, h2⟩ | ⟨h1, h2⟩
    · exact .inl (by rw [h2, hrem])
    · exact .inr ⟨h2, .inr h1⟩

theorem hRem_none {h : H} (hf : h.fp = none) : hRem h = [] := by simp [hRem, hf]

theorem hRem_closeConn (h : H) : hRem h.closeConn = [] := rfl

theorem HInv_close (h : H) (hi : HInv h) : HInv h.close :=
  ⟨hi.head, hi.chunked, fun f hf => by simp [H.close] at hf⟩

theorem HInv_of_fp_none {h : H} (hh : h.head = false) (hc : h.chunked = false) (hf : h.fp = none) :
    hRem h = [] ∧ HInv h :=
  ⟨hRem_none hf, hh, hc, fun g hg => by rw [hf] at hg; cases hg⟩

theorem hRead_some_spec (h : H) (a : Nat) (ha : 0 < a) (hi : HInv h) :
    ∃ h', hRead h (some a) = (.ok ((hRem h).take a), h') ∧ hRem h' = (hRem h).drop a ∧ HInv h' ∧
      ((h.fp = none ∨ h.length = none) → (h'.fp = none ∨ h'.length = none)) := by
  obtain ⟨hh, hc, hav⟩ := hi
  cases hf : h.fp with
  | none =>
    obtain ⟨h1, h2⟩ := HInv_of_fp_none hh hc hf
    exact ⟨h, by simp [hRead, hf, h1], by rw [h1, List.drop_nil], h2, fun _ => Or.inl hf⟩
  | some f =>
    obtain ⟨hcl, hlen⟩ := hav f hf
    unfold hRead
    simp only [hf, hh, hc, Bool.false_eq_true, if_false]
    cases hl : h.length with
    | none =>
      obtain ⟨hs1, hs2, _⟩ := fpRead_spec f a
      generalize fpRead f a = res at hs1 hs2
      obtain ⟨s, f'⟩ := res
      subst hs1
      have hrem : hRem h = f.content := by simp [hRem, hf, hl]
      rw [hrem]
      dsimp only
      split
      · -- EOF
        rename_i he
        have hc0 := take_eq_nil_of_pos ha (List.isEmpty_iff.mp he.1)
        refine ⟨_, rfl, ?_, (HInv_of_fp_none rfl rfl rfl).2, fun _ => Or.inl rfl⟩
        rw [(HInv_of_fp_none rfl rfl rfl).1, hc0, List.drop_nil]
      · exact ⟨_, rfl, by simp [hRem, hs2], ⟨rfl, rfl, fun g hg => ⟨hcl, nofun⟩⟩, fun _ => Or.inr rfl⟩
    | some l =>
      have hle := hlen l hl
      simp only [show (if a > l then l else a) = min a l by split <;> omega]
      obtain ⟨hs1, hs2, _⟩ := fpRead_spec f (min a l)
      generalize fpRead f (min a l) = res at hs1 hs2
      obtain ⟨s, f'⟩ := res
      subst hs1
      have hslen : (f.content.take (min a l)).length = min a l := by rw [List.length_take]; omega
      have hrem : hRem h = f.content.take l := by simp [hRem, hf, hl]
      rw [hrem, List.take_take]
      dsimp only
      rw [if_neg (fun he => he.2 (by rw [← hslen, List.isEmpty_iff.mp he.1]; rfl)), hslen]
      split
      · -- the body ends with this read
        refine ⟨_, rfl, ?_, (HInv_of_fp_none rfl rfl rfl).2, fun _ => Or.inl rfl⟩
        rw [(HInv_of_fp_none rfl rfl rfl).1]
        exact (List.drop_eq_nil_of_le (by rw [List.length_take]; omega)).symm
      · refine ⟨_, rfl, ?_, ⟨rfl, rfl, fun g hg => ⟨hcl, fun l' hl' => ?_⟩⟩, nofun⟩
        · have : min a l = a := by omega
          simp only [hRem]
          rw [hs2, this, List.drop_take]
        · cases hg; cases hl'
          rw [hs2, List.length_drop]; omega

theorem hRead_none_spec (h : H) (hi : HInv h) :
    ∃ h', hRead h none = (.ok (hRem h), h') ∧ h'.fp = none ∧ HInv h' := by
  obtain ⟨hh, hc, hav⟩ := hi
  cases hf : h.fp with
  | none => exact ⟨h, by simp [hRead, hf, hRem], hf, ⟨hh, hc, hav⟩⟩
  | some f =>
    obtain ⟨hcl, hlen⟩ := hav f hf
    cases hl : h.length with
    | none =>
      refine ⟨h.closeConn, ?_, rfl, ⟨hh, hc, fun g hg => by simp [H.closeConn] at hg⟩⟩
      unfold hRead
      simp [hf, hh, hc, hl, hRem, fpReadAll]
    | some l =>
      obtain ⟨f', he, _, _⟩ := hSafeRead_ok h f l hf (hlen l hl)
      refine ⟨{ { h with fp := some f' }.closeConn with length := some 0 }, ?_, rfl,
        ⟨hh, hc, fun g hg => by simp [H.closeConn] at hg⟩⟩
      unfold hRead
      simp only [hf, hh, hc, hl, he]
      simp [hRem, hf, hl]

theorem LR_nil {h : H} {lr : Option Int} (hlr : LR h lr) (hrem : hRem h = []) : lr = none ∨ lr = some 0 := by
  rcases hlr with h1 | ⟨h1, _⟩
  · right
    rw [h1, hrem]
    rfl
  · left
    exact h1

theorem LR_step {h h' : H} {lr : Option Int} (a : Nat) (hlr : LR h lr)
    (hrem : hRem h' = (hRem h).drop a)
    (hkeep : (h.fp = none ∨ h.length = none) → (h'.fp = none ∨ h'.length = none)) :
    LR h' (lr.map (· - (((hRem h).take a).length : Int))) := by
  rcases hlr with h1 | ⟨h1, h2⟩
  · left
    rw [h1, hrem]
    simp only [Option.map_some, List.length_take, List.length_drop, Option.some.injEq]
    omega
  · right
    exact ⟨by rw [h1]; rfl, hkeep h2⟩

theorem fpRead1_split (f : Fp) (n : Nat) :
    ∃ k f', fpRead1 f n = (f.content.take k, f') ∧ f'.content = f.content.drop k ∧ k ≤ n ∧
      k ≤ f.content.length ∧ (0 < n → f.content ≠ [] → 0 < k) := by
  obtain ⟨d, hd1, hd2, hd3, hd4, _⟩ := fpRead1_spec f n
  generalize fpRead1 f n = res at hd1 hd2
  obtain ⟨d', f'⟩ := res
  subst hd1
  refine ⟨d'.length, f', by rw [← hd2]; simp, by rw [← hd2]; simp, hd3, by rw [← hd2]; simp,
    fun h1 h2 => List.length_pos_iff.mpr (hd4 h1 h2)⟩

theorem hRead1_spec (h : H) (n : Option Nat) (hn : n ≠ some 0) (hi : HInv h) :
    ∃ k h', hRead1 h n = (.ok ((hRem h).take k), h') ∧ hRem h' = (hRem h).drop k ∧
      (hRem h ≠ [] → 0 < k) ∧ (∀ a, n = some a → k ≤ a) ∧ HInv h' ∧
      ((h.fp = none ∨ h.length = none) → (h'.fp = none ∨ h'.length = none)) := by
  obtain ⟨hh, hc, hav⟩ := hi
  cases hf : h.fp with
  | none =>
    obtain ⟨h1, h2⟩ := HInv_of_fp_none hh hc hf
    exact ⟨0, h, by simp [hRead1, hf], by rw [h1]; rfl, fun hne => absurd h1 hne, fun a _ => Nat.zero_le _, h2,
      fun _ => Or.inl hf⟩
  | some f =>
    obtain ⟨hcl, hlen⟩ := hav f hf
    cases hl : h.length with
    | none =>
      have hrem : hRem h = f.content := by simp [hRem, hf, hl]
      have hnn : 0 < n.getD bufSize := by
        cases n with
        | none => simp [bufSize]
        | some a => exact pos_of_some_ne_zero hn
      obtain ⟨k, f', hr, hc', hk1, _, hk3⟩ := fpRead1_split f (n.getD bufSize)
      rw [hrem]
      unfold hRead1
      simp only [hf, hh, hc, hl, hr, Bool.false_eq_true, if_false]
      split
      · -- EOF
        rename_i he
        have hc0 : f.content = [] := take_eq_nil_of_ne (hk3 hnn) (List.isEmpty_iff.mp he.1)
        refine ⟨k, _, rfl, ?_, fun hne => absurd hc0 hne, fun a ha => by rw [ha] at hk1; exact hk1,
          (HInv_of_fp_none rfl rfl rfl).2, fun _ => Or.inl rfl⟩
        rw [(HInv_of_fp_none rfl rfl rfl).1, hc0, List.drop_nil]
      · exact ⟨k, _, rfl, by simp [hRem, hc'], hk3 hnn, fun a ha => by rw [ha] at hk1; exact hk1,
          ⟨rfl, rfl, fun g hg => ⟨hcl, nofun⟩⟩, fun _ => Or.inr rfl⟩
    | some l =>
      have hle := hlen l hl
      have hrem : hRem h = f.content.take l := by simp [hRem, hf, hl]
      -- the amount `http.client` asks the BufferedReader for is at most `l`
      obtain ⟨nn, hnl, hpos, hna, hnorm⟩ : ∃ nn, nn ≤ l ∧ (0 < l → 0 < nn) ∧ (∀ a, n = some a → nn ≤ a) ∧
          hRead1 h n = hRead1 h (some nn) := by
        cases n with
        | none => exact ⟨l, Nat.le_refl _, id, nofun, by unfold hRead1; simp [hf, hh, hc, hl]⟩
        | some a =>
          by_cases hgt : a > l
          · exact ⟨l, Nat.le_refl _, id, fun b hb => by cases hb; omega, by unfold hRead1; simp [hf, hh, hc, hl, hgt]⟩
          · exact ⟨a, by omega, fun _ => pos_of_some_ne_zero hn, fun b hb => by cases hb; omega, rfl⟩
      obtain ⟨k, f', hr, hc', hk1, hk2, hk3⟩ := fpRead1_split f nn
      have hkl : k ≤ l := Nat.le_trans hk1 hnl
      have hne : f.content.take l ≠ [] → 0 < k := by
        intro hne
        have hl0 : 0 < l := Nat.pos_of_ne_zero (fun h0 => hne (by rw [h0]; rfl))
        exact hk3 (hpos hl0) (List.ne_nil_of_length_pos (by omega))
      have hnoclose : ¬ ((f.content.take k).isEmpty = true ∧ some nn ≠ some 0) := by
        intro ⟨h1, h2⟩
        have hnn0 : 0 < nn := pos_of_some_ne_zero h2
        have hc1 : f.content ≠ [] := List.ne_nil_of_length_pos (by omega)
        exact hc1 (take_eq_nil_of_ne (hk3 hnn0) (List.isEmpty_iff.mp h1))
      have hlen' : (f.content.take k).length = k := by rw [List.length_take]; omega
      rw [hnorm, hrem]
      refine ⟨k, ?_⟩
      rw [List.take_take, Nat.min_eq_left hkl]
      unfold hRead1
      have hnl' : ¬ nn > l := by omega
      simp only [hf, hh, hc, hl, hnl', hr, hnoclose, hlen', Bool.false_eq_true, if_false, Option.getD_some]
      refine ⟨_, rfl, ?_, hne, fun a ha => Nat.le_trans hk1 (hna a ha),
        ⟨rfl, rfl, fun g hg => ⟨hcl, fun l' hl' => ?_⟩⟩, nofun⟩
      · simp only [hRem]
        rw [hc', List.drop_take]
      · cases hg; cases hl'
        rw [hc', List.length_drop]; omega

theorem hSrc_closed_isclosed {h : H} (hav : ∀ f, h.fp = some f → h.closed = false) (hcl : hSrc.closed h = true) :
    hSrc.isclosed h = true := by
  cases hf : h.fp with
  | none => simp [hSrc, H.isclosed, hf]
  | some f =>
    have := hav f hf
    rw [show h.closed = true from hcl] at this
    cases this

/-- `http.client`'s body reader on a well-framed Content-Length / close-delimited body meets the
source contract, for every segmentation -/
theorem hSrc_spec : SrcSpec hSrc hRem HI where
  closed h lr hi hcl := hSrc_closed_isclosed (fun f hf => (hi.1.avail f hf).1) hcl
  closedNil h lr _ hcl := hRem_none (by simpa [hSrc, H.isclosed] using hcl)
  read h lr a ha hi _ := by
    obtain ⟨h', e1, e2, e3, e4⟩ := hRead_some_spec h a ha hi.1
    exact ⟨h', e1, e2, e3, LR_step a hi.2 e2 e4⟩
  readAll h lr hi _ := by
    obtain ⟨h', e1, e2, e3⟩ := hRead_none_spec h hi.1
    refine ⟨h', e1, hRem_none e2, by simp [hSrc, H.isclosed, e2], e3, ?_⟩
    rcases hi.2 with h1 | ⟨h1, _⟩
    · left
      rw [h1, hRem_none e2]
      simp
    · right
      exact ⟨by rw [h1]; rfl, Or.inl e2⟩
  read1 h lr amt hamt hi _ := by
    obtain ⟨k, h', e1, e2, e3, e4, e5, e6⟩ := hRead1_spec h amt hamt hi.1
    exact ⟨k, h', e1, e2, e3, e4, e5, LR_step k hi.2 e2 e6⟩
  atEnd h lr hi hrem := by
    refine ⟨LR_nil hi.2 hrem, ⟨HInv_close h hi.1, ?_⟩, rfl, rfl⟩
    rcases LR_nil hi.2 hrem with h0 | h0
    · right
      exact ⟨h0, Or.inl rfl⟩
    · left
      rw [h0]
      rfl
  exact h lr n hi hlr := by
    rcases hi.2 with h1 | ⟨h1, _⟩
    · rw [h1] at hlr
      exact (Int.ofNat.inj (Option.some.inj hlr)).symm
    · rw [h1] at hlr
      cases hlr

end U3.Resp
