import U3.Lemmas.RespRead
/-! The glue through `read1(n)` / `read1()`: for any source obeying `RawRead1Spec` and any decoder
obeying the `StreamLaw` (or none), one call returns a prefix of the payload still owed — non-empty
unless nothing is left, at most `n` bytes — and re-establishes the invariant.  Then call sequences
of the read family, with decoding on (`InvB` of Lemmas/RespRead) and off (`RawInv`): either way the
response is a cursor over the bytes still to be delivered, which is all the sequences need (`callSeq_of`). -/
namespace U3.Resp
open U3

section
variable {σ δ : Type} (S : Src σ) (D : Dec δ) (cfg : Cfg δ)

/-- what `read1` needs from `_raw_read(amt, read1=True)` on a well-framed body: some prefix of what
is left (`k` bytes), non-empty unless nothing is left, at most `amt` bytes, never an exception -/
structure RawRead1Spec (rem : σ → Bytes) (I : σ → Option Int → Prop) : Prop where
  spec : ∀ (r : R σ δ) (amt : Option Nat), amt ≠ some 0 → I r.fp r.lengthRemaining →
    ∃ k r', rawRead S cfg r amt true = (.ok ((rem r.fp).take k), r') ∧
      rem r'.fp = (rem r.fp).drop k ∧ (rem r.fp ≠ [] → 0 < k) ∧ (∀ a, amt = some a → k ≤ a) ∧
      I r'.fp r'.lengthRemaining ∧ r'.buf = r.buf ∧ r'.decoder = r.decoder ∧ r'.hasDecoded = r.hasDecoded

variable {G : δ → Bytes → Bytes → Prop} {rem : σ → Bytes} {I : σ → Option Int → Prop}
  (hR : RawReadSpec S cfg rem I) (hA : RawReadAllSpec S cfg rem I) (hR1 : RawRead1Spec S cfg rem I)
  (hD : StreamLaw D G)

include hR1 hD in
/-- `_raw_read(amt, read1=True)` and the `while True:` loop of `read1` after it, which reads on with
`_raw_read(8192, read1=True)` until something is decoded or the source is at its end: the invariant is
conserved and the buffer is not left empty -/
theorem read1Loop_inv :
    ∀ (fuel : Nat) (amt : Option Nat), amt ≠ some 0 → ∀ (r : R σ δ) (rest : Bytes), Inv cfg rem I G r rest →
      (rem r.fp).length + 1 < fuel →
      ∃ data r1 r', rawRead S cfg r amt true = (.ok data, r1) ∧ r1.decoder = r.decoder ∧
        read1Loop S D cfg true fuel (initDec cfg r1) data = (.ok (), r') ∧ InvS cfg rem I G r' rest ∧
        r'.buf ≠ [] ∧ (bqAll r'.buf = [] → rest = []) ∧ (rem r'.fp).length ≤ (rem r.fp).length := by
  intro fuel
  induction fuel with
  | zero =>
    intro _ _ r _ _ hf
    omega
  | succ k ih =>
    intro amt hamt r rest hinv hf
    obtain ⟨kk, r1, h1, hrem1, hk, _, hI1, hb1, hd1, _⟩ := hR1.spec r amt hamt hinv.framing
    have hS := hinv.settle
    rw [initDec_eq] at hS
    obtain ⟨o, od, hd, hdec, _, hS2⟩ := hS.fetch (r1 := { r1 with decoder := effDec cfg r1.decoder }) D cfg hD
      ((rem r.fp).take kk).isEmpty (fun h => take_eq_nil_of_ne hk (List.isEmpty_iff.mp h)) hrem1 hI1 hb1 (by rw [hd1])
    suffices ∃ r', read1Loop S D cfg true (k + 1) (initDec cfg r1) ((rem r.fp).take kk) = (.ok (), r') ∧
        InvS cfg rem I G r' rest ∧ r'.buf ≠ [] ∧ (bqAll r'.buf = [] → rest = []) ∧
        (rem r'.fp).length ≤ (rem r.fp).length from
      let ⟨r', h⟩ := this
      ⟨_, r1, r', h1, hd1, h⟩
    have hlen : (rem r1.fp).length ≤ (rem r.fp).length := by
      rw [hrem1, List.length_drop]
      omega
    rw [initDec_eq]
    unfold read1Loop
    simp only [hdec]
    by_cases hstop : (!o.isEmpty) = true ∨ ((rem r.fp).take kk).isEmpty = true
    · -- something decoded, or the end of the input
      rw [if_pos hstop]
      refine ⟨_, rfl, hS2, by simp [bqPut], fun h => ?_, hlen⟩
      have ho : o = [] := by
        have : bqAll (bqPut r1.buf o) = [] := h
        rw [bqPut_all] at this
        exact (List.append_eq_nil_iff.mp this).2
      rcases hstop with h1 | h1
      · simp [ho] at h1
      · rw [hS2.2.ended D cfg hD (by
          show rem r1.fp = []
          rw [hrem1, take_eq_nil_of_ne hk (List.isEmpty_iff.mp h1), List.drop_nil])]
        exact h
    · -- nothing decoded yet: read more
      rw [if_neg hstop]
      have hdne : (rem r.fp).take kk ≠ [] := fun h => hstop (Or.inr (by rw [h]; rfl))
      have hne : rem r.fp ≠ [] := fun h => hdne (by rw [h, List.take_nil])
      have := hk hne
      have := List.length_pos_iff.mpr hne
      obtain ⟨data', r3, r', e1, e2, e3, e4, e5, e6, e7⟩ := ih (some 8192) (by simp) _ rest hS2.2 (by
        show (rem r1.fp).length + 1 < k
        rw [hrem1, List.length_drop]
        omega)
      rw [initDec_settled cfg r3 (by rw [e2]; exact hS2.1)] at e3
      rw [e1]
      exact ⟨r', e3, e4, e5, e6, Nat.le_trans e7 hlen⟩

include hR1 hD in
theorem read1_spec (amt : Option Nat) (r : R σ δ) (rest : Bytes) (dco : Option Bool)
    (hdc : dco.getD cfg.decodeDefault = true)
    (hinv : Inv cfg rem I G r rest) (hfuel : (rem r.fp).length + 1 < cfg.fuel) :
    ∃ out r' rest', read1 S D cfg r amt dco = (.ok out, r') ∧ Inv cfg rem I G r' rest' ∧
      out ++ rest' = rest ∧ (rem r'.fp).length ≤ (rem r.fp).length ∧
      (∀ a, amt = some a → out.length ≤ a) ∧ (amt ≠ some 0 → out = [] → rest = []) := by
  -- the final hand-out from a non-empty buffer
  have fin : ∀ (r2 : R σ δ), Inv cfg rem I G r2 rest → r2.buf ≠ [] → (bqAll r2.buf = [] → rest = []) →
      ∃ out r' rest', (match amt with
          | none => (Except.ok (bqGetAll r2.buf).1, { r2 with buf := (bqGetAll r2.buf).2 })
          | some a => bufGet r2 a) = (.ok out, r') ∧ Inv cfg rem I G r' rest' ∧
        out ++ rest' = rest ∧ r'.fp = r2.fp ∧
        (∀ a, amt = some a → out.length ≤ a) ∧ (amt ≠ some 0 → out = [] → rest = []) := by
    intro r2 ⟨hI2, p2, hO2, hp2⟩ hne hnil
    subst hp2
    cases amt with
    | none => exact ⟨bqAll r2.buf, _, p2, rfl, ⟨hI2, p2, hO2, rfl⟩, rfl, rfl, nofun, fun _ ho => hnil ho⟩
    | some a =>
      obtain ⟨q, hget, hq⟩ := bufGet_eq r2 a (Or.inl hne)
      exact ⟨_, { r2 with buf := q }, bqAll q ++ p2, hget, ⟨hI2, p2, hO2, rfl⟩,
        by rw [← List.append_assoc, hq, List.take_append_drop], rfl,
        fun b hb => by cases hb; rw [List.length_take]; omega,
        fun hz ho => hnil (take_eq_nil_of_pos (pos_of_some_ne_zero hz) ho)⟩
  unfold read1
  simp only [hdc, Bool.not_true, Bool.false_eq_true, if_false]
  by_cases hearly : r.hasDecoded = true ∧ bqLen r.buf > 0
  · -- answered from the buffer
    have hall : bqAll r.buf ≠ [] := fun h => Nat.ne_of_gt hearly.2 (bqLen_eq_zero.mpr h)
    obtain ⟨out, r', rest', h1, h2, h3, h4, h5, h6⟩ := fin r hinv
      (ne_nil_of_bqLen_pos hearly.2) (fun h => absurd h hall)
    refine ⟨out, r', rest', ?_, h2, h3, by rw [h4]; exact Nat.le_refl _, h5, h6⟩
    rw [← h1]
    simp only [hearly.1, if_true, hearly.2]
    cases amt <;> rfl
  · split
    · -- the early exit is not taken
      rename_i res heq
      exfalso
      by_cases h1 : r.hasDecoded = true
      · have h2 : ¬ bqLen r.buf > 0 := fun h2 => hearly ⟨h1, h2⟩
        simp [h1, h2] at heq
      · simp [h1] at heq
    · by_cases hz : amt = some 0
      · rw [if_pos hz]
        exact ⟨[], r, _, rfl, hinv, rfl, Nat.le_refl _, fun a _ => Nat.zero_le _, fun h => absurd hz h⟩
      · rw [if_neg hz]
        obtain ⟨data, r1, r2, h1, _, l1, l2, l3, l4, l5⟩ :=
          read1Loop_inv S D cfg hR1 hD cfg.fuel amt hz r rest hinv hfuel
        simp only [h1, l1]
        obtain ⟨out, r', rest', s1, s2, s3, s4, s5, s6⟩ := fin r2 l2.2 l3 l4
        refine ⟨out, r', rest', ?_, s2, s3, by rw [s4]; exact l5, s5, s6⟩
        rw [← s1]
        cases amt <;> rfl

/-- a call of the read family: `read(amt)` (`readinto(k)` = `read(k)`) or `read1(amt)`;
`none` = no amount -/
inductive RCall
  | read (amt : Option Nat)
  | read1 (amt : Option Nat)
deriving Repr, DecidableEq

def runRCall (dco : Option Bool) (r : R σ δ) : RCall → Except Exc Bytes × R σ δ
  | .read a => read S D cfg r a dco
  | .read1 a => read1 S D cfg r a dco

/-- a sequence of calls, stopped at the first exception: the pieces returned -/
def callSeq (dco : Option Bool) : List RCall → R σ δ → Except Exc (List Bytes) × R σ δ
  | [], r => (.ok [], r)
  | c :: t, r =>
    match runRCall S D cfg dco r c with
    | (.error e, r) => (.error e, r)
    | (.ok out, r) =>
      match callSeq dco t r with
      | (.error e, r) => (.error e, r)
      | (.ok outs, r) => (.ok (out :: outs), r)

theorem callSeq_of {P : R σ δ → Bytes → Prop} (dco : Option Bool)
    (hstep : ∀ (c : RCall) (r : R σ δ) (rest : Bytes), P r rest →
      ∃ out r' rest', runRCall S D cfg dco r c = (.ok out, r') ∧ P r' rest' ∧ out ++ rest' = rest) :
    ∀ (calls : List RCall) (r : R σ δ) (rest : Bytes), P r rest →
      ∃ outs r' rest', callSeq S D cfg dco calls r = (.ok outs, r') ∧ P r' rest' ∧
        outs.flatten ++ rest' = rest ∧ outs.length = calls.length := by
  intro calls
  induction calls with
  | nil =>
    intro r rest h
    exact ⟨[], r, rest, rfl, h, rfl, rfl⟩
  | cons c t ih =>
    intro r rest h
    obtain ⟨out, r1, rest1, h1, hP1, hcat1⟩ := hstep c r rest h
    obtain ⟨outs, r2, rest2, h2, hP2, hcat2, hl2⟩ := ih r1 rest1 hP1
    refine ⟨out :: outs, r2, rest2, by simp only [callSeq, h1, h2], hP2, ?_, by simp [hl2]⟩
    rw [List.flatten_cons, List.append_assoc, hcat2, hcat1]

include hR hA hR1 hD in
theorem runRCall_spec (dco : Option Bool) (hdc : dco.getD cfg.decodeDefault = true)
    (c : RCall) (r : R σ δ) (rest : Bytes) (h : InvB cfg rem I G r rest) :
    ∃ out r' rest', runRCall S D cfg dco r c = (.ok out, r') ∧ InvB cfg rem I G r' rest' ∧
      out ++ rest' = rest := by
  cases c with
  | read a =>
    obtain ⟨out, r1, rest1, e1, e2, e3, _⟩ := read_any_spec S D cfg hR hA hD a dco hdc r rest h
    exact ⟨out, r1, rest1, e1, e2, e3⟩
  | read1 a =>
    obtain ⟨out, r1, rest1, e1, e2, e3, e4, _⟩ := read1_spec S D cfg hR1 hD a r rest dco hdc h.1 h.2
    exact ⟨out, r1, rest1, e1, ⟨e2, Nat.lt_of_le_of_lt (Nat.succ_le_succ e4) h.2⟩, e3⟩

include hR hA hR1 hD in
/-- **concatenation** for the whole read family: whatever the calls and amounts, no call raises
and the pieces followed by what is still owed are the payload -/
theorem callSeq_concat (dco : Option Bool) (hdc : dco.getD cfg.decodeDefault = true) :
    ∀ (calls : List RCall) (r : R σ δ) (rest : Bytes), InvB cfg rem I G r rest →
      ∃ outs r' rest', callSeq S D cfg dco calls r = (.ok outs, r') ∧ InvB cfg rem I G r' rest' ∧
        outs.flatten ++ rest' = rest ∧ outs.length = calls.length :=
  callSeq_of S D cfg dco (runRCall_spec S D cfg hR hA hR1 hD dco hdc)

/-- the invariant with `decode_content=False` from the start: nothing decoded, nothing buffered,
`raw` = the raw body bytes still to come -/
structure RawInv (rem : σ → Bytes) (I : σ → Option Int → Prop) (r : R σ δ) (raw : Bytes) : Prop where
  framing : I r.fp r.lengthRemaining
  undecoded : r.hasDecoded = false
  nobuf : bqLen r.buf = 0
  left : rem r.fp = raw

theorem RawInv.initDec {r : R σ δ} {raw : Bytes}
    (h : RawInv rem I r raw) : RawInv rem I (initDec cfg r) raw := by
  rw [initDec_eq]
  exact ⟨h.1, h.2, h.3, h.4⟩

include hA in
theorem read_raw_none (dco : Option Bool) (hdc : dco.getD cfg.decodeDefault = false)
    (r : R σ δ) (raw : Bytes) (hinv : RawInv rem I r raw) :
    ∃ r', read S D cfg r none dco = (.ok raw, r') ∧ RawInv rem I r' [] ∧
      (ClosesAll S cfg I → S.isclosed r'.fp = true) := by
  have hinv0 := hinv.initDec cfg
  unfold read
  generalize initDec cfg r = r0 at hinv0 ⊢
  obtain ⟨hI, hu, hb, rfl⟩ := hinv0
  obtain ⟨r1, h1, hrem1, hI1, hb1, _, hh1, _⟩ := hA.spec r0 hI
  have hu1 : r1.hasDecoded = false := hh1.trans hu
  have hb1' : bqLen r1.buf = 0 := by
    rw [hb1]
    exact hb
  refine ⟨r1, ?_, ⟨hI1, hu1, hb1', hrem1⟩, fun hC => ?_⟩
  · simp only [hdc, h1]
    split
    · rfl
    · simp [decode, hu1, prependBuffered, hb1']
  · have := hC r0 hI
    rw [h1] at this
    exact this

include hR hA in
theorem read_step_raw (dco : Option Bool) (hdc : dco.getD cfg.decodeDefault = false) (amt : Option Nat)
    (hamt : amt ≠ some 0) (r : R σ δ) (raw : Bytes) (hinv : RawInv rem I r raw) :
    ∃ out r' raw', read S D cfg r amt dco = (.ok out, r') ∧ RawInv rem I r' raw' ∧ out ++ raw' = raw ∧
      (raw ≠ [] → out ≠ []) ∧
      (ClosesN S cfg rem I → ClosesAll S cfg I → out = [] → S.isclosed r'.fp = true) := by
  cases amt with
  | none =>
    obtain ⟨r', h1, h2, h3⟩ := read_raw_none S D cfg hA dco hdc r raw hinv
    exact ⟨raw, r', [], h1, h2, List.append_nil _, id, fun _ hCA _ => h3 hCA⟩
  | some a =>
    have ha : 0 < a := pos_of_some_ne_zero hamt
    have hinv0 := hinv.initDec cfg
    unfold read
    generalize initDec cfg r = r0 at hinv0 ⊢
    obtain ⟨hI, hu, hb, rfl⟩ := hinv0
    obtain ⟨r1, h1, hrem1, hI1, hb1, _, hh1⟩ := hR.spec r0 a ha hI
    have hu1 : r1.hasDecoded = false := hh1.trans hu
    refine ⟨_, r1, _, ?_, ⟨hI1, hu1, by rw [hb1]; exact hb, hrem1⟩, List.take_append_drop a _,
      fun hr h0 => hr (take_eq_nil_of_pos ha h0), fun hCN _ h0 => ?_⟩
    · have hlt : ¬ bqLen r0.buf ≥ a := by omega
      simp only [hdc, hlt, if_false, h1, hu1, Bool.not_false, if_true, Bool.false_eq_true, ite_self]
    · have := hCN r0 a ha hI (take_eq_nil_of_pos ha h0)
      rw [h1] at this
      exact this

include hR hA hR1 in
theorem runRCall_raw (dco : Option Bool) (hdc : dco.getD cfg.decodeDefault = false)
    (c : RCall) (r : R σ δ) (raw : Bytes) (hinv : RawInv rem I r raw) :
    ∃ out r' raw', runRCall S D cfg dco r c = (.ok out, r') ∧ RawInv rem I r' raw' ∧ out ++ raw' = raw := by
  cases c with
  | read amt =>
    by_cases hz : amt = some 0
    · subst hz
      refine ⟨[], initDec cfg r, raw, ?_, hinv.initDec cfg, rfl⟩
      simp [runRCall, read, bufGet, bqGet]
    · obtain ⟨out, r', raw', h1, h2, h3, _⟩ := read_step_raw S D cfg hR hA dco hdc amt hz r raw hinv
      exact ⟨out, r', raw', h1, h2, h3⟩
  | read1 amt =>
    obtain ⟨hI, hu, hb, rfl⟩ := hinv
    show ∃ out r' raw', read1 S D cfg r amt dco = (.ok out, r') ∧ _
    unfold read1
    simp only [hdc, hu, Bool.false_eq_true, if_false]
    by_cases hz : amt = some 0
    · rw [if_pos hz]
      exact ⟨[], r, _, rfl, ⟨hI, hu, hb, rfl⟩, rfl⟩
    · rw [if_neg hz]
      obtain ⟨k, r1, h1, hrem1, _, _, hI1, hb1, _, hh1⟩ := hR1.spec r amt hz hI
      simp only [h1, Bool.not_false, if_true]
      exact ⟨_, r1, _, rfl, ⟨hI1, hh1.trans hu, by rw [hb1]; exact hb, hrem1⟩, List.take_append_drop k _⟩

include hR hA hR1 in
/-- **concatenation with decoding off**: the pieces followed by what is still to come are the raw
(transfer-decoded) payload -/
theorem callSeq_concat_raw (dco : Option Bool) (hdc : dco.getD cfg.decodeDefault = false) :
    ∀ (calls : List RCall) (r : R σ δ) (raw : Bytes), RawInv rem I r raw →
      ∃ outs r' raw', callSeq S D cfg dco calls r = (.ok outs, r') ∧ RawInv rem I r' raw' ∧
        outs.flatten ++ raw' = raw ∧ outs.length = calls.length :=
  callSeq_of S D cfg dco (runRCall_raw S D cfg hR hA hR1 dco hdc)

end
end U3.Resp
