import U3.Model.Wire
import U3.Lemmas.Str
/-! `putheader` / `putrequest` read backwards: what a successful call has put into the head of the request
(`LegalHdr`, `ReqLineOk`, `callerHdrs`, `headHdrs`), up to the five steps of `prepare` together (`PrepareOk`,
`prepareOk_of_steps`). -/
namespace U3.Wire
open U3

theorem encodeAscii_ok {s : Str} {b : Bytes} (h : encodeAscii s = .ok b) : b = s := by
  unfold encodeAscii at h
  split at h <;> simp at h
  exact h.symm

theorem encodeLatin1_ok {s : Str} {b : Bytes} (h : encodeLatin1 s = .ok b) : b = s := by
  unfold encodeLatin1 at h
  split at h <;> simp at h
  exact h.symm

/-- a header line `putheader` lets through: the name matches `_is_legal_header_name`, the value has no match of
`_is_illegal_header_value` -/
structure LegalHdr (h : Hdr) : Prop where
  name : legalHeaderName h.1 = true
  value : illegalHeaderValue h.2 = false

theorem hcPutheader_inv {name : Str} {value : Str ⊕ Bytes} {h : Hdr} (e : hcPutheader name value = .ok h) :
    LegalHdr h ∧ h.1 = name ∧ (match value with | .inl s => encodeLatin1 s | .inr b => .ok b) = .ok h.2 := by
  unfold hcPutheader at e
  repeat' split at e
  all_goals try cases e
  rename_i hn hleg _ _ hv hill
  exact ⟨⟨by simpa using hleg, by simpa using hill⟩, encodeAscii_ok hn, hv⟩

theorem hcPutheader_str_value {name v : Str} {h : Hdr} (e : hcPutheader name (.inl v) = .ok h) : h = (name, v) :=
  Prod.ext (hcPutheader_inv e).2.1 (encodeLatin1_ok (hcPutheader_inv e).2.2)

/-- the caller's header lines as `putheader` buffers them: those not carrying `SKIP_HEADER` -/
def callerHdrs (headers : List (Str × Str)) : List Hdr :=
  headers.filter (fun kv => kv.2 != Gen.skipHeader)

/-- the header lines `request` buffers, in order: `Host` and `Accept-Encoding` unless the caller names them,
the framing lines `frL`, `User-Agent` unless the caller names it, then the caller's own lines -/
def headHdrs (hostV : Bytes) (frL : List Hdr) (headers : List (Str × Str)) : List Hdr :=
  (if (headerKeys headers).contains (lit "host") then [] else [(lit "Host", hostV)]) ++
  (if (headerKeys headers).contains (lit "accept-encoding") then [] else [(lit "Accept-Encoding", lit "identity")]) ++
  frL ++
  (if (headerKeys headers).contains (lit "user-agent") then [] else [(lit "User-Agent", Gen.defaultUserAgent)]) ++
  callerHdrs headers

theorem putheader_inv {k v : Str} {l : List Hdr} (e : putheader k v = .ok l) :
    l = (if v != Gen.skipHeader then [(k, v)] else []) ∧ ∀ h ∈ l, LegalHdr h := by
  unfold putheader at e
  split at e
  · rename_i hv
    obtain ⟨a, ha, rfl⟩ := map_ok e
    obtain rfl := hcPutheader_str_value ha
    simpa [hv] using (hcPutheader_inv ha).1
  · rename_i hv
    split at e
    · cases e
    · cases e; simp [hv]

theorem putCallerHeaders_inv {hs : List (Str × Str)} {l : List Hdr} (e : putCallerHeaders hs = .ok l) :
    l = callerHdrs hs ∧ ∀ h ∈ l, LegalHdr h := by
  induction hs generalizing l with
  | nil => cases e; simp [callerHdrs]
  | cons kv t ih =>
    simp only [putCallerHeaders] at e
    repeat' split at e
    all_goals try cases e
    rename_i l1 h1 _ r hr
    obtain ⟨rfl, hl1⟩ := putheader_inv h1
    obtain ⟨rfl, hr⟩ := ih hr
    constructor
    · simp only [callerHdrs, List.filter_cons]
      split <;> simp
    · intro h hh
      exact (List.mem_append.mp hh).elim (hl1 h) (hr h)

/-- a request line `putrequest` lets through: `method SP (url or '/') SP HTTP/1.1`, the method a non-empty string
of token characters (urllib3's own check), the target without anything `_validate_path` refuses -/
structure ReqLineOk (meth url rl : Bytes) : Prop where
  eq : rl = meth ++ [32] ++ urlOrSlash url ++ [32] ++ httpVsn
  ne : meth ≠ []
  tok : meth.all isTokenC = true
  url : hcUrlBad (urlOrSlash url) = false

/-- what the framing decision, `User-Agent` and the de-framer need of the string constants: the two framing lines pass
`putheader`, the automatic headers' names are not the framing headers', which lower-cased name is which -/
structure HdrConsts : Prop where
  chunkedLine : putheader (lit "Transfer-Encoding") (lit "chunked") = .ok [(lit "Transfer-Encoding", lit "chunked")]
  clKept : lower (lit "Content-Length") ∉ Gen.skippableHeaders
  uaSent : (Gen.defaultUserAgent != Gen.skipHeader) = true
  autoNames : ∀ n ∈ [lit "Host", lit "Accept-Encoding", lit "User-Agent"],
    lower n ≠ lit "content-length" ∧ lower n ≠ lit "transfer-encoding"
  te_cl : (lower (lit "Transfer-Encoding") == lit "content-length") = false
  te_te : (lower (lit "Transfer-Encoding") == lit "transfer-encoding") = true
  cl_cl : (lower (lit "Content-Length") == lit "content-length") = true
  cl_te : (lower (lit "Content-Length") == lit "transfer-encoding") = false
  chunked : (lower (trimOWS (lit "chunked")) == lit "chunked") = true

/-- one evaluation for all of them: the kernel decodes the string literals once per declaration -/
theorem hdrConsts : HdrConsts :=
  have ⟨a, b, c, d, e, f, g, h, i⟩ : _ ∧ _ ∧ _ ∧ _ ∧ _ ∧ _ ∧ _ ∧ _ ∧ _ := by decide +kernel
  ⟨a, b, c, d, e, f, g, h, i⟩

theorem hostLine_inv {cfg : Cfg} {url : Str} {h : Hdr} (e : hostLine cfg url = .ok h) :
    LegalHdr h ∧ h.1 = lit "Host" := by
  unfold hostLine at e
  split at e
  · cases e
  · exact ⟨(hcPutheader_inv e).1, (hcPutheader_inv e).2.1⟩

theorem putrequest_inv {cfg : Cfg} {meth url : Str} {sh sa : Bool} {r : Bytes × List Hdr}
    (e : putrequest cfg meth url sh sa = .ok r) :
    ReqLineOk meth url r.1 ∧ (∀ h ∈ r.2, LegalHdr h) ∧
    ∃ v, (sh = false → hostLine cfg (urlOrSlash url) = .ok (lit "Host", v)) ∧
      r.2 = (if sh then [] else [(lit "Host", v)]) ++
        (if sa then [] else [(lit "Accept-Encoding", lit "identity")]) := by
  unfold putrequest at e
  obtain ⟨htok, e⟩ := ite_err e
  obtain ⟨hne, e⟩ := ite_err e
  obtain ⟨-, e⟩ := ite_err e
  obtain ⟨hurl, e⟩ := ite_err e
  split at e
  · cases e
  rename_i rl hrl
  split at e
  · cases e
  rename_i hostL hhost
  split at e
  · cases e
  rename_i aeL hae
  cases e
  have hH : (∀ h ∈ hostL, LegalHdr h) ∧ ∃ v, (sh = false → hostLine cfg (urlOrSlash url) = .ok (lit "Host", v)) ∧
      hostL = if sh then [] else [(lit "Host", v)] := by
    cases sh with
    | true => cases hhost; exact ⟨by simp, [], nofun, rfl⟩
    | false =>
      obtain ⟨h, he, rfl⟩ := map_ok ((if_neg Bool.false_ne_true).symm.trans hhost)
      obtain ⟨hl, hn⟩ := hostLine_inv he
      exact ⟨by simpa using hl, h.2, fun _ => hn ▸ he, by rw [← hn]; rfl⟩
  have hA : (∀ h ∈ aeL, LegalHdr h) ∧ aeL = if sa then [] else [(lit "Accept-Encoding", lit "identity")] := by
    cases sa with
    | true => cases hae; exact ⟨by simp, rfl⟩
    | false =>
      obtain ⟨h, he, rfl⟩ := map_ok ((if_neg Bool.false_ne_true).symm.trans hae)
      exact ⟨by simpa using (hcPutheader_inv he).1, by rw [hcPutheader_str_value he]; rfl⟩
  obtain ⟨hHl, v, hv, rfl⟩ := hH
  obtain ⟨hAl, rfl⟩ := hA
  exact ⟨⟨encodeAscii_ok hrl, by simpa using hne, by simpa [hasNonToken] using htok, by simpa using hurl⟩,
    fun h hm => (List.mem_append.mp hm).elim (hHl h) (hAl h), v, hv, rfl⟩

theorem userAgent_hdr {su : Bool} {ua : List Hdr}
    (e : (if su then .ok [] else putheader (lit "User-Agent") Gen.defaultUserAgent) = .ok ua) :
    ua = if su then [] else [(lit "User-Agent", Gen.defaultUserAgent)] := by
  cases su with
  | true => cases e; rfl
  | false =>
    exact (putheader_inv ((if_neg Bool.false_ne_true).symm.trans e)).1.trans (if_pos hdrConsts.uaSent)

theorem framing_legal {keys : List Str} {ch : Bool} {chunks : Option (List Chunk)} {cl : Option Nat} {fr : Framing}
    (e : framing keys ch chunks cl = .ok fr) : ∀ h ∈ fr.lines, LegalHdr h := by
  unfold framing at e
  repeat' split at e
  all_goals first
    | (obtain ⟨a, ha, rfl⟩ := map_ok e; exact (putheader_inv ha).2)
    | (cases e; simp)

/-- a buffered head that the permissive parser reads back (`strictParse_prepared`): the request line is one
`putrequest` lets through, every header line one `putheader` lets through -/
structure LegalHead (meth url : Str) (p : Prepared) : Prop where
  reqLine : ReqLineOk meth url p.reqLine
  legal : ∀ h ∈ p.hdrs, LegalHdr h

/-- what a successful `prepare` has done: `v` is the automatic `Host` value (buffered unless the caller names a
`Host`), `cc` what `body_to_chunks` made of the body, `fr` the framing decision (`bodyToChunks_spec` and `framing_inv`
say what these two are) -/
structure PrepareOk (cfg : Cfg) (meth url : Str) (headers : List (Str × Str)) (body : Body) (ch : Bool)
    (v : Bytes) (cc : ChunksCL) (fr : Framing) (p : Prepared) : Prop extends LegalHead meth url p where
  host : (headerKeys headers).contains (lit "host") = false → hostLine cfg (urlOrSlash url) = .ok (lit "Host", v)
  cc_ok : bodyToChunks body meth cfg.blocksize = .ok cc
  fr_ok : framing (headerKeys headers) ch cc.chunks cc.contentLength = .ok fr
  hdrs : p.hdrs = headHdrs v fr.lines headers
  chunked : p.chunked = fr.chunked
  chunks : p.chunks = cc.chunks
  after : p.after = cc.after

/-- the five steps of `prepare` (and of `Route.prepareNoValidate`, which is `prepare` without its first test), each
read backwards -/
theorem prepareOk_of_steps {cfg : Cfg} {meth url : Str} {headers : List (Str × Str)} {body : Body} {ch : Bool}
    {l0 : Bytes × List Hdr} {cc : ChunksCL} {fr : Framing} {ua hs : List Hdr}
    (h0 : putrequest cfg meth url ((headerKeys headers).contains (lit "host"))
      ((headerKeys headers).contains (lit "accept-encoding")) = .ok l0)
    (hcc : bodyToChunks body meth cfg.blocksize = .ok cc)
    (hfr : framing (headerKeys headers) ch cc.chunks cc.contentLength = .ok fr)
    (hua : (if (headerKeys headers).contains (lit "user-agent") then .ok []
      else putheader (lit "User-Agent") Gen.defaultUserAgent) = .ok ua)
    (hhs : putCallerHeaders headers = .ok hs) :
    ∃ v, PrepareOk cfg meth url headers body ch v cc fr
      ⟨l0.1, l0.2 ++ fr.lines ++ ua ++ hs, fr.chunked, cc.chunks, cc.after⟩ := by
  obtain ⟨hrl, hl0, v, hv, e0⟩ := putrequest_inv h0
  have e1 : l0.2 ++ fr.lines ++ ua ++ hs = headHdrs v fr.lines headers := by
    rw [e0, userAgent_hdr hua, (putCallerHeaders_inv hhs).1]
    rfl
  refine ⟨v, ⟨hrl, fun h hh => ?_⟩, hv, hcc, hfr, e1, rfl, rfl, rfl⟩
  simp only [List.mem_append] at hh
  rcases hh with ((hh | hh) | hh) | hh
  · exact hl0 h hh
  · exact framing_legal hfr h hh
  · split at hua
    · cases hua; cases hh
    · exact (putheader_inv hua).2 h hh
  · exact (putCallerHeaders_inv hhs).2 h hh

end U3.Wire
