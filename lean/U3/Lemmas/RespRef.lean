import U3.Lemmas.RespIO
/-! The chunked wire read once, with a verdict.  The bytes `c` that are there (the peer's FIN follows
them) are judged from a position `cl` of the chunk bookkeeping by the lenient one-shot *reference reader*
`refBody` (no buffering, no segmentation, no amounts; a body is well framed when it returns the raw
body), by the damage verdict `Broken` of C13, and by the relation `Ref cl c p v` of which these are the
two readings (`Ref.sound`).  The chunk parsers of `http.client` and of urllib3 are specified against
`Ref`, each step once. -/
namespace U3.Resp
open U3

theorem lineOf_pos_of_size {c : Bytes} {n : Nat} (h : parseSize (cutExt (lineOf c)) = .ok n) :
    0 < (lineOf c).length := by
  cases hl : lineOf c with
  | nil =>
    rw [hl] at h
    cases h
  | cons x t => simp

theorem lineOf_length_le (c : Bytes) : (lineOf c).length ≤ c.length := by
  unfold lineOf
  split
  · simp only [List.length_take]
    omega
  · exact Nat.le_refl _

/-- one-shot dechunker: `cl` = bytes left in the current chunk (`none` = at a size line,
`some 0` = before the CRLF that ends a chunk) -/
def refChunks : Nat → Option Nat → Bytes → Option Bytes
  | 0, _, _ => none
  | fuel + 1, some (k + 1), c =>
    if c.length < k + 1 then none
    else (refChunks fuel (some 0) (c.drop (k + 1))).map (fun p => c.take (k + 1) ++ p)
  | fuel + 1, some 0, c =>
    if c.length < 2 then none else refChunks fuel none (c.drop 2)
  | fuel + 1, none, c =>
    match parseSize (cutExt (lineOf c)) with
    | .ok 0 => some []
    | .ok (n + 1) => refChunks fuel (some (n + 1)) (c.drop (lineOf c).length)
    | _ => none

theorem refChunks_pos (fuel k : Nat) (c : Bytes) :
    refChunks (fuel + 1) (some (k + 1)) c =
      if c.length < k + 1 then none
      else (refChunks fuel (some 0) (c.drop (k + 1))).map (fun p => c.take (k + 1) ++ p) := by
  rw [refChunks]

theorem refChunks_zero (fuel : Nat) (c : Bytes) :
    refChunks (fuel + 1) (some 0) c = if c.length < 2 then none else refChunks fuel none (c.drop 2) := by
  rw [refChunks]

theorem refChunks_line (fuel : Nat) (c : Bytes) :
    refChunks (fuel + 1) none c =
      match parseSize (cutExt (lineOf c)) with
      | .ok 0 => some []
      | .ok (n + 1) => refChunks fuel (some (n + 1)) (c.drop (lineOf c).length)
      | _ => none := by
  rw [refChunks]

theorem refChunks_fuel : ∀ (f1 f2 : Nat) (cl : Option Nat) (c : Bytes), c.length < f1 → c.length < f2 →
    refChunks f1 cl c = refChunks f2 cl c := by
  intro f1
  induction f1 with
  | zero =>
    intro f2 cl c h
    omega
  | succ k ih =>
    intro f2 cl c h1 h2
    obtain ⟨m, rfl⟩ : ∃ m, f2 = m + 1 := ⟨f2 - 1, by omega⟩
    -- every recursive call is on a strictly shorter input
    have step : ∀ cl' j, 0 < j → j ≤ c.length →
        refChunks k cl' (c.drop j) = refChunks m cl' (c.drop j) := fun cl' j _ _ =>
      ih m cl' _ (by rw [List.length_drop]; omega) (by rw [List.length_drop]; omega)
    rcases cl with _ | _ | j
    · rw [refChunks_line, refChunks_line]
      split
      · rfl
      · exact step _ _ (lineOf_pos_of_size ‹_›) (lineOf_length_le c)
      · rfl
    · rw [refChunks_zero, refChunks_zero]
      split
      · rfl
      · exact step none 2 (by omega) (by omega)
    · rw [refChunks_pos, refChunks_pos]
      split
      · rfl
      · rw [step (some 0) (j + 1) (by omega) (by omega)]

def refBody (cl : Option Nat) (c : Bytes) : Option Bytes := refChunks (c.length + 1) cl c

theorem refChunks_eq_refBody {fuel : Nat} {cl : Option Nat} {c : Bytes} (h : c.length < fuel) :
    refChunks fuel cl c = refBody cl c :=
  refChunks_fuel _ _ _ _ h (Nat.lt_succ_self _)

theorem refBody_pos_eq (k : Nat) (c : Bytes) :
    refBody (some (k + 1)) c =
      if c.length < k + 1 then none
      else (refBody (some 0) (c.drop (k + 1))).map (fun p => c.take (k + 1) ++ p) := by
  rw [refBody, refChunks_pos]
  split
  · rfl
  · rw [refChunks_eq_refBody (by rw [List.length_drop]; omega)]

theorem refBody_zero_eq (c : Bytes) :
    refBody (some 0) c = if c.length < 2 then none else refBody none (c.drop 2) := by
  rw [refBody, refChunks_zero]
  split
  · rfl
  · exact refChunks_eq_refBody (by rw [List.length_drop]; omega)

theorem refBody_line_eq (c : Bytes) :
    refBody none c =
      match parseSize (cutExt (lineOf c)) with
      | .ok 0 => some []
      | .ok (n + 1) => refBody (some (n + 1)) (c.drop (lineOf c).length)
      | _ => none := by
  rw [refBody, refChunks_line]
  split
  · rfl
  · have := lineOf_pos_of_size ‹_›
    have := lineOf_length_le c
    exact refChunks_eq_refBody (by rw [List.length_drop]; omega)
  · rfl

theorem refBody_pos {k : Nat} {c p : Bytes} (h : refBody (some (k + 1)) c = some p) :
    k + 1 ≤ c.length ∧ ∃ p2, refBody (some 0) (c.drop (k + 1)) = some p2 ∧ p = c.take (k + 1) ++ p2 := by
  rw [refBody_pos_eq] at h
  split at h
  · cases h
  · obtain ⟨p2, h2, rfl⟩ := Option.map_eq_some_iff.mp h
    exact ⟨by omega, p2, h2, rfl⟩

theorem refBody_zero {c p : Bytes} (h : refBody (some 0) c = some p) :
    2 ≤ c.length ∧ refBody none (c.drop 2) = some p := by
  rw [refBody_zero_eq] at h
  split at h
  · cases h
  · exact ⟨by omega, h⟩

theorem refBody_line {c p : Bytes} (h : refBody none c = some p) :
    (parseSize (cutExt (lineOf c)) = .ok 0 ∧ p = []) ∨
    (∃ n, parseSize (cutExt (lineOf c)) = .ok (n + 1) ∧
      refBody (some (n + 1)) (c.drop (lineOf c).length) = some p) := by
  rw [refBody_line_eq] at h
  split at h
  · exact Or.inl ⟨‹_›, (Option.some.inj h).symm⟩
  · exact Or.inr ⟨_, ‹_›, h⟩
  · cases h

/-- the lenient reference reader's verdict **"the framing is incomplete or a chunk-size line is
unparseable"** on the bytes that are there (and after which the peer's FIN follows), from the three
positions of `http.client`'s chunk bookkeeping: `some (k+1)` = inside a chunk with `k+1` bytes owed,
`some 0` = before the CRLF that ends a chunk, `none` = at a size line.  (A negative size, or a
last-chunk line — complete or cut after its digit — are not `Broken`: DESIGN §6 C13.) -/
inductive Broken : Option Nat → Bytes → Prop
  | short (k : Nat) (c : Bytes) : c.length < k + 1 → Broken (some (k + 1)) c
  | data (k : Nat) (c : Bytes) : k + 1 ≤ c.length → Broken (some 0) (c.drop (k + 1)) → Broken (some (k + 1)) c
  | nosep (c : Bytes) : c.length < 2 → Broken (some 0) c
  | sep (c : Bytes) : 2 ≤ c.length → Broken none (c.drop 2) → Broken (some 0) c
  | badline (c : Bytes) : parseSize (cutExt (lineOf c)) = .valueError → Broken none c
  | line (c : Bytes) (n : Nat) : parseSize (cutExt (lineOf c)) = .ok (n + 1) →
      Broken (some (n + 1)) (c.drop (lineOf c).length) → Broken none c

/-- a broken wire is outside the well-framed domain of C12: the reference reader `refBody` does not
accept it -/
theorem Broken.not_complete {cl : Option Nat} {c : Bytes} (hb : Broken cl c) : refBody cl c = none := by
  induction hb with
  | short k c hlen => rw [refBody_pos_eq, if_pos hlen]
  | data k c hlen _ ih =>
    rw [refBody_pos_eq, if_neg (by omega), ih]
    rfl
  | nosep c hlen => rw [refBody_zero_eq, if_pos hlen]
  | sep c hlen _ ih => rw [refBody_zero_eq, if_neg (by omega), ih]
  | badline c hv => rw [refBody_line_eq, hv]
  | line c n hn _ ih =>
    rw [refBody_line_eq, hn]
    exact ih

/-- the reference reader as a relation with a verdict: from position `cl`, over the bytes `c`, it
delivers the data bytes `p` and then ends at a last-chunk line (`v = true`: `refBody cl c = some p`) or
at the damage (`v = false`: `Broken cl c`, and `p` is what whole and cut chunks held before it) -/
inductive Ref : Option Nat → Bytes → Bytes → Bool → Prop
  | short (k : Nat) (c : Bytes) : c.length < k + 1 → Ref (some (k + 1)) c c false
  | data (k : Nat) (c p : Bytes) (v : Bool) : k + 1 ≤ c.length → Ref (some 0) (c.drop (k + 1)) p v →
      Ref (some (k + 1)) c (c.take (k + 1) ++ p) v
  | nosep (c : Bytes) : c.length < 2 → Ref (some 0) c [] false
  | sep (c p : Bytes) (v : Bool) : 2 ≤ c.length → Ref none (c.drop 2) p v → Ref (some 0) c p v
  | badline (c : Bytes) : parseSize (cutExt (lineOf c)) = .valueError → Ref none c [] false
  | last (c : Bytes) : parseSize (cutExt (lineOf c)) = .ok 0 → Ref none c [] true
  | line (c : Bytes) (n : Nat) (p : Bytes) (v : Bool) : parseSize (cutExt (lineOf c)) = .ok (n + 1) →
      Ref (some (n + 1)) (c.drop (lineOf c).length) p v → Ref none c p v

theorem Ref.sound {cl : Option Nat} {c p : Bytes} {v : Bool} (h : Ref cl c p v) :
    (v = true → refBody cl c = some p) ∧ (v = false → Broken cl c) := by
  induction h with
  | short k c hl => exact ⟨nofun, fun _ => .short k c hl⟩
  | data k c p v hl _ ih =>
    refine ⟨fun hv => ?_, fun hv => .data k c hl (ih.2 hv)⟩
    rw [refBody_pos_eq, if_neg (by omega), ih.1 hv]
    rfl
  | nosep c hl => exact ⟨nofun, fun _ => .nosep c hl⟩
  | sep c p v hl _ ih =>
    refine ⟨fun hv => ?_, fun hv => .sep c hl (ih.2 hv)⟩
    rw [refBody_zero_eq, if_neg (by omega), ih.1 hv]
  | badline c hb => exact ⟨nofun, fun _ => .badline c hb⟩
  | last c hz => exact ⟨fun _ => by rw [refBody_line_eq, hz], nofun⟩
  | line c n p v hn _ ih =>
    refine ⟨fun hv => ?_, fun hv => .line c n hn (ih.2 hv)⟩
    rw [refBody_line_eq, hn]
    exact ih.1 hv

theorem Ref.of_broken {cl : Option Nat} {c : Bytes} (h : Broken cl c) : ∃ p, Ref cl c p false := by
  induction h with
  | short k c hl => exact ⟨_, .short k c hl⟩
  | data k c hl _ ih => exact ih.elim fun p hp => ⟨_, .data k c p _ hl hp⟩
  | nosep c hl => exact ⟨_, .nosep c hl⟩
  | sep c hl _ ih => exact ih.elim fun p hp => ⟨p, .sep c p _ hl hp⟩
  | badline c hb => exact ⟨_, .badline c hb⟩
  | line c n hn _ ih => exact ih.elim fun p hp => ⟨p, .line c n p _ hn hp⟩

theorem Ref.of_refBody {cl : Option Nat} {c p : Bytes} (h : refBody cl c = some p) : Ref cl c p true := by
  induction hm : c.length using Nat.strongRecOn generalizing cl c p with
  | _ m ih =>
    subst hm
    rcases cl with _ | _ | k
    · rcases refBody_line h with ⟨hz, rfl⟩ | ⟨n, hn, h1⟩
      · exact .last c hz
      · have := lineOf_pos_of_size hn
        have := lineOf_length_le c
        exact .line c n p _ hn (ih _ (by rw [List.length_drop]; omega) h1 rfl)
    · obtain ⟨hl, h1⟩ := refBody_zero h
      exact .sep c p _ hl (ih _ (by rw [List.length_drop]; omega) h1 rfl)
    · obtain ⟨hl, p2, h2, rfl⟩ := refBody_pos h
      exact .data k c p2 _ hl (ih _ (by rw [List.length_drop]; omega) h2 rfl)

theorem Ref.advance {k : Nat} {c p : Bytes} {v : Bool} (a : Nat) (ha : a ≤ k) (hac : a ≤ c.length)
    (h : Ref (some k) c p v) : Ref (some (k - a)) (c.drop a) (p.drop a) v ∧ p.take a = c.take a := by
  cases h with
  | nosep _ hl =>
    cases Nat.le_zero.mp ha
    exact ⟨.nosep c hl, rfl⟩
  | sep _ _ _ hl h2 =>
    cases Nat.le_zero.mp ha
    exact ⟨.sep c p v hl h2, rfl⟩
  | short k _ hl =>
    obtain ⟨j, hj⟩ : ∃ j, k + 1 - a = j + 1 := ⟨k - a, by omega⟩
    rw [hj]
    exact ⟨.short j _ (by rw [List.length_drop]; omega), rfl⟩
  | data k _ p2 _ hl h2 =>
    have hpt : (c.take (k + 1) ++ p2).take a = c.take a := by
      rw [List.take_append_of_le_length (by simp only [List.length_take]; omega), List.take_take,
        Nat.min_eq_left ha]
    have hpd : (c.take (k + 1) ++ p2).drop a = (c.drop a).take (k + 1 - a) ++ p2 := by
      rw [List.drop_append_of_le_length (by simp only [List.length_take]; omega), List.drop_take]
    refine ⟨?_, hpt⟩
    rw [hpd]
    by_cases hak : a = k + 1
    · subst hak
      simpa using h2
    · obtain ⟨j, hj⟩ : ∃ j, k + 1 - a = j + 1 := ⟨k - a, by omega⟩
      rw [hj]
      refine .data j _ p2 v (by rw [List.length_drop]; omega) ?_
      rw [List.drop_drop, show a + (j + 1) = k + 1 by omega]
      exact h2

theorem Ref.avail {k : Nat} {c p : Bytes} {v : Bool} (h : Ref (some k) c p v) :
    min k c.length ≤ p.length ∧ (c.length < k → v = false ∧ p = c) := by
  cases h with
  | nosep _ hl => exact ⟨Nat.zero_le _, fun h => absurd h (Nat.not_lt_zero _)⟩
  | sep _ _ _ hl h2 => exact ⟨Nat.zero_le _, fun h => absurd h (Nat.not_lt_zero _)⟩
  | short k _ hl => exact ⟨Nat.min_le_right _ _, fun _ => ⟨rfl, rfl⟩⟩
  | data k _ p2 _ hl h2 =>
    refine ⟨?_, fun h => by omega⟩
    simp only [List.length_append, List.length_take]
    omega

end U3.Resp
