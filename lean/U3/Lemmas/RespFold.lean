import U3.Lemmas.Resp
/-! Tools for the decoder wrappers: the anatomy of one `decompressobj` call (`feedLoop_split`: it
consumes a prefix completely, then stops at `eof` or fails at one byte), a byte fold with output
(`foldRun`, which the deflate wrapper is written with), and the transport of a `StreamLaw` along an
embedding of decoder states (`StreamLaw.At.lift`). -/
namespace U3.Resp
open U3

def foldRun {α : Type} (step : α → Nat → Option (α × Bytes)) : α → Bytes → Option (α × Bytes)
  | a, [] => some (a, [])
  | a, b :: t =>
    match step a b with
    | none => none
    | some (a1, o) =>
      match foldRun step a1 t with
      | none => none
      | some (a2, o2) => some (a2, o ++ o2)

section
variable {α : Type} (step : α → Nat → Option (α × Bytes))

theorem foldRun_nil (a : α) : foldRun step a [] = some (a, []) := by rw [foldRun]

theorem foldRun_cons (a : α) (b : Nat) (t : Bytes) :
    foldRun step a (b :: t) =
      (step a b).bind fun r => (foldRun step r.1 t).map fun r' => (r'.1, r.2 ++ r'.2) := by
  rw [foldRun]
  cases step a b with
  | none => rfl
  | some r => cases h : foldRun step r.1 t <;> simp [h]

theorem foldRun_append (x y : Bytes) (a : α) :
    foldRun step a (x ++ y) =
      (foldRun step a x).bind fun r => (foldRun step r.1 y).map fun r' => (r'.1, r.2 ++ r'.2) := by
  induction x generalizing a with
  | nil => cases h : foldRun step a y <;> simp [foldRun_nil, h]
  | cons b t ih =>
    rw [List.cons_append, foldRun_cons, foldRun_cons]
    cases step a b with
    | none => rfl
    | some r =>
      rw [Option.bind_some, Option.bind_some, ih]
      cases foldRun step r.1 t with
      | none => rfl
      | some r1 => cases h : foldRun step r1.1 y <;> simp [h, List.append_assoc]

end

section
variable {ρ : Type} (O : RawObj ρ)

/-- the `decompressobj` takes all of `data` from state `s`, byte by byte and never at `eof`, and ends
in `s'` having put out `out` -/
inductive Feeds : ρ → Bytes → ρ → Bytes → Prop
  | nil (s : ρ) : Feeds s [] s []
  | cons {s s1 s' : ρ} {b : Nat} {t o out : Bytes} : O.eof s = false → O.step s b = .ok (s1, o) →
      Feeds s1 t s' out → Feeds s (b :: t) s' (o ++ out)

theorem feedLoop_split (data : Bytes) (s : ρ) :
    ∃ used rest s' out, data = used ++ rest ∧ Feeds O s used s' out ∧
      ((feedLoop O s data [] = .ok (s', out, rest) ∧ (rest ≠ [] → O.eof s' = true) ∧
          (data ≠ [] → rest.length < data.length + if O.eof s = true then 1 else 0)) ∨
        ∃ b t e, rest = b :: t ∧ O.eof s' = false ∧ O.step s' b = .error e ∧
          feedLoop O s data [] = .error e) := by
  induction data generalizing s with
  | nil => exact ⟨[], [], s, [], rfl, .nil s, .inl ⟨feedLoop_nil O s, fun h => absurd rfl h, fun h => absurd rfl h⟩⟩
  | cons b t ih =>
    cases he : O.eof s with
    | true =>
      exact ⟨[], b :: t, s, [], rfl, .nil s, .inl ⟨feedLoop_eof O fun _ => he, fun _ => he, fun _ => by simp⟩⟩
    | false =>
      cases hs : O.step s b with
      | error e => exact ⟨[], b :: t, s, [], rfl, .nil s, .inr ⟨b, t, e, rfl, he, hs, feedLoop_step_error O he hs t⟩⟩
      | ok r =>
        obtain ⟨used, rest, s', out, hd, hu, hc⟩ := ih r.1
        refine ⟨b :: used, rest, s', r.2 ++ out, congrArg _ hd, .cons he hs hu, ?_⟩
        rw [feedLoop_step_ok O he hs t]
        rcases hc with ⟨hf, hr, _⟩ | ⟨b', t', e, hr, he', hs', hf⟩
        · exact .inl ⟨by rw [hf]; rfl, hr, fun _ => by simp [hd]; omega⟩
        · exact .inr ⟨b', t', e, hr, he', hs', by rw [hf]; rfl⟩

variable {O} {s s' : ρ} {data out : Bytes}

theorem Feeds.of_feedLoop (h : feedLoop O s data [] = .ok (s', out, [])) : Feeds O s data s' out := by
  obtain ⟨used, _, _, _, hd, hu, ⟨hf, _⟩ | ⟨_, _, _, _, _, _, hf⟩⟩ := feedLoop_split O data s
  · rw [h] at hf
    cases hf
    rw [hd, List.append_nil]
    exact hu
  · rw [h] at hf
    cases hf

theorem Feeds.feedLoop_eq (h : Feeds O s data s' out) : feedLoop O s data [] = .ok (s', out, []) := by
  induction h with
  | nil s => exact feedLoop_nil O s
  | cons he hs _ ih =>
    rw [feedLoop_step_ok O he hs, ih]
    rfl

theorem feedLoop_then {s1 s2 : ρ} {a b o1 o2 r2 : Bytes}
    (h1 : feedLoop O s a [] = .ok (s1, o1, [])) (h2 : feedLoop O s1 b [] = .ok (s2, o2, r2)) :
    feedLoop O s (a ++ b) [] = .ok (s2, o1 ++ o2, r2) := by
  rw [feedLoop_append, h1]
  simp [h2, Except.map]

end

/-- the streaming law at the one decoder state `d` -/
def StreamLaw.At {δ : Type} (D : Dec δ) (G : δ → Bytes → Bytes → Prop) (d : δ) : Prop :=
  (∀ a b p, G d (a ++ b) p → ∃ o d', D.decompress d a = (.ok o, d') ∧ ∃ p', p = o ++ p' ∧ G d' b p') ∧
  (∀ p, G d [] p → p = [] ∧ ∃ d', D.flush d = (.ok [], d') ∧ G d' [] [])

theorem StreamLaw.of_at {δ : Type} {D : Dec δ} {G : δ → Bytes → Bytes → Prop} (h : ∀ d, StreamLaw.At D G d) :
    StreamLaw D G :=
  ⟨fun d => (h d).1, fun d => (h d).2⟩

/-- a decoder `D'` that on the states `emb d` runs `D` obeys the streaming law at those states, for the
relation it has there -/
theorem StreamLaw.At.lift {δ δ' : Type} {D : Dec δ} {D' : Dec δ'} {G' : δ' → Bytes → Bytes → Prop} (emb : δ → δ')
    (h : StreamLaw D fun d => G' (emb d))
    (hdec : ∀ d a, D'.decompress (emb d) a = ((D.decompress d a).1, emb (D.decompress d a).2))
    (hfl : ∀ d, D'.flush (emb d) = ((D.flush d).1, emb (D.flush d).2)) (d : δ) :
    StreamLaw.At D' G' (emb d) := by
  constructor
  · intro a b p hg
    obtain ⟨o, d', h1, hp⟩ := h.feed d a b p hg
    exact ⟨o, emb d', by rw [hdec, h1], hp⟩
  · intro p hg
    obtain ⟨hp, d', h1, h2⟩ := h.done d p hg
    exact ⟨hp, emb d', by rw [hfl, h1], h2⟩

end U3.Resp
