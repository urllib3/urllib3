import U3.Model.Manager
import U3.Lemmas.Retry
/-! The redirect loops of `U3.Manager` (C05 / C06): `Loop`, the shape `HTTPConnectionPool.urlopen` and
`PoolManager.urlopen` share; one traversal of each step function (`pool_loop`, `mgr_loop`); `Trace`,
the retry policy along a run. -/
namespace U3.Manager
open U3 U3.Headers U3.Retry

/-- what `increment` on a redirect makes of `r` before `is_exhausted` is asked (`__init__`
lower-cases the strip set again) -/
theorem new_redirect (r : Retry) (h : List Hist) :
    r.new r.total.dec r.connect r.read r.redirect.dec r.status r.other h =
      { r with total := r.total.dec, redirect := r.redirect.dec, history := h,
               removeHeadersOnRedirect := r.removeHeadersOnRedirect.map lower } := by
  simp only [Retry.new, Retry.init]
  rw [if_neg (by simp [Count.dec_ne_disabled])]

/-- none of the counters a redirect does not touch is negative (a `Retry` built with a negative
`connect=` / `read=` / `status=` / `other=` is exhausted before anything happened) -/
def SaneCounters (r : Retry) : Prop :=
  ∀ n : Int, (r.connect = .num n ∨ r.read = .num n ∨ r.status = .num n ∨ r.other = .num n) → 0 ≤ n

/-- what a successful `increment` on a redirect makes of the policy: the two counters that pay for redirects pay
one unit each, `raise_on_redirect` stays, and the strip set is lower-cased again -/
structure Redirected (r r' : Retry) : Prop where
  redirect : r.redirect.budget = r'.redirect.budget.map (· + 1)
  total : r.total.budget = r'.total.budget.map (· + 1)
  raiseOnRedirect : r'.raiseOnRedirect = r.raiseOnRedirect
  sane : SaneCounters r → SaneCounters r'
  strip : r'.removeHeadersOnRedirect = r.removeHeadersOnRedirect.map lower

theorem increment_redirect_ok {r r' : Retry} {m : Option Str} {st : Nat}
    (h : r.increment m (.redirect st) = .ok r') : Redirected r r' := by
  have H := Retry.increment_ok h
  obtain ⟨rfl, -⟩ := Retry.finish_ok h
  rw [new_redirect] at H ⊢
  exact ⟨H.ledger (some .redirect), H.ledger none, rfl, id, rfl⟩

/-- `MaxRetryError` on a redirect is never premature: one of the two counters that pay for redirects
is used up -/
theorem increment_redirect_fail {r : Retry} {m : Option Str} {st : Nat} {e : Raise}
    (hs : SaneCounters r) (h : r.increment m (.redirect st) = .error e) :
    r.redirect.budget = some 0 ∨ r.total.budget = some 0 := by
  simp only [Retry.increment, Retry.finish, new_redirect] at h
  split at h
  · rename_i hex
    obtain ⟨n, hmem, hn⟩ := (Retry.isExhausted_iff _).1 hex
    simp only [Retry.counters, List.mem_cons, List.not_mem_nil, or_false] at hmem
    rcases hmem with hc | hc | hc | hc | hc | hc
    · exact Or.inr (Count.dec_neg_budget hc.symm hn)
    · have := hs n (Or.inl hc.symm)
      omega
    · have := hs n (Or.inr (Or.inl hc.symm))
      omega
    · exact Or.inl (Count.dec_neg_budget hc.symm hn)
    · have := hs n (Or.inr (Or.inr (Or.inl hc.symm)))
      omega
    · have := hs n (Or.inr (Or.inr (Or.inr hc.symm)))
      omega
  · cases h

/-- `Retry(total, redirect=…)`: the other counters keep their default `None` -/
theorem sane_ofTotal (t rd : Count) : SaneCounters (Retry.ofTotal t rd) := by
  intro n hn
  simp only [Retry.ofTotal, Retry.init_fields] at hn
  rcases hn with h | h | h | h <;> cases h

theorem sane_fromInt (a d : Arg) (redirect : Bool) (ha : ∀ r, a ≠ .retry r)
    (hd : a = .none → ∀ r, d = .retry r → SaneCounters r) : SaneCounters (Retry.fromInt a redirect d) := by
  cases a with
  | retry r => exact absurd rfl (ha r)
  | none =>
    cases d with
    | retry r => cases redirect <;> exact hd rfl r rfl
    | _ => cases redirect <;> exact sane_ofTotal _ _
  | _ => cases redirect <;> exact sane_ofTotal _ _

@[simp] theorem Run.cons_log (s : Sent) (r : Run) : (r.cons s).log = s :: r.log := rfl
@[simp] theorem Run.cons_outcome (s : Sent) (r : Run) : (r.cons s).outcome = r.outcome := rfl
@[simp] theorem Run.append_outcome (l : List Sent) (r : Run) : (r.append l).outcome = r.outcome := rfl
@[simp] theorem Run.withUrl_outcome (r : Run) (u : Str) : (r.withUrl u).outcome = r.outcome := rfl

/-- the run ended in neither of the two outcomes that redirects decide about: `MaxRetryError`, a response -/
def NoReply (o : Outcome) : Prop := o ≠ .maxRetry ∧ ∀ x, o ≠ .response x

/-- the ways a request `s` that was sent under the policy `r` is *not* followed, and the outcome `o` the run
then has -/
inductive EndsWith (redirect : Bool) (r : Retry) (s : Sent) (o : Outcome) : Prop
  | statusRetry (ho : o = .statusRetry)
  | oracleMissing (ho : o = .oracleMissing)
  | returned (ho : o = .response s.reply) (hno : redirect = false ∨ s.reply.redirectLocation = none)
  | exhausted (hred : redirect = true) (hfol : s.reply.redirectLocation.isSome = true)
      (hinc : ∃ m' c, r.increment (some m') (.redirect s.reply.status) = .error (.maxRetry c))
      (ho : o = (if r.raiseOnRedirect then .maxRetry else .response s.reply))

theorem onExhausted_eq (b : Bool) (s : Sent) :
    onExhausted b [s] ⟨[s], .response s.reply⟩ = ⟨[s], if b then .maxRetry else .response s.reply⟩ := by
  cases b <;> rfl

/-! `HTTPConnectionPool.urlopen` and `PoolManager.urlopen` both make one pass and, on a redirect they
follow, call themselves with new arguments.  `Loop` describes the run of such a recursion from the
arguments `a`, given what a pass can do: stop before anything is sent (`Stop`), send `s` (`Pass`) and
end the run there (`Last`), or send `s` and recurse with the arguments `b` (`Next`). -/

section Loop
variable {σ : Type} {Stop : σ → Outcome → Prop} {Pass : σ → Sent → Prop}
  {Last : σ → Sent → Outcome → Prop} {Next : σ → Sent → σ → Prop}

variable (Stop Pass Last Next) in
inductive Loop : σ → Run → Prop
  | stop {a o} : Stop a o → Loop a ⟨[], o⟩
  | last {a s o} : Pass a s → Last a s o → Loop a ⟨[s], o⟩
  | next {a s b R} : Pass a s → Next a s b → Loop b R → Loop a (R.cons s)

namespace Loop
variable {a : σ} {R : Run}

theorem head (h : Loop Stop Pass Last Next a R) {s : Sent} (hs : R.log.head? = some s) : Pass a s := by
  cases h with
  | stop => cases hs
  | last hp =>
    cases hs
    exact hp
  | next hp =>
    cases hs
    exact hp

/-- `I`: an invariant of the arguments the recursion threads through -/
theorem all (I : σ → Prop) (hI : ∀ {a s b}, I a → Next a s b → I b) (h : Loop Stop Pass Last Next a R)
    (hi : I a) : ∀ s ∈ R.log, ∃ a', I a' ∧ Pass a' s := by
  induction h with
  | stop =>
    intro s hs
    cases hs
  | last hp =>
    intro s hs
    rw [List.mem_singleton.1 hs]
    exact ⟨_, hi, hp⟩
  | next hp hn _ ih =>
    intro s hs
    rcases List.mem_cons.1 hs with rfl | hs
    · exact ⟨_, hi, hp⟩
    · exact ih (hI hi hn) s hs

theorem pass_of_mem (h : Loop Stop Pass Last Next a R) (s : Sent) (hs : s ∈ R.log) : ∃ a', Pass a' s :=
  let ⟨a', _, hp⟩ := h.all (fun _ => True) (fun _ _ => trivial) trivial s hs
  ⟨a', hp⟩

/-- a request and its follow-up: the second is sent from the arguments of the first's recursive call -/
theorem hop (I : σ → Prop) (hI : ∀ {a s b}, I a → Next a s b → I b) (h : Loop Stop Pass Last Next a R)
    (hi : I a) (i : Nat) (x y : Sent) (hx : R.log[i]? = some x) (hy : R.log[i + 1]? = some y) :
    ∃ a' b', I a' ∧ Pass a' x ∧ Next a' x b' ∧ Pass b' y ∧
      Loop Stop Pass Last Next b' ⟨R.log.drop (i + 1), R.outcome⟩ := by
  induction h generalizing i with
  | stop => cases hx
  | last => cases hy
  | next hp hn hl ih =>
    rw [Run.cons_log, List.getElem?_cons_succ] at hy
    cases i with
    | zero =>
      cases hx
      exact ⟨_, _, hi, hp, hn, hl.head (by rw [List.head?_eq_getElem?]; exact hy), hl⟩
    | succ i => exact ih (hI hi hn) i hx hy

theorem map {τ : Type} {Stop' : τ → Outcome → Prop} {Pass' : τ → Sent → Prop}
    {Last' : τ → Sent → Outcome → Prop} {Next' : τ → Sent → τ → Prop} (f : σ → τ)
    (hS : ∀ {a o}, Stop a o → Stop' (f a) o) (hP : ∀ {a s}, Pass a s → Pass' (f a) s)
    (hL : ∀ {a s o}, Last a s o → Last' (f a) s o) (hN : ∀ {a s b}, Next a s b → Next' (f a) s (f b))
    (h : Loop Stop Pass Last Next a R) : Loop Stop' Pass' Last' Next' (f a) R := by
  induction h with
  | stop h => exact .stop (hS h)
  | last hp hl => exact .last (hP hp) (hL hl)
  | next hp hn _ ih => exact .next (hP hp) (hN hn) ih

end Loop
end Loop

@[simp] theorem deriveRetry_retry (r : Retry) (b : Bool) (d : Arg) : deriveRetry (.retry r) b d = r := rfl

/-- the proxy merge of `HTTPConnectionPool.urlopen` -/
def poolMerge (p : Pool) (scheme : Option Str) (h : Hdrs) : Hdrs :=
  if requiresTunnel p.proxy scheme then h
  else h.copy.updateDict (match p.proxy with | some px => px.headers | none => [])

section
variable {W : World} {p : Pool} {method url : Str} {body : Option Bytes} {headers : Option Hdrs}
  {retries : Arg} {redirect ash : Bool}

variable (W p method url body headers retries redirect ash) in
/-- what is known of a pass of `urlopen` that put `s` on the wire: `pu` is the parsed `url`, `r` the policy
in force and `hs` the (proxy-merged) headers variable -/
structure Attempted (s : Sent) (r : Retry) (hs : Hdrs) (pu : PUrl) : Prop where
  parse : W.parse url = some pu
  same : ash = true → isSameHost p.id url pu = true
  retry : r = deriveRetry retries redirect p.retries
  merged : hs = poolMerge p pu.scheme (headers.getD p.headers)
  method_eq : s.method = method
  body_eq : s.body = body
  url_eq : s.url = url
  target : s.target = pu.target
  items : s.headers = (poolMerge p pu.scheme (headers.getD p.headers)).items
  direct : p.proxy = none → s.dest = p.id.origin ∧ s.dial = p.id.origin ∧ s.tunnel = false ∧
    s.reply = W.serve p.id.origin method pu.target

theorem poolAttempt_ok {s : Sent} {r : Retry} {hs : Hdrs}
    (h : poolAttempt W p method url body headers retries redirect ash = .ok (s, r, hs)) :
    ∃ pu, Attempted W p method url body headers retries redirect ash s r hs pu := by
  unfold poolAttempt at h
  split at h
  · cases h
  · rename_i pu hpu
    split at h
    · cases h
    · rename_i hsame
      cases h
      exact ⟨pu, hpu, fun ha => by simpa [ha] using hsame, rfl, rfl, rfl, rfl, rfl, rfl, rfl,
        fun hp => by simp [hp, requiresTunnel]⟩

theorem poolAttempt_error {o : Outcome}
    (h : poolAttempt W p method url body headers retries redirect ash = .error o) :
    (o = .oracleMissing ∧ W.parse url = none) ∨
    (o = .hostChanged ∧ ash = true ∧ ∃ pu, W.parse url = some pu ∧ isSameHost p.id url pu = false) := by
  unfold poolAttempt at h
  split at h
  · rename_i hp
    cases h
    exact Or.inl ⟨rfl, hp⟩
  · rename_i pu hpu
    split at h
    · rename_i hc
      cases h
      rw [Bool.and_eq_true, Bool.not_eq_true'] at hc
      exact Or.inr ⟨rfl, hc.1, pu, hpu, hc.2⟩
    · cases h

end

/-- the arguments `HTTPConnectionPool.urlopen` changes when it calls itself -/
structure PoolArgs where
  method : Str
  url : Str
  body : Option Bytes
  headers : Option Hdrs
  retries : Arg

section Pool
variable (W : World) (p : Pool) (redirect ash : Bool)

/-- a pass that sends nothing: the model's fuel is used up, or the URL has no parse or names another host
(`poolAttempt_error`) -/
def PoolStop (a : PoolArgs) (o : Outcome) : Prop :=
  o = .outOfFuel ∨ poolAttempt W p a.method a.url a.body a.headers a.retries redirect ash = .error o

/-- the request one pass of `HTTPConnectionPool.urlopen` puts on the wire, with what is known of it -/
def PoolPass (a : PoolArgs) (s : Sent) : Prop :=
  ∃ hs pu, Attempted W p a.method a.url a.body a.headers a.retries redirect ash s
    (deriveRetry a.retries redirect p.retries) hs pu

/-- the pool has no `urljoin` and asks `is_retry` only about replies it does not follow -/
def PoolLast (a : PoolArgs) (s : Sent) (o : Outcome) : Prop :=
  EndsWith redirect (deriveRetry a.retries redirect p.retries) s o ∧
  (redirect = true → s.reply.redirectLocation.isSome = true → o = .maxRetry ∨ o = .response s.reply)

/-- the recursive call of the pool's redirect branch; `hs` is the (proxy-merged) headers variable -/
def PoolNext (a : PoolArgs) (s : Sent) (b : PoolArgs) : Prop :=
  ∃ hs loc r', poolAttempt W p a.method a.url a.body a.headers a.retries redirect ash
      = .ok (s, deriveRetry a.retries redirect p.retries, hs) ∧
    redirect = true ∧ s.reply.redirectLocation = some loc ∧
    (deriveRetry a.retries redirect p.retries).increment
      (some (rewrite303 s.reply.status a.method a.body hs).1) (.redirect s.reply.status) = .ok r' ∧
    b = ⟨(rewrite303 s.reply.status a.method a.body hs).1, loc,
      (rewrite303 s.reply.status a.method a.body hs).2.1,
      some (rewrite303 s.reply.status a.method a.body hs).2.2, .retry r'⟩

/-- the runs of `HTTPConnectionPool.urlopen` -/
abbrev PoolLoop : PoolArgs → Run → Prop :=
  Loop (PoolStop W p redirect ash) (PoolPass W p redirect ash) (PoolLast p redirect) (PoolNext W p redirect ash)

/-- one case per branch of `poolStep`, in source order -/
theorem pool_loop (fuel : Nat) (a : PoolArgs) :
    PoolLoop W p redirect ash a (poolUrlopen W p fuel a.method a.url a.body a.headers a.retries redirect ash) := by
  induction fuel generalizing a with
  | zero => exact .stop (.inl rfl)
  | succ n ih =>
    simp only [poolUrlopen, poolStep]
    cases hpa : poolAttempt W p a.method a.url a.body a.headers a.retries redirect ash with
    | error o => exact .stop (.inr hpa)
    | ok x =>
      obtain ⟨s, r, hs⟩ := x
      obtain ⟨pu, A⟩ := poolAttempt_ok hpa
      cases A.retry
      have hp : PoolPass W p redirect ash a s := ⟨hs, pu, A⟩
      simp only []
      cases hloc : (if redirect = true then s.reply.redirectLocation else none) with
      | none =>
        have hno : redirect = false ∨ s.reply.redirectLocation = none := by cases redirect <;> simp_all
        have hfol : redirect = true → s.reply.redirectLocation.isSome = true → False := by
          rintro rfl h
          simp_all
        simp only [notFollowed]
        split
        · exact .last hp ⟨.statusRetry rfl, fun h1 h2 => (hfol h1 h2).elim⟩
        · exact .last hp ⟨.returned rfl hno, fun h1 h2 => (hfol h1 h2).elim⟩
      | some loc =>
        obtain ⟨hred, hl⟩ : redirect = true ∧ s.reply.redirectLocation = some loc := by
          cases redirect <;> simp_all
        cases hinc : (deriveRetry a.retries redirect p.retries).increment
            (some (rewrite303 s.reply.status a.method a.body hs).1) (.redirect s.reply.status) with
        | error e =>
          obtain rfl := Retry.finish_error hinc
          rw [onExhausted_eq]
          exact .last hp ⟨.exhausted hred (by rw [hl]; rfl) ⟨_, _, hinc⟩ rfl, fun _ _ => by split <;> simp⟩
        | ok r' => exact .next hp ⟨hs, loc, r', hpa, hred, hl, hinc, rfl⟩ (ih _)

end Pool

@[simp] theorem proxyKw_fields (m : Mgr) (u : PUrl) (kw : Kw) :
    (proxyKw m u kw).body = kw.body ∧ (proxyKw m u kw).retries = kw.retries := by
  unfold proxyKw
  split
  · split <;> exact ⟨rfl, rfl⟩
  · exact ⟨rfl, rfl⟩

/-- the request target the manager hands to the pool -/
def mgrTarget (m : Mgr) (u : PUrl) (url : Str) : Str :=
  if (m.proxy.isSome && !requiresTunnel m.proxy u.scheme) = true then url else u.requestUri

/-- the headers the manager hands to the pool -/
def mgrHeaders (m : Mgr) (u : PUrl) (kw : Kw) : Hdrs := (proxyKw m u kw).headers.getD m.headers

theorem connectionFromHost_cases {m : Mgr} {host : Option Str} {port : Option Nat} {scheme : Option Str} :
    (∀ {o}, connectionFromHost m host port scheme = .error o → NoReply o) ∧
    (∀ {conn}, connectionFromHost m host port scheme = .ok conn → conn.proxy = m.proxy) := by
  have pm : ∀ host port scheme,
      (∀ {o}, pmConnectionFromHost m host port scheme = .error o → NoReply o) ∧
      (∀ {conn}, pmConnectionFromHost m host port scheme = .ok conn → conn.proxy = m.proxy) := by
    intro host port scheme
    unfold pmConnectionFromHost
    split
    · exact ⟨by rintro _ ⟨⟩; exact ⟨nofun, nofun⟩, nofun⟩
    · dsimp only
      generalize (if truthyStr scheme = true then scheme.getD [] else sHttp) = sch
      split
      · exact ⟨nofun, by rintro _ ⟨⟩; rfl⟩
      · exact ⟨by rintro _ ⟨⟩; exact ⟨nofun, nofun⟩, nofun⟩
  unfold connectionFromHost
  split
  · exact pm ..
  · split <;> exact pm ..

theorem mgrSend_eq (W : World) (m : Mgr) (conn : Pool) (u : PUrl) (method url : Str) (kw : Kw) :
    mgrSend W m conn u method url kw =
      match poolAttempt W conn method (mgrTarget m u url) kw.body (some (kw.headers.getD m.headers))
          kw.retries false false with
      | .error o => ⟨[], o⟩
      | .ok (s, r, _) => ⟨[{ s with url := url }], (notFollowed r method s).outcome⟩ := by
  simp only [mgrSend, poolUrlopen, poolStep, mgrTarget]
  generalize poolAttempt W conn method _ _ _ _ _ _ = x
  cases x with
  | error o => rfl
  | ok x =>
    simp only [Bool.false_eq_true, if_false, notFollowed]
    split <;> rfl

/-- what is known when one pass of the manager ends in the recursive call -/
structure MgrNext (W : World) (m : Mgr) (method url : Str) (redirect : Bool) (kw : Kw)
    (log : List Sent) (m' u' : Str) (kw' : Kw) where
  u : PUrl
  conn : Pool
  s : Sent
  hs : Hdrs
  r0 : Retry
  loc : Str
  r' : Retry
  same : Bool
  parse : W.parse url = some u
  connOk : connectionFromHost m u.host u.port u.scheme = .ok conn
  attempt : poolAttempt W conn method (mgrTarget m u url) kw.body (some (mgrHeaders m u kw)) kw.retries
    false false = .ok (s, r0, hs)
  log_eq : log = [{ s with url := url }]
  redirect_on : redirect = true
  location : s.reply.redirectLocation = some loc
  joined : W.join url loc = some u'
  method_eq : m' = (rewrite303 s.reply.status method kw.body (mgrHeaders m u kw)).1
  body_eq : kw'.body = (rewrite303 s.reply.status method kw.body (mgrHeaders m u kw)).2.1
  headers_eq : kw'.headers = some (if same then (rewrite303 s.reply.status method kw.body (mgrHeaders m u kw)).2.2
    else strip (deriveRetry kw.retries redirect m.retries).removeHeadersOnRedirect
      (rewrite303 s.reply.status method kw.body (mgrHeaders m u kw)).2.2)
  same_eq : ((deriveRetry kw.retries redirect m.retries).removeHeadersOnRedirect.isEmpty = true ∧ same = true) ∨
    (∃ lu, W.parse u' = some lu ∧ same = isSameHost conn.id u' lu)
  retries_eq : kw'.retries = .retry r'
  incr : (deriveRetry kw.retries redirect m.retries).increment (some m') (.redirect s.reply.status) = .ok r'

/-- the request one pass of `PoolManager.urlopen` puts on the wire -/
def MgrPass (W : World) (m : Mgr) (method url : Str) (kw : Kw) (s : Sent) : Prop :=
  ∃ u conn s0 r0 hs, W.parse url = some u ∧ connectionFromHost m u.host u.port u.scheme = .ok conn ∧
    poolAttempt W conn method (mgrTarget m u url) kw.body (some (mgrHeaders m u kw)) kw.retries false false
      = .ok (s0, r0, hs) ∧ s = { s0 with url := url }

/-- the arguments `PoolManager.urlopen` changes when it calls itself -/
structure MgrArgs where
  method : Str
  url : Str
  kw : Kw

/-- the runs of `PoolManager.urlopen`; of a pass that sends nothing only `NoReply` is recorded -/
abbrev MgrLoop (W : World) (m : Mgr) (redirect : Bool) : MgrArgs → Run → Prop :=
  Loop (fun _ => NoReply) (fun a => MgrPass W m a.method a.url a.kw)
    (fun a => EndsWith redirect (deriveRetry a.kw.retries redirect m.retries))
    (fun a s b => Nonempty (MgrNext W m a.method a.url redirect a.kw [s] b.method b.url b.kw))

/-- one case per branch of `mgrStep`, in source order -/
theorem mgr_loop (W : World) (m : Mgr) (redirect : Bool) (fuel : Nat) (a : MgrArgs) :
    MgrLoop W m redirect a (mgrUrlopen W m fuel a.method a.url redirect a.kw) := by
  induction fuel generalizing a with
  | zero => exact .stop ⟨nofun, nofun⟩
  | succ n ih =>
    simp only [mgrUrlopen, mgrStep]
    cases hu : W.parse a.url with
    | none => exact .stop ⟨nofun, nofun⟩
    | some u =>
      simp only []
      cases hconn : connectionFromHost m u.host u.port u.scheme with
      | error o => exact .stop (connectionFromHost_cases.1 hconn)
      | ok conn =>
        have hH : (proxyKw m u a.kw).headers.getD m.headers = mgrHeaders m u a.kw := rfl
        simp only [mgrSend_eq, proxyKw_fields, hH]
        cases hpa : poolAttempt W conn a.method (mgrTarget m u a.url) a.kw.body (some (mgrHeaders m u a.kw))
            a.kw.retries false false with
        | error o =>
          rcases poolAttempt_error hpa with ⟨rfl, _⟩ | ⟨rfl, _⟩ <;> exact .stop ⟨nofun, nofun⟩
        | ok x =>
          obtain ⟨s, r0, hs⟩ := x
          have hp : MgrPass W m a.method a.url a.kw { s with url := a.url } :=
            ⟨u, conn, s, r0, hs, hu, hconn, hpa, rfl⟩
          simp only [notFollowed]
          cases hr : r0.isRetry a.method s.reply.status false with
          | true => exact .last hp (.statusRetry rfl)
          | false =>
            simp only [Bool.false_eq_true, ↓reduceIte]
            cases hloc : (if redirect = true then s.reply.redirectLocation else none) with
            | none =>
              exact .last hp (.returned rfl (by cases redirect <;> simp_all))
            | some loc =>
              obtain ⟨rfl, hl⟩ : redirect = true ∧ s.reply.redirectLocation = some loc := by
                cases redirect <;> simp_all
              simp only [mgrRedirect, proxyKw_fields]
              cases hj : W.join a.url loc with
              | none => exact .last hp (.oracleMissing rfl)
              | some loc' =>
                simp only []
                cases hsame : (if (deriveRetry a.kw.retries true m.retries).removeHeadersOnRedirect.isEmpty
                    then some true else (W.parse loc').map (isSameHost conn.id loc')) with
                | none => exact .last hp (.oracleMissing rfl)
                | some same =>
                  simp only []
                  cases hinc : (deriveRetry a.kw.retries true m.retries).increment
                      (some (rewrite303 s.reply.status a.method a.kw.body (mgrHeaders m u a.kw)).1)
                      (.redirect s.reply.status) with
                  | error e =>
                    obtain rfl := Retry.finish_error hinc
                    exact onExhausted_eq _ { s with url := a.url } ▸
                      .last hp (.exhausted rfl (Option.isSome_iff_exists.2 ⟨loc, hl⟩) ⟨_, _, hinc⟩ rfl)
                  | ok r' =>
                    refine .next hp ⟨{
                      same := same, parse := hu, connOk := hconn, attempt := hpa, log_eq := rfl,
                      redirect_on := rfl, location := hl, joined := hj, method_eq := rfl, body_eq := rfl,
                      headers_eq := rfl, same_eq := ?_, retries_eq := rfl, incr := hinc, .. }⟩ (ih ⟨_, loc', _⟩)
                    split at hsame
                    · next he => exact .inl ⟨he, by cases hsame; rfl⟩
                    · obtain ⟨lu, hlu, h⟩ := Option.map_eq_some_iff.1 hsame
                      exact .inr ⟨lu, hlu, h.symm⟩

section
variable {W : World} {m : Mgr} {method url : Str} {kw : Kw} {s : Sent}

theorem MgrNext.reply {redirect : Bool} {m' u' : Str} {kw' : Kw}
    (N : MgrNext W m method url redirect kw [s] m' u' kw') : s.reply = N.s.reply :=
  (congrArg Sent.reply (List.cons.inj N.log_eq).1 :)

theorem MgrPass.facts (h : MgrPass W m method url kw s) : s.url = url ∧ s.method = method ∧ s.body = kw.body := by
  obtain ⟨u, conn, s0, r0, hs, _, _, hpa, rfl⟩ := h
  obtain ⟨_, A⟩ := poolAttempt_ok hpa
  exact ⟨rfl, A.method_eq, A.body_eq⟩

theorem PoolPass.facts {W : World} {p : Pool} {redirect ash : Bool} {a : PoolArgs} {s : Sent}
    (h : PoolPass W p redirect ash a s) : s.url = a.url ∧ s.method = a.method ∧ s.body = a.body := by
  obtain ⟨_, _, A⟩ := h
  exact ⟨A.url_eq, A.method_eq, A.body_eq⟩

theorem MgrPass.noproxy (h : MgrPass W m method url kw s) (hp : m.proxy = none) :
    ∃ u conn pu, W.parse s.url = some u ∧ connectionFromHost m u.host u.port u.scheme = .ok conn ∧
      W.parse u.requestUri = some pu ∧ s.dest = conn.id.origin ∧ s.dial = conn.id.origin ∧
      s.tunnel = false ∧ s.target = pu.target ∧ s.reply = W.serve conn.id.origin method pu.target := by
  obtain ⟨u, conn, s0, r0, hs, hu, hconn, hpa, rfl⟩ := h
  have htgt : mgrTarget m u url = u.requestUri := by simp [mgrTarget, hp]
  rw [htgt] at hpa
  obtain ⟨pu, A⟩ := poolAttempt_ok hpa
  obtain ⟨h1, h2, h3, h4⟩ := A.direct ((connectionFromHost_cases.2 hconn).trans hp)
  exact ⟨u, conn, pu, hu, hconn, A.parse, h1, h2, h3, A.target, h4⟩

end

/-- the policy `r` in force at the start of a run against the log: every request that is followed
costs one successful `increment` (`Redirected`), and the last one ends the run as `EndsWith` says -/
abbrev Trace (redirect : Bool) : Retry → Run → Prop :=
  Loop (fun _ => NoReply) (fun _ _ => True) (EndsWith redirect)
    (fun r _ r' => redirect = true ∧ Redirected r r')

theorem Trace.followed_le {redirect : Bool} {r : Retry} {R : Run} (h : Trace redirect r R) :
    (∀ b, r.redirect.budget = some b → R.followed ≤ b) ∧ (∀ b, r.total.budget = some b → R.followed ≤ b) := by
  induction h with
  | stop | last => exact ⟨fun _ _ => Nat.zero_le _, fun _ _ => Nat.zero_le _⟩
  | @next _ s _ R _ hn _ ih =>
    have hf : (R.cons s).followed ≤ R.followed + 1 := by
      simp only [Run.followed, Run.cons_log, List.length_cons]
      omega
    rw [hn.2.redirect, hn.2.total]
    constructor <;> intro b hb <;> obtain ⟨b', hb', rfl⟩ := Option.map_eq_some_iff.1 hb
    · have := ih.1 b' hb'
      omega
    · have := ih.2 b' hb'
      omega

/-- **the exhaustion surface**: a run that ends in `MaxRetryError` or a response ends as `EndsWith`
says of its last request, under a policy `rk` that is `r` after one successful `increment` per
redirect followed -/
theorem Trace.ends {redirect : Bool} {r : Retry} {R : Run} (h : Trace redirect r R)
    (ho : ¬ NoReply R.outcome) :
    ∃ s rk, R.log.getLast? = some s ∧ EndsWith redirect rk s R.outcome ∧
      rk.raiseOnRedirect = r.raiseOnRedirect ∧ (SaneCounters r → SaneCounters rk) ∧
      r.redirect.budget = rk.redirect.budget.map (· + R.followed) ∧
      r.total.budget = rk.total.budget.map (· + R.followed) := by
  induction h with
  | stop h => exact absurd h ho
  | @last r s _ _ hl => exact ⟨s, r, rfl, hl, rfl, id, by simp [Run.followed], by simp [Run.followed]⟩
  | @next r s0 r' R _ hn _ ih =>
    obtain ⟨s, rk, hlast, hend, hraise, hsane, hb1, hb2⟩ := ih ho
    have hf : (R.cons s0).followed = R.followed + 1 := by
      cases hR : R.log with
      | nil =>
        rw [hR] at hlast
        cases hlast
      | cons x t => simp [Run.followed, hR]
    refine ⟨s, rk, ?_, hend, hraise.trans hn.2.raiseOnRedirect, hsane ∘ hn.2.sane, ?_, ?_⟩
    · rw [Run.cons_log, List.getLast?_cons, hlast]
      rfl
    · rw [hn.2.redirect, hb1, hf, Option.map_map]
      rfl
    · rw [hn.2.total, hb2, hf, Option.map_map]
      rfl

/-- `redirect=` / `assert_same_host=` default to `True` -/
theorem getD_true_eq_false {o : Option Bool} : o.getD true = false ↔ o = some false := by
  cases o <;> simp

theorem getD_true_of_ne {o : Option Bool} (h : o ≠ some false) : o.getD true = true :=
  Bool.of_not_eq_false (mt getD_true_eq_false.1 h)

def Req.poolArgs (c : Client) (req : Req) : PoolArgs :=
  ⟨(requestWrap c req).1, req.url, req.body, (requestWrap c req).2, req.retries⟩

def Req.mgrArgs (c : Client) (req : Req) : MgrArgs :=
  ⟨(requestWrap c req).1, req.url, ⟨req.body, (requestWrap c req).2, req.retries⟩⟩

theorem run_pool (W : World) (p : Pool) (fuel : Nat) (req : Req) :
    PoolLoop W p (req.redirect.getD true) (req.assertSameHost.getD true) (req.poolArgs (.pool p))
      (run W (.pool p) fuel req) :=
  pool_loop W p _ _ fuel _

theorem run_manager (W : World) (m : Mgr) (fuel : Nat) (req : Req) :
    MgrLoop W m (req.redirect.getD true) (req.mgrArgs (.manager m)) (run W (.manager m) fuel req) :=
  mgr_loop W m _ fuel _

/-- the policy the code consults is the one the caller supplied, wherever it was placed: per request,
on the bare pool, or on the `PoolManager` / `ProxyManager` constructor (`PoolManager.urlopen` falls back
to `connection_pool_kw["retries"]` just as the pool falls back to `self.retries`) -/
theorem effective_eq_supplied (c : Client) (req : Req) : effective c req = supplied c req := by
  cases c <;> rfl

theorem run_trace (W : World) (c : Client) (fuel : Nat) (req : Req) :
    Trace (req.redirect.getD true) (effective c req) (run W c fuel req) := by
  cases c with
  | manager m =>
    refine Loop.map (fun a : MgrArgs => deriveRetry a.kw.retries (req.redirect.getD true) m.retries)
      ?_ ?_ ?_ ?_ (run_manager W m fuel req)
    · exact id
    · exact fun _ => trivial
    · exact id
    · rintro a s b ⟨N⟩
      exact ⟨N.redirect_on, by rw [N.retries_eq]; exact increment_redirect_ok N.incr⟩
  | pool p =>
    refine Loop.map (fun a : PoolArgs => deriveRetry a.retries (req.redirect.getD true) p.retries)
      ?_ ?_ ?_ ?_ (run_pool W p fuel req)
    · rintro a o (rfl | h)
      · exact ⟨nofun, nofun⟩
      · rcases poolAttempt_error h with ⟨rfl, _⟩ | ⟨rfl, _⟩ <;> exact ⟨nofun, nofun⟩
    · exact fun _ => trivial
    · exact fun h => h.1
    · rintro a s b ⟨hs, loc, r', _, hred, _, hinc, rfl⟩
      exact ⟨hred, increment_redirect_ok hinc⟩

theorem rewrite303_hdr_irrel (st : Nat) (method : Str) (body : Option Bytes) (h h' : Hdrs) :
    (rewrite303 st method body h).1 = (rewrite303 st method body h').1 ∧
    (rewrite303 st method body h).2.1 = (rewrite303 st method body h').2.1 := by
  unfold rewrite303
  split <;> exact ⟨rfl, rfl⟩

/-- the follow-up `b` of a request `a`, at manager and pool level: `a` was answered by a redirect, method
and body went through the 303 rewrite, and `b` is for the `Location` (joined to `a`'s URL by the manager) -/
theorem run_hops (W : World) (c : Client) (fuel : Nat) (req : Req) (i : Nat) (a b : Sent)
    (ha : (run W c fuel req).log[i]? = some a) (hb : (run W c fuel req).log[i + 1]? = some b) :
    a.reply.redirectLocation.isSome = true ∧
    b.method = (rewrite303 a.reply.status a.method a.body (.dict [])).1 ∧
    b.body = (rewrite303 a.reply.status a.method a.body (.dict [])).2.1 ∧
    (match c with
     | .pool _ => some b.url = a.reply.redirectLocation
     | .manager _ => ∃ loc, a.reply.redirectLocation = some loc ∧ W.join a.url loc = some b.url) := by
  cases c with
  | pool p =>
    obtain ⟨a', b', -, hpa, ⟨hs, loc, r', -, -, hloc, -, rfl⟩, hpb, -⟩ :=
      (run_pool W p fuel req).hop (fun _ => True) (fun _ _ => trivial) trivial i a b ha hb
    obtain ⟨-, hm, hbd⟩ := hpa.facts
    obtain ⟨hu', hm', hb'⟩ := hpb.facts
    refine ⟨by rw [hloc]; rfl, ?_, ?_, by rw [hu', hloc]⟩
    · rw [hm', hm, hbd]
      exact (rewrite303_hdr_irrel ..).1
    · rw [hb', hm, hbd]
      exact (rewrite303_hdr_irrel ..).2
  | manager m =>
    obtain ⟨a', b', -, hpa, ⟨N⟩, hpb, -⟩ :=
      (run_manager W m fuel req).hop (fun _ => True) (fun _ _ => trivial) trivial i a b ha hb
    obtain ⟨hu, hm, hbd⟩ := hpa.facts
    obtain ⟨hu', hm', hb'⟩ := hpb.facts
    rw [N.reply, hm, hbd, hm', hb', N.location]
    exact ⟨rfl, N.method_eq.trans (rewrite303_hdr_irrel ..).1, N.body_eq.trans (rewrite303_hdr_irrel ..).2,
      N.loc, rfl, by rw [hu, hu']; exact N.joined⟩

theorem run_head_url (W : World) (c : Client) (fuel : Nat) (req : Req) (s : Sent)
    (h : (run W c fuel req).log.head? = some s) : s.url = req.url := by
  cases c with
  | manager m => exact ((run_manager W m fuel req).head h).facts.1
  | pool p => exact ((run_pool W p fuel req).head h).facts.1

/-- a run of an asserting pool whose last request was answered by a redirect to another host ends in
`HostChangedError` — unless the redirect budget was exhausted right there (`MaxRetryError`, or the 3xx
itself with `raise_on_redirect=False`) or the model's fuel ran out.  (That the host differs is not
used: `loc` parses, so `HostChangedError` is the only exception the next pass can raise before sending.) -/
theorem pool_refuses_redirect {W : World} {p : Pool} {a : PoolArgs} {R : Run}
    (h : PoolLoop W p true true a R)
    {x : Sent} {loc : Str} {pu : PUrl} (hx : R.log.getLast? = some x)
    (hloc : x.reply.redirectLocation = some loc) (hpu : W.parse loc = some pu)
    (_ : isSameHost p.id loc pu = false) :
    R.outcome = .hostChanged ∨ R.outcome = .outOfFuel ∨ R.outcome = .maxRetry ∨
      R.outcome = .response x.reply := by
  induction h with
  | stop => cases hx
  | last _ hl =>
    obtain rfl : _ = x := by simpa using hx
    exact .inr (.inr (hl.2 rfl (by rw [hloc]; rfl)))
  | next _ hn hR ih =>
    cases hR with
    | stop hs =>
      obtain rfl : _ = x := by simpa using hx
      obtain ⟨_, loc', _, _, _, hloc', _, rfl⟩ := hn
      cases hloc.symm.trans hloc'
      rcases hs with rfl | hs
      · exact .inr (.inl rfl)
      · rcases poolAttempt_error hs with ⟨_, hnone⟩ | ⟨rfl, _⟩
        · cases hpu.symm.trans hnone
        · exact .inl rfl
    | last | next => exact ih (by simpa [List.getLast?_cons_cons] using hx)

/-- no redirect is paid for and the 3xx is handed back -/
def Disabled (r : Retry) : Prop :=
  (r.redirect.budget = some 0 ∨ r.total.budget = some 0) ∧ r.raiseOnRedirect = false

/-- with redirects disabled, by `redirect=False` or by the policy, at most one request is sent, and its reply,
3xx or not, is what the caller gets (unless the run ends for a reason that has nothing to do with redirects) -/
theorem Trace.disabled {redirect : Bool} {r : Retry} {R : Run} (h : Trace redirect r R)
    (hd : redirect = false ∨ Disabled r) :
    (R.log = [] ∧ NoReply R.outcome) ∨
    ∃ s, R.log = [s] ∧ (R.outcome = .response s.reply ∨ R.outcome = .statusRetry ∨ R.outcome = .oracleMissing) := by
  cases h with
  | stop h => exact .inl ⟨rfl, h⟩
  | last _ hl =>
    refine .inr ⟨_, rfl, ?_⟩
    rcases hl with he | he | ⟨he, -⟩ | ⟨hred, -, -, he⟩
    · exact .inr (.inl he)
    · exact .inr (.inr he)
    · exact .inl he
    · rcases hd with rfl | hd
      · cases hred
      · rw [hd.2] at he
        exact .inl he
  | next _ hn =>
    rcases hd with rfl | ⟨hd, -⟩
    · cases hn.1
    · -- a budget of `0` is no successor
      rw [hn.2.redirect, hn.2.total] at hd
      simp at hd

/-- `retries=False`, or a `Retry` made with `redirect=False` / `total=False` -/
def Arg.Off (a : Arg) : Prop :=
  a = .false ∨ ∃ p : Retry, (p.redirect = .disabled ∨ p.total = .disabled) ∧ a = .retry (Retry.init p)

theorem deriveRetry_disabled (a d : Arg) (redirect : Bool) (h : Arg.Off a ∨ (a = .none ∧ Arg.Off d)) :
    Disabled (deriveRetry a redirect d) := by
  have hinit : ∀ p : Retry, (p.redirect = .disabled ∨ p.total = .disabled) → Disabled (Retry.init p) := by
    intro p hp
    simp only [Disabled, Retry.init, hp, if_true]
    exact ⟨.inl rfl, trivial⟩
  have hfalse : ∀ d, Disabled (Retry.fromInt .false redirect d) := fun _ => hinit _ (.inr rfl)
  rcases h with (rfl | ⟨p, hp, rfl⟩) | ⟨rfl, rfl | ⟨p, hp, rfl⟩⟩
  · exact hfalse d
  · exact hinit p hp
  · cases redirect <;> exact hfalse .none
  · cases redirect <;> exact hinit p hp

end U3.Manager
