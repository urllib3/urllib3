import U3.Lemmas.Resp
import U3.Lemmas.Str
/-! Layers 0 and 1 of the response model: the `BufferedReader` over a segmenting socket returns the
same bytes as a reader over the whole byte string, whatever the segmentation (`fpRead_spec`,
`fpRead1_spec`, `fpReadline_spec`); `_safe_read`; the chunk-size line `b"%x\r\n" % n` read back by
`http.client`'s parser.  On top of them, urllib3's own chunk parser on an encoded chunk list
(`rcLoop_enchunk`). -/
namespace U3.Resp
open U3

theorem split_eq_take_drop {a w c : Bytes} {n : Nat} (h : a ++ w = c)
    (hn : a.length = n ∨ (w = [] ∧ a.length ≤ n)) : a = c.take n ∧ w = c.drop n := by
  subst h
  rcases hn with hn | ⟨hw, hn⟩
  · subst hn; simp
  · subst hw
    simp [List.take_of_length_le hn, List.drop_of_length_le hn]

theorem clip_le (seg want : Nat) : clip seg want ≤ want := by
  unfold clip
  split <;> omega

theorem clip_pos {seg want : Nat} (h : 0 < want) : 0 < clip seg want := by
  unfold clip
  split <;> omega

theorem Fp.take_buf (f : Fp) (n : Nat) :
    f.buf.take n ++ ({ f with buf := f.buf.drop n } : Fp).content = f.content := by
  simp [Fp.content, ← List.append_assoc]

/-- the first loop of `BufferedReader.read(n)`: stops at EOF or when less than a buffer is still wanted -/
theorem readDirect_spec (seg fuel : Nat) (wire : Bytes) (rem : Nat) (acc : Bytes) (hf : wire.length < fuel) :
    ∃ a w rm e, readDirect seg fuel wire rem acc = (a, w, rm, e) ∧ a ++ w = acc ++ wire ∧
      a.length + rm = acc.length + rem ∧ (e = true → w = []) ∧ (e = false → rm < bufSize) := by
  fun_induction readDirect seg fuel wire rem acc with
  | case1 => omega
  | case2 fuel wire rem acc r h0 =>
    exact ⟨_, _, _, _, rfl, rfl, rfl, by simp, fun _ => by simp only [r, bufSize] at *; omega⟩
  | case3 => exact ⟨_, _, _, _, rfl, rfl, rfl, fun _ => rfl, by simp⟩
  | case4 fuel rem acc r h0 x t k ih =>
    have hk1 := clip_le seg r
    have hk0 := clip_pos (seg := seg) (Nat.pos_of_ne_zero h0)
    obtain ⟨a, w, rm, e, hr, h1, h2, h3, h4⟩ :=
      ih (by simp only [List.length_drop, List.length_cons] at *; omega)
    refine ⟨a, w, rm, e, hr, ?_, ?_, h3, h4⟩
    · rw [h1, List.append_assoc, List.take_append_drop]
    · rw [h2]
      simp only [List.length_append, List.length_take]
      omega

theorem readFill_spec (seg fuel : Nat) (wire : Bytes) (rem filled : Nat) (acc : Bytes)
    (hf : wire.length < fuel) (hb : rem + filled ≤ bufSize) :
    ∃ a w b, readFill seg fuel wire rem filled acc = (a, w, b) ∧ a ++ (b ++ w) = acc ++ wire ∧
      (a.length = acc.length + rem ∨ (b = [] ∧ w = [] ∧ a.length ≤ acc.length + rem)) := by
  fun_induction readFill seg fuel wire rem filled acc with
  | case1 => omega
  | case2 fuel wire rem filled acc h0 => exact ⟨_, _, _, rfl, by simp, Or.inl (by simp; omega)⟩
  | case3 fuel wire rem filled acc h0 k got he =>
    have hk0 := clip_pos (seg := seg) (want := bufSize - filled) (by omega)
    have hw : wire = [] := take_eq_nil_of_pos hk0 (List.isEmpty_iff.mp he)
    exact ⟨_, _, _, rfl, rfl, Or.inr ⟨rfl, hw, by omega⟩⟩
  | case4 fuel wire rem filled acc h0 k got he hlt ih =>
    have hk1 := clip_le seg (bufSize - filled)
    have hg : 0 < got.length := List.length_pos_iff.mpr (by simpa using he)
    have hgl : got.length = min k wire.length := List.length_take
    obtain ⟨a, w, b, hr, h1, h2⟩ := ih (by rw [List.length_drop]; omega) (by omega)
    refine ⟨a, w, b, hr, by rw [h1, List.append_assoc, List.take_append_drop], ?_⟩
    rw [List.length_append] at h2
    exact h2.imp (fun h => by omega) (fun ⟨hb, hw, h⟩ => ⟨hb, hw, by omega⟩)
  | case5 fuel wire rem filled acc h0 k got he hge =>
    refine ⟨_, _, _, rfl, ?_, Or.inl ?_⟩
    · rw [List.append_assoc, ← List.append_assoc (got.take rem), List.take_append_drop, List.take_append_drop]
    · simp only [List.length_append, List.length_take] at *; omega

theorem fpRead_split (f : Fp) (n : Nat) :
    (fpRead f n).1 ++ (fpRead f n).2.content = f.content ∧
    ((fpRead f n).1.length = n ∨ ((fpRead f n).2.content = [] ∧ (fpRead f n).1.length ≤ n)) ∧
    (fpRead f n).2.seg = f.seg := by
  unfold fpRead
  split
  · refine ⟨f.take_buf n, Or.inl ?_, rfl⟩
    simp only [List.length_take]; omega
  · obtain ⟨a, w, rm, e, hr, h1, h2, h3, h4⟩ :=
      readDirect_spec f.seg (f.wire.length + 1) f.wire (n - f.buf.length) f.buf (by omega)
    cases e with
    | true =>
      cases h3 rfl
      simp only [hr, ↓reduceIte, Fp.content, List.nil_append]
      exact ⟨h1, Or.inr ⟨trivial, by omega⟩, trivial⟩
    | false =>
      obtain ⟨a2, w2, b2, hr2, g1, g2⟩ :=
        readFill_spec f.seg (w.length + 1) w rm 0 a (by omega) (Nat.le_of_lt (h4 rfl))
      simp only [hr, hr2, Bool.false_eq_true, ↓reduceIte, Fp.content]
      refine ⟨by rw [g1, h1], ?_, trivial⟩
      rcases g2 with g2 | ⟨rfl, rfl, g4⟩
      · left; omega
      · right; exact ⟨rfl, by omega⟩

theorem fpRead_spec (f : Fp) (n : Nat) :
    (fpRead f n).1 = f.content.take n ∧ (fpRead f n).2.content = f.content.drop n ∧
    (fpRead f n).2.seg = f.seg := by
  obtain ⟨h1, h2, h3⟩ := fpRead_split f n
  obtain ⟨a, b⟩ := split_eq_take_drop h1 h2
  exact ⟨a, b, h3⟩

theorem fpReadAll_spec (f : Fp) :
    (fpReadAll f).1 = f.content ∧ (fpReadAll f).2.content = [] ∧ (fpReadAll f).2.seg = f.seg := by
  simp [fpReadAll, Fp.content]

theorem fpRead1_spec (f : Fp) (n : Nat) :
    ∃ out, (fpRead1 f n).1 = out ∧ out ++ (fpRead1 f n).2.content = f.content ∧ out.length ≤ n ∧
      (0 < n → f.content ≠ [] → out ≠ []) ∧ (fpRead1 f n).2.seg = f.seg := by
  refine ⟨_, rfl, ?_⟩
  unfold fpRead1
  split
  · simp_all
  · rename_i hn
    have hk0 := clip_pos (seg := f.seg) (want := n) (by omega)
    have hk1 := clip_le f.seg n
    split
    · rename_i hb
      refine ⟨f.take_buf n, by simp only [List.length_take]; omega,
        fun hn _ h => absurd (take_eq_nil_of_pos hn h) (by simpa using hb), rfl⟩
    · rename_i hb
      have hbuf : f.buf = [] := by simpa using hb
      simp only [Fp.content, hbuf, List.nil_append, List.take_append_drop, true_and]
      exact ⟨by simp only [List.length_take]; omega, fun _ hw h => hw (take_eq_nil_of_pos hk0 h), trivial⟩

theorem indexOf?_eq_none {c : Nat} {s : Bytes} (h : c ∉ s) : indexOf? c s = none := by
  induction s with
  | nil => rfl
  | cons x t ih =>
    simp only [List.mem_cons, not_or] at h
    simp [indexOf?, Ne.symm h.1, ih h.2]

theorem indexOf?_append_cons {c : Nat} {pre : Bytes} (post : Bytes) (h : c ∉ pre) :
    indexOf? c (pre ++ c :: post) = some pre.length := by
  induction pre with
  | nil => simp [indexOf?]
  | cons x t ih =>
    simp only [List.mem_cons, not_or] at h
    simp [indexOf?, Ne.symm h.1, ih h.2]

theorem indexOf?_cases (c : Nat) (s : Bytes) :
    (c ∉ s ∧ indexOf? c s = none) ∨
    ∃ pre post, s = pre ++ c :: post ∧ c ∉ pre ∧ indexOf? c s = some pre.length := by
  by_cases h : c ∈ s
  · obtain ⟨pre, post, rfl, hpre⟩ := List.eq_append_cons_of_mem h
    exact Or.inr ⟨pre, post, rfl, hpre, indexOf?_append_cons post hpre⟩
  · exact Or.inl ⟨h, indexOf?_eq_none h⟩

/-- the first line of `s`: up to and including the first LF, or all of `s` -/
def lineOf (s : Bytes) : Bytes :=
  match indexOf? LF s with
  | some i => s.take (i + 1)
  | none => s

theorem lineOf_nil : lineOf [] = [] := rfl

theorem lineOf_of_not_mem {s : Bytes} (h : LF ∉ s) : lineOf s = s := by
  rw [lineOf, indexOf?_eq_none h]

theorem lineOf_append_cons {pre : Bytes} (post : Bytes) (h : LF ∉ pre) :
    lineOf (pre ++ LF :: post) = pre ++ [LF] := by
  rw [lineOf, indexOf?_append_cons post h]
  simp [List.take_length_add_append]

theorem lineOf_append {a : Bytes} (b : Bytes) (h : LF ∉ a) : lineOf (a ++ b) = a ++ lineOf b := by
  rcases indexOf?_cases LF b with ⟨hb, _⟩ | ⟨pre, post, rfl, hpre, _⟩
  · rw [lineOf_of_not_mem hb, lineOf_of_not_mem (by simp [h, hb])]
  · rw [lineOf_append_cons post hpre, ← List.append_assoc, lineOf_append_cons post (by simp [h, hpre]),
      List.append_assoc]

/-- `readline()` finds the LF in the bytes `a` it already has -/
theorem lineOf_append_of_some {a : Bytes} (b : Bytes) {i : Nat} (h : indexOf? LF a = some i) :
    lineOf (a ++ b) = a.take (i + 1) ∧ (a ++ b).drop (lineOf (a ++ b)).length = a.drop (i + 1) ++ b := by
  rcases indexOf?_cases LF a with ⟨_, e⟩ | ⟨pre, post, rfl, hpre, e⟩
  · rw [e] at h; cases h
  · rw [e] at h; cases h
    rw [List.append_assoc, List.cons_append, lineOf_append_cons _ hpre]
    simp [List.take_length_add_append]

/-- `readline()` finds no LF in the bytes `a` it already has and goes on reading -/
theorem lineOf_append_of_none {a : Bytes} (b : Bytes) (h : indexOf? LF a = none) :
    lineOf (a ++ b) = a ++ lineOf b ∧ (a ++ b).drop (lineOf (a ++ b)).length = b.drop (lineOf b).length := by
  rcases indexOf?_cases LF a with ⟨ha, _⟩ | ⟨_, _, _, _, e⟩
  · rw [lineOf_append b ha]; simp
  · rw [e] at h; cases h

theorem readlineLoop_spec (seg fuel : Nat) (wire acc : Bytes) (hf : wire.length < fuel) :
    ∃ w b, readlineLoop seg fuel wire acc = (acc ++ lineOf wire, w, b) ∧
      b ++ w = wire.drop (lineOf wire).length := by
  fun_induction readlineLoop seg fuel wire acc with
  | case1 => omega
  | case2 fuel wire acc k got he =>
    have hk0 := clip_pos (seg := seg) (want := bufSize) (by decide)
    cases take_eq_nil_of_pos hk0 (List.isEmpty_iff.mp he)
    exact ⟨[], [], by rw [lineOf_nil, List.append_nil], rfl⟩
  | case3 fuel wire acc k got he i hi =>
    obtain ⟨h1, h2⟩ := lineOf_append_of_some (wire.drop k) hi
    rw [List.take_append_drop] at h1 h2
    exact ⟨_, _, by rw [h1], h2.symm⟩
  | case4 fuel wire acc k got he hi ih =>
    obtain ⟨h1, h2⟩ := lineOf_append_of_none (wire.drop k) hi
    rw [List.take_append_drop] at h1 h2
    have hg : 0 < got.length := List.length_pos_iff.mpr (by simpa using he)
    have hgl : got.length = min k wire.length := List.length_take
    obtain ⟨w, b, hr, h3⟩ := ih (by rw [List.length_drop]; omega)
    exact ⟨w, b, by rw [hr, h1, List.append_assoc], by rw [h3, h2]⟩

theorem fpReadline_spec (f : Fp) :
    (fpReadline f).1 = lineOf f.content ∧
    (fpReadline f).2.content = f.content.drop (lineOf f.content).length ∧
    (fpReadline f).2.seg = f.seg := by
  unfold fpReadline
  split
  · rename_i i hi
    obtain ⟨h1, h2⟩ := lineOf_append_of_some f.wire hi
    exact ⟨h1.symm, h2.symm, rfl⟩
  · rename_i hi
    obtain ⟨h1, h2⟩ := lineOf_append_of_none f.wire hi
    obtain ⟨w, b, hr, h3⟩ := readlineLoop_spec f.seg (f.wire.length + 1) f.wire f.buf (by omega)
    rw [hr]
    exact ⟨h1.symm, h3.trans h2.symm, rfl⟩

theorem hSafeRead_spec (h : H) (f : Fp) (amt : Nat) (hf : h.fp = some f) :
    ∃ f', hSafeRead h amt =
        (if f.content.length < amt then .error .incompleteRead else .ok (f.content.take amt),
         { h with fp := some f' }) ∧
      f'.content = f.content.drop amt ∧ f'.seg = f.seg := by
  obtain ⟨h1, h2, h3⟩ := fpRead_spec f amt
  refine ⟨(fpRead f amt).2, ?_, h2, h3⟩
  have hl : ((fpRead f amt).1.length < amt) = (f.content.length < amt) := by
    rw [h1, List.length_take]; exact propext (by omega)
  rw [hSafeRead, hf, ← h1]
  simp only [hl]
  split <;> rfl

theorem hSafeRead_ok (h : H) (f : Fp) (amt : Nat) (hf : h.fp = some f)
    (hlen : amt ≤ f.content.length) :
    ∃ f', hSafeRead h amt = (.ok (f.content.take amt), { h with fp := some f' }) ∧
      f'.content = f.content.drop amt ∧ f'.seg = f.seg := by
  obtain ⟨f', e, c, s⟩ := hSafeRead_spec h f amt hf
  exact ⟨f', by rw [e, if_neg (by omega)], c, s⟩

theorem hSafeRead_short (h : H) (f : Fp) (amt : Nat) (hf : h.fp = some f)
    (hlen : f.content.length < amt) :
    ∃ f', hSafeRead h amt = (.error .incompleteRead, { h with fp := some f' }) ∧
      f'.content = [] ∧ f'.seg = f.seg := by
  obtain ⟨f', e, c, s⟩ := hSafeRead_spec h f amt hf
  exact ⟨f', by rw [e, if_pos hlen], by rw [c, List.drop_of_length_le (by omega)], s⟩

theorem hRead_length_short (h : H) (f : Fp) (l : Nat) (hf : h.fp = some f) (hh : h.head = false)
    (hc : h.chunked = false) (hl : h.length = some l) (hlen : f.content.length < l) :
    (hRead h none).1 = .error .incompleteRead ∧ (hRead h none).2.fp = none := by
  obtain ⟨f', he, _, _⟩ := hSafeRead_short h f l hf hlen
  unfold hRead
  simp only [hf, hh, hc, hl, he]
  simp [H.closeConn]

theorem hRead_length_ok (h : H) (f : Fp) (l : Nat) (hf : h.fp = some f) (hh : h.head = false)
    (hc : h.chunked = false) (hl : h.length = some l) (hlen : l ≤ f.content.length) :
    (hRead h none).1 = .ok (f.content.take l) ∧ (hRead h none).2.fp = none ∧
    (hRead h none).2.length = some 0 := by
  obtain ⟨f', he, _, _⟩ := hSafeRead_ok h f l hf hlen
  unfold hRead
  simp only [hf, hh, hc, hl, he]
  simp [H.closeConn]

/-- Python's `b"%x" % n` -/
def hexDigits (n : Nat) : Bytes :=
  if n < 16 then [hexDigit n] else hexDigits (n / 16) ++ [hexDigit (n % 16)]
termination_by n
decreasing_by omega

/-- a lower-case hex digit character -/
abbrev IsLowerHex (c : Nat) : Prop := (48 ≤ c ∧ c ≤ 57) ∨ (97 ≤ c ∧ c ≤ 102)

theorem hexDigit_isLowerHex {d : Nat} (h : d < 16) : IsLowerHex (hexDigit d) := by
  unfold hexDigit
  split <;> omega

theorem hexDigits_radix : Radix 16 hexDigit hexDigits := fun n => by rw [hexDigits]

theorem hexDigits_ne_nil (n : Nat) : hexDigits n ≠ [] := hexDigits_radix.ne_nil (by decide) n

theorem hexDigits_isLowerHex (n : Nat) : ∀ c ∈ hexDigits n, IsLowerHex c := fun c hc => by
  obtain ⟨d, hd, rfl⟩ := hexDigits_radix.mem (by decide) n c hc
  exact hexDigit_isLowerHex hd

theorem not_mem_hexDigits {c : Nat} (n : Nat) (hc : ¬ IsLowerHex c) : c ∉ hexDigits n :=
  fun h => hc (hexDigits_isLowerHex n c h)

theorem IsLowerHex.not_space {c : Nat} (h : IsLowerHex c) : isSpaceC c = false := by
  simp [isSpaceC]; omega

theorem digitsVal_hexDigits (n : Nat) (rest : Bytes) :
    digitsVal 16 hexVal (hexDigits n ++ rest) false 0 = digitsVal 16 hexVal rest false n :=
  hexDigits_radix.read (R := fun t => digitsVal 16 hexVal t false) (by decide) (fun d hd t acc => by
    have h95 : hexDigit d ≠ 95 := by have := hexDigit_isLowerHex hd; omega
    rw [digitsVal]
    simp [h95, hexVal_hexDigit _ hd, hd]) n rest

theorem strip_append_space {s ws : Bytes} (hs : ∀ c ∈ s, isSpaceC c = false) (hne : s ≠ [])
    (hws : ∀ c ∈ ws, isSpaceC c = true) : strip (s ++ ws) = s := by
  have hL : stripL (s ++ ws) = s ++ ws := by
    cases s with
    | nil => exact absurd rfl hne
    | cons c t => simp [stripL, hs c]
  have hR : stripR s = s := by
    unfold stripR
    cases hr : s.reverse with
    | nil => simp at hr; exact absurd hr hne
    | cons c t =>
      have : isSpaceC c = false := hs c (by simpa using (by rw [hr]; simp : c ∈ s.reverse))
      rw [List.dropWhile_cons_of_neg (by simp [this]), ← hr, List.reverse_reverse]
  rw [strip, hL, stripR, List.reverse_append, List.dropWhile_append_of_pos (by simpa using hws)]
  exact hR

/-- no `0x` prefix to skip, no leading underscore -/
theorem pyIntBody_hex {s : Bytes} (hs : ∀ c ∈ s, IsLowerHex c) (hne : s ≠ []) :
    pyIntBody 16 s = digitsVal 16 hexVal s false 0 := by
  rcases s with _ | ⟨c, _ | ⟨x, t⟩⟩
  · exact absurd rfl hne
  · have hc := hs c (by simp)
    simp [pyIntBody, show c ≠ 95 by omega]
  · have hc := hs c (by simp)
    have hx := hs x (by simp)
    have hx' : ¬ (x = 120 ∨ x = 88) := by omega
    by_cases h48 : c = 48
    · subst h48; simp [pyIntBody, hx']
    · simp [pyIntBody, h48, show c ≠ 95 by omega]

theorem pyInt_hex {s ws : Bytes} (hs : ∀ c ∈ s, IsLowerHex c) (hne : s ≠ []) (hws : ∀ c ∈ ws, isSpaceC c = true) :
    pyInt 16 (s ++ ws) = (digitsVal 16 hexVal s false 0).map (fun n => (false, n)) := by
  unfold pyInt
  simp only [strip_append_space (fun c hc => (hs c hc).not_space) hne hws]
  obtain ⟨c, t, rfl⟩ := List.exists_cons_of_ne_nil hne
  have hc := hs c (by simp)
  split
  · rename_i heq
    simp at heq
    omega
  · rename_i heq
    simp at heq
    omega
  · rw [pyIntBody_hex hs hne]

theorem parseSize_hexDigits (n : Nat) {ws : Bytes} (hws : ∀ c ∈ ws, isSpaceC c = true) :
    parseSize (hexDigits n ++ ws) = .ok n := by
  have := digitsVal_hexDigits n []
  rw [List.append_nil] at this
  rw [parseSize, pyInt_hex (hexDigits_isLowerHex n) (hexDigits_ne_nil n) hws, this]
  rfl

theorem cutExt_of_not_mem {s : Bytes} (h : 59 ∉ s) : cutExt s = s := by
  rw [cutExt, indexOf?_eq_none h]

theorem cutExt_append_cons {s : Bytes} (ext : Bytes) (h : 59 ∉ s) : cutExt (s ++ 59 :: ext) = s := by
  rw [cutExt, indexOf?_append_cons ext h]
  exact List.take_left

/-- a chunk-size line announcing `n` bytes: one line (ends with the first LF), and whatever
`http.client` makes of it — `int(line.split(b";")[0], 16)`, so any spelling Python accepts, with
or without chunk extensions — is `n` -/
def SizeLineOk (l : Bytes) (n : Nat) : Prop :=
  (∃ pre, l = pre ++ [LF] ∧ LF ∉ pre) ∧ parseSize (cutExt l) = .ok n

theorem lineOf_of_line {l : Bytes} (rest : Bytes) (h : ∃ pre, l = pre ++ [LF] ∧ LF ∉ pre) :
    lineOf (l ++ rest) = l := by
  obtain ⟨pre, rfl, hpre⟩ := h
  rw [List.append_assoc]
  exact lineOf_append_cons rest hpre

theorem sizeLineOk_hex (n : Nat) : SizeLineOk (hexDigits n ++ crlf) n := by
  have hLF : LF ∉ hexDigits n := not_mem_hexDigits n (by decide)
  have h59 : 59 ∉ hexDigits n := not_mem_hexDigits n (by decide)
  refine ⟨⟨hexDigits n ++ [13], by simp [crlf, LF], by simpa [LF] using hLF⟩, ?_⟩
  rw [cutExt_of_not_mem (by simp [h59, crlf])]
  exact parseSize_hexDigits n (by decide)

theorem sizeLineOk_hex_ext (n : Nat) (ext : Bytes) (hext : LF ∉ ext) :
    SizeLineOk (hexDigits n ++ 59 :: (ext ++ crlf)) n := by
  have hLF : LF ∉ hexDigits n := not_mem_hexDigits n (by decide)
  have h59 : 59 ∉ hexDigits n := not_mem_hexDigits n (by decide)
  refine ⟨⟨hexDigits n ++ 59 :: (ext ++ [13]), by simp [crlf, LF], by simpa [LF] using ⟨hLF, hext⟩⟩, ?_⟩
  rw [cutExt_append_cons _ h59]
  simpa using parseSize_hexDigits n (ws := [])

theorem hFpReadline_eq (h : H) (f : Fp) (hf : h.fp = some f) :
    hFpReadline h = (.ok (lineOf f.content), { h with fp := some (fpReadline f).2 }) := by
  unfold hFpReadline
  rw [hf, ← (fpReadline_spec f).1]

theorem updateChunkLength_size {δ : Type} (r : R H δ) (f : Fp) {l : Bytes} {n : Nat} (rest : Bytes)
    (hf : r.fp.fp = some f) (hc : f.content = l ++ rest) (hs : SizeLineOk l n)
    (hl : r.chunkLeft = none) :
    ∃ f', updateChunkLength hSrc r =
        (.ok (), { r with fp := { r.fp with fp := some f' }, chunkLeft := some n }) ∧
      f'.content = rest := by
  have hline := lineOf_of_line rest hs.1
  refine ⟨(fpReadline f).2, ?_, ?_⟩
  · unfold updateChunkLength
    simp only [hl, hSrc, hFpReadline_eq _ f hf, hc, hline, hs.2]
  · rw [(fpReadline_spec f).2.1, hc, hline, List.drop_left]

theorem handleChunk_whole {δ : Type} (r : R H δ) (f : Fp) (c rest : Bytes)
    (hf : r.fp.fp = some f) (hc : f.content = c ++ crlf ++ rest)
    (hl : r.chunkLeft = some c.length) :
    ∃ f', handleChunk hSrc r none =
        (.ok c, { r with fp := { r.fp with fp := some f' }, chunkLeft := none }) ∧
      f'.content = rest := by
  obtain ⟨f1, e1, c1, _⟩ := hSafeRead_ok r.fp f c.length hf (by simp [hc])
  obtain ⟨f2, e2, c2, _⟩ := hSafeRead_ok { r.fp with fp := some f1 } f1 2 rfl
    (by simp [c1, hc, crlf])
  have ht : f.content.take c.length = c := by simp [hc]
  have hd : f.content.drop c.length = crlf ++ rest := by simp [hc]
  refine ⟨f2, ?_, ?_⟩
  · unfold handleChunk readAndToss safeRead'
    simp only [hl, hSrc, e1, e2, ht]
  · rw [c2, c1, hd]; simp [crlf]

/-- the chunked transfer coding of a list of (non-empty) chunks, no extensions, no trailers -/
def enchunk : List Bytes → Bytes
  | [] => [48, 13, 10, 13, 10]
  | c :: t => hexDigits c.length ++ crlf ++ c ++ crlf ++ enchunk t

/-- round trip through `enchunk`: the loop of `read_chunked(amt=None, decode_content=False)` over
`enchunk cs` yields exactly `cs` and stops at the zero-size line, leaving the final CRLF and what follows -/
theorem rcLoop_enchunk {δ : Type} (D : Dec δ) (cs : List Bytes) (hne : ∀ c ∈ cs, c ≠ [])
    (fuel : Nat) (hfuel : cs.length < fuel) (r : R H δ) (f : Fp) (tail : Bytes) (acc : List Bytes)
    (hf : r.fp.fp = some f) (hc : f.content = enchunk cs ++ tail) (hl : r.chunkLeft = none)
    (hd : r.hasDecoded = false) :
    ∃ f', rcLoop hSrc D none false fuel r acc =
        ((acc ++ cs, .ok ()), { r with fp := { r.fp with fp := some f' }, chunkLeft := some 0 }) ∧
      f'.content = crlf ++ tail := by
  induction cs generalizing fuel r f acc with
  | nil =>
    cases fuel with
    | zero => simp at hfuel
    | succ fuel =>
      obtain ⟨f', e, c'⟩ := updateChunkLength_size r f (crlf ++ tail) hf
        (by rw [hc, hexDigits]; rfl) (sizeLineOk_hex 0) hl
      refine ⟨f', ?_, c'⟩
      rw [rcLoop, e]
      simp
  | cons c t ih =>
    cases fuel with
    | zero => simp at hfuel
    | succ fuel =>
      obtain ⟨f1, e1, c1⟩ := updateChunkLength_size r f (c ++ crlf ++ (enchunk t ++ tail))
        hf (by simp [hc, enchunk]) (sizeLineOk_hex c.length) hl
      obtain ⟨f2, e2, c2⟩ := handleChunk_whole
        { r with fp := { r.fp with fp := some f1 }, chunkLeft := some c.length } f1 c
        (enchunk t ++ tail) rfl c1 rfl
      have hcne : c ≠ [] := hne c (by simp)
      obtain ⟨f', e', c'⟩ := ih (fun x hx => hne x (by simp [hx])) fuel
        (by simp only [List.length_cons] at hfuel; omega)
        { r with fp := { r.fp with fp := some f2 }, chunkLeft := none } f2 (acc ++ [c])
        rfl c2 rfl hd
      refine ⟨f', ?_, c'⟩
      have hemp : c.isEmpty = false := by simpa using hcne
      rw [rcLoop, e1]
      simp only [Option.some.injEq, List.length_eq_zero_iff, hcne, if_false, e2]
      rw [decode_off]
      · simp only [hemp, Bool.false_eq_true, if_false, e']
        simp
      · exact hd

end U3.Resp
