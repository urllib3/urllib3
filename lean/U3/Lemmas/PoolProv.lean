import U3.Model.Pool
import U3.Lemmas.Pool
import U3.Lemmas.PoolSafe
import U3.Lemmas.PoolRead
import U3.Lemmas.PoolCases
/-!
# Byte provenance: every operation of a history keeps `Prov` (C03)

`Prov` is defined in `PoolSafe`.  From `http.client`'s `read` through `_raw_read` under `_error_catcher`, a request and
`urlopen` to whole histories (`run_prov`); then the vocabulary of C03's first clause (`Scripted`, `ownBytes`, `WellFramed`).
-/
namespace U3.Pool

variable {A : Nat → Attempt → Prop}

theorem respPos_left {rs : Resp} {n : Nat} (h : rs.hcLeft = none) :
    respPos { rs with chunkLeft := some n } = match n with | 0 => Pos.tail | j + 1 => Pos.data (j + 1) := by
  cases n <;> simp [respPos, h]

theorem httpRead_closed {s : State} {r : Nat} (amt : Option Nat) (hc : respFpClosed s r = true) :
    httpRead s r amt = (s, .data []) := by
  unfold httpRead
  cases hrs : s.resps[r]? with
  | none => rfl
  | some rs =>
    rw [respFpClosed_iff] at hc
    simp [hc rs hrs]

/-- on an open reader: nothing for a reply to `HEAD`; the chunk reader; otherwise a raw read (`t`, having consumed `m`,
within the declared length) followed by the bookkeeping of `length` and `_close_conn()` at the end of the body; only
`read(amt)` leaves the reader open -/
theorem httpRead_cases {s s1 : State} {r k : Nat} {rs : Resp} {amt : Option Nat} {out : DataOut}
    (ho : OpenAt s r k rs) (h : httpRead s r amt = (s1, out)) :
    (rs.isHead = true ∧ s1 = closeFp s r ∧ out = .data []) ∨
    (rs.isHead = false ∧ rs.chunked = true ∧ hcReadChunked (inboundLen s k + rs.buf.length + 2) s r k amt [] = (s1, out)) ∨
    (rs.isHead = false ∧ rs.chunked = false ∧ ∃ t m, Rd r k s t m ∧ (∀ l, rs.length = some l → m.length ≤ l) ∧
      ((∃ e, out = .exc e ∧ e.cls ∈ rawCls ∧ (s1 = t ∨ s1 = closeFp t r)) ∨
       (out = .data m ∧
         ((rs.length = none ∧ ((amt ≠ none ∧ s1 = t) ∨ s1 = closeFp t r)) ∨
          (∃ n, amt = some n ∧ n ≠ 0 ∧ m = [] ∧ s1 = closeFp t r) ∨
          (∃ l, rs.length = some l ∧ amt ≠ none ∧ s1 = setResp t r fun x => { x with length := some (l - m.length) }) ∨
          (∃ l, rs.length = some l ∧ s1 = closeFp (setResp t r fun x => { x with length := some 0 }) r))))) := by
  unfold httpRead at h
  simp only [ho.resp, ho.fp] at h
  by_cases hhead : rs.isHead = true
  · rw [if_pos hhead] at h
    cases h
    exact Or.inl ⟨hhead, rfl, rfl⟩
  rw [if_neg hhead] at h
  by_cases hch : rs.chunked = true
  · rw [if_pos hch] at h; exact Or.inr (Or.inl ⟨eq_false_of_ne_true hhead, hch, h⟩)
  rw [if_neg hch] at h
  refine Or.inr (Or.inr ⟨eq_false_of_ne_true hhead, eq_false_of_ne_true hch, ?_⟩)
  generalize inboundLen s k + 2 = fuel at h
  cases amt with
  | some n =>
    cases hlen : rs.length with
    | none =>
      simp only [hlen] at h
      obtain ⟨t, m, rel, _, ⟨e, he, hc⟩ | hd⟩ := fpRead_cases fuel s r k n <;> refine ⟨t, m, rel, nofun, ?_⟩
      · rw [he] at h
        cases h
        exact Or.inl ⟨e, rfl, hc, Or.inl rfl⟩
      · rw [hd] at h
        simp only at h
        split at h <;> cases h
        · exact Or.inr ⟨rfl, Or.inl ⟨rfl, Or.inr rfl⟩⟩
        · exact Or.inr ⟨rfl, Or.inl ⟨rfl, Or.inl ⟨nofun, rfl⟩⟩⟩
    | some l =>
      simp only [hlen] at h
      generalize hn' : (if n > l then l else n) = n' at h
      obtain ⟨t, m, rel, hm, ⟨e, he, hc⟩ | hd⟩ := fpRead_cases fuel s r k n' <;>
        refine ⟨t, m, rel, fun _ g => by cases g; split at hn' <;> omega, ?_⟩
      · rw [he] at h
        cases h
        exact Or.inl ⟨e, rfl, hc, Or.inl rfl⟩
      · rw [hd] at h
        simp only at h
        split at h
        · rename_i hcond
          cases h
          simp at hcond
          refine Or.inr ⟨rfl, Or.inr (Or.inl ⟨n, rfl, fun hn0 => hcond.2 ?_, hcond.1, rfl⟩)⟩
          subst hn0
          split at hn' <;> omega
        · split at h
          · rename_i hz
            cases h
            rw [hz]
            exact Or.inr ⟨rfl, Or.inr (Or.inr (Or.inr ⟨l, rfl, rfl⟩))⟩
          · cases h; exact Or.inr ⟨rfl, Or.inr (Or.inr (Or.inl ⟨l, rfl, nofun, rfl⟩))⟩
  | none =>
    cases hlen : rs.length with
    | none =>
      simp only [hlen] at h
      obtain ⟨t, m, rel, ⟨e, he, hc⟩ | hd⟩ := fpReadAll_cases fuel s r k <;> refine ⟨t, m, rel, nofun, ?_⟩
      · rw [he] at h
        cases h
        exact Or.inl ⟨e, rfl, hc, Or.inl rfl⟩
      · rw [hd] at h
        cases h
        exact Or.inr ⟨rfl, Or.inl ⟨rfl, Or.inr rfl⟩⟩
    | some l =>
      simp only [hlen] at h
      obtain ⟨t, m, rel, hm, ⟨e, he, hc⟩ | hd⟩ := fpRead_cases fuel s r k l <;>
        refine ⟨t, m, rel, fun _ g => by cases g; exact hm, ?_⟩
      · rw [he] at h
        cases h
        exact Or.inl ⟨e, rfl, hc, Or.inl rfl⟩
      · rw [hd] at h
        simp only at h
        split at h <;> cases h
        · exact Or.inl ⟨_, rfl, by simp [rawCls, exc], Or.inr rfl⟩
        · exact Or.inr ⟨rfl, Or.inr (Or.inr (Or.inr ⟨l, rfl, rfl⟩))⟩

def OpenK (r k : Nat) (s : State) : Prop := ∀ rs : Resp, s.resps[r]? = some rs → rs.fp = some k

theorem OpenK.of {s : State} {r k : Nat} {rs : Resp} (ho : OpenAt s r k rs) : OpenK r k s :=
  fun rs' h' => by rw [ho.resp] at h'; cases h'; exact ho.fp

/-! whatever is invariant under `recv`/buffer moves, `length :=`, closing the reader and the work of the chunk
reader is invariant under `http.client`'s `read` -/

structure RFrame (r : Nat) (R : State → State → Prop) : Prop where
  refl : ∀ s, R s s
  trans : ∀ {s t u}, R s t → R t u → R s u
  close : ∀ s, R s (closeFp s r)
  setlen : ∀ s l, R s (setResp s r fun x => { x with length := some l })
  dirty : ∀ {k s s'}, OpenK r k s → Dirty r k s s' → R s s'

theorem httpRead_frame {r : Nat} {R : State → State → Prop} (F : RFrame r R) (s : State) (amt : Option Nat) :
    R s (httpRead s r amt).1 := by
  cases hc : respFpClosed s r with
  | true => rw [httpRead_closed amt hc]; exact F.refl s
  | false =>
    obtain ⟨rs, k, ho⟩ := respFpClosed_false hc
    generalize hh : httpRead s r amt = res
    obtain ⟨s1, out⟩ := res
    rcases httpRead_cases ho hh with ⟨_, e, _⟩ | ⟨_, _, e⟩ | ⟨_, _, t, m, rel, _, q⟩
    · rw [e]
      exact F.close s
    · exact F.dirty (.of ho) (hcReadChunked_spec e).dirty
    · have ht := F.dirty (.of ho) rel.toP.dirty
      rcases q with ⟨_, _, _, e | e⟩ | ⟨_, ⟨_, ⟨_, e⟩ | e⟩ | ⟨_, _, _, _, e⟩ | ⟨l, _, _, e⟩ | ⟨_, _, e⟩⟩ <;> rw [e]
      · exact ht
      · exact F.trans ht (F.close t)
      · exact ht
      · exact F.trans ht (F.close t)
      · exact F.trans ht (F.close t)
      · exact F.trans ht (F.setlen t _)
      · exact F.trans (F.trans ht (F.setlen t 0)) (F.close _)

theorem steps_rframe (C : List Nat) (r : Nat) : RFrame r (Steps C) where
  refl := .refl
  trans := .trans
  close := fun s => (steps_closing C).closeFp s r
  setlen := fun s _ => .one (.resp s r _ fun _ => rfl)
  dirty := fun _ d => d.steps C

theorem httpRead_none_closed {s s' : State} {r : Nat} {d : List Cell} (h : httpRead s r none = (s', .data d)) :
    respFpClosed s' r = true := by
  cases hc : respFpClosed s r with
  | true =>
    rw [httpRead_closed none hc] at h
    cases h
    exact hc
  | false =>
  obtain ⟨rs, k, ho⟩ := respFpClosed_false hc
  rcases httpRead_cases ho h with ⟨_, rfl, _⟩ | ⟨_, _, e⟩ | ⟨_, _, t, m, _, _, q⟩
  · exact closeFp_closed s r
  · exact (hcReadChunked_spec e).closed rfl d rfl
  · rcases q with ⟨e, he, _⟩ | ⟨_, ⟨_, ⟨ha, _⟩ | rfl⟩ | ⟨n, hn, _⟩ | ⟨l, _, ha, _⟩ | ⟨l, _, rfl⟩⟩
    · cases he
    · exact absurd rfl ha
    · exact closeFp_closed t r
    · cases hn
    · exact absurd rfl ha
    · exact closeFp_closed _ r

/-- what a read by `r`, which had collected `X`, leaves behind: the data are collected too; after an exception the state
is good once the reader is closed (which `_error_catcher` does first of all) -/
def ReadPost (A : Nat → Attempt → Prop) (r : Nat) (X : List Cell) (s' : State) : DataOut → Prop
  | .data d => ProvAt A s' r (X ++ d)
  | .exc _ => Prov A (closeFp s' r)

/-- a raw read of `m` by the reader of a reply that is not chunked: after an exception; where `length` is not counted
(or nothing came); with `length` counted down -/
theorem plain_read {s s1 : State} {r k : Nat} {X m : List Cell} {rs : Resp}
    (p : Prov A (deliver s r X)) (ho : OpenAt s r k rs) (hch : rs.chunked = false)
    (rel : Rd r k s s1 m) :
    Prov A (closeFp s1 r) ∧ (rs.length = none ∨ m = [] → ProvAt A s1 r (X ++ m)) ∧
    ∀ l l', rs.length = some l → m.length + l' ≤ l →
      ProvAt A (setResp s1 r fun x => { x with length := some l' }) r (X ++ m) := by
  obtain ⟨b, hb⟩ := rel.rsame rs ho.resp
  -- the bytes of such a reply are its body: what is consumed is what is handed on
  have body : ∀ {a : Attempt} {h : Head} {Rem : List Cell}, rs.chunked = h.chunked →
      Expect rs.rid a h (respPos rs) (rs.delivered ++ X) Rem → m <+: Rem →
      rs.delivered ++ (X ++ m) <+: deliverable rs.rid a h ∧
      Expect rs.rid a h (respPos rs) (rs.delivered ++ (X ++ m)) (Rem.drop m.length) := by
    intro a h Rem hc hE ⟨t, ht⟩
    have hc' : h.chunked = false := hc ▸ hch
    rw [expect_plain hc'] at hE ⊢
    subst ht
    rw [deliverable_plain hc', ← hE]
    exact ⟨⟨t, by simp⟩, by simp⟩
  refine ⟨dirty_closeFp p ho rel.toP.dirty, fun hn => .of ?_ hb, fun l l' hl hb' => .of ?_ (setResp_at _ hb)⟩
  · refine read_core (L := id) p ho rel.toP hb fun a h Rem _ hc hE hm hq =>
      ⟨(body hc hE hm).1, (body hc hE hm).2, fun n hn' => ?_⟩
    obtain ⟨l, e1, e2⟩ := hq n hn'
    rcases hn with hn | rfl
    · cases hn.symm.trans e1
    · exact ⟨l, e1, by simpa using e2⟩
  · rw [deliver_setResp]
    refine read_core (L := fun _ => some l') p ho rel.toP hb fun a h Rem _ hc hE hm hq =>
      ⟨(body hc hE hm).1, (body hc hE hm).2, fun n hn' => ⟨l', rfl, ?_⟩⟩
    obtain ⟨l0, e1, e2⟩ := hq n hn'
    cases hl.symm.trans e1
    simp only [List.length_append] at e2 ⊢
    omega

theorem httpRead_prov {s s' : State} {r : Nat} {X : List Cell} {amt : Option Nat} {out : DataOut}
    (p : ProvAt A s r X) (h : httpRead s r amt = (s', out)) : ReadPost A r X s' out := by
  cases hc : respFpClosed s r with
  | true =>
    rw [httpRead_closed amt hc] at h
    cases h
    simpa [ReadPost] using p
  | false =>
  obtain ⟨rs, k, ho⟩ := respFpClosed_false hc
  rcases httpRead_cases ho h with ⟨_, rfl, rfl⟩ | ⟨hhead, hch, e⟩ | ⟨_, hch, t, m, rel, hl, q⟩
  · simpa [ReadPost] using (safe_pooling.closeFp s r).provAt p
  · -- `Transfer-Encoding: chunked`: `_read_chunked`
    have q := hcReadChunked_spec e
    cases out with
    | exc e => exact dirty_closeFp p.prov ho q.dirty
    | data d =>
      obtain ⟨m', e1, e2⟩ := q.prov ⟨ho, p.prov, hch, hhead⟩ d rfl
      obtain ⟨_, hrs', _⟩ := q.dirty.rsame rs ho.resp
      simp only [List.nil_append] at e1
      exact e1 ▸ .of e2 hrs'
  · obtain ⟨ex, pn, pl⟩ := plain_read p.prov ho hch rel
    rcases q with ⟨e, rfl, _, rfl | rfl⟩ | ⟨rfl, ⟨hn, ⟨ha, rfl⟩ | rfl⟩ | ⟨n, rfl, _, hm, rfl⟩ | ⟨l, hl0, ha, rfl⟩ | ⟨l, hl0, rfl⟩⟩
    · exact ex
    · exact (safe_pooling.closeFp _ r).prov ex
    · exact pn (.inl hn)
    · exact (safe_pooling.closeFp t r).provAt (pn (.inl hn))
    · exact (safe_pooling.closeFp t r).provAt (pn (.inr hm))
    · exact pl l _ hl0 (by have := hl l hl0; omega)
    · exact (safe_pooling.closeFp _ r).provAt (pl l 0 hl0 (hl l hl0))

theorem respClose_closed (s : State) (r : Nat) : respFpClosed (respClose s r) r = true :=
  (respClose_after s r).closed (closeFp_closed s r)

theorem rawRead_post {s s' : State} {r : Nat} {X : List Cell} {amt : Option Nat} {out : DataOut}
    (p : ProvAt A s r X) (h : rawRead s r amt = (s', out)) :
    (∀ d, out = .data d → ProvAt A s' r (X ++ d)) ∧ (∀ e, out = .exc e → Prov A s') ∧
    (amt = none → ∀ d, out = .data d → respFpClosed s' r = true) := by
  rw [rawRead_eq] at h
  generalize hh : httpRead s r amt = res at h
  obtain ⟨s1, o1⟩ := res
  have post1 := httpRead_prov p hh
  have cl1 : amt = none → ∀ d, o1 = .data d → respFpClosed s1 r = true := fun ha d hd => httpRead_none_closed (ha ▸ hd ▸ hh)
  dsimp only at h
  have post2 : ReadPost A r X (rawMid r amt s1 o1).1 (rawMid r amt s1 o1).2 ∧
      (amt = none → ∀ d, (rawMid r amt s1 o1).2 = .data d → respFpClosed (rawMid r amt s1 o1).1 r = true) := by
    have st := safe_pooling.closeFp s1 r
    rcases rawMid_spec r amt s1 o1 with ⟨e, _⟩ | ⟨rfl, ⟨n, rfl, _⟩, e | ⟨e, _⟩⟩ <;> rw [e]
    · exact ⟨post1, cl1⟩
    · exact ⟨(st.provAt post1).closeFp, (fun h => nomatch h)⟩
    · exact ⟨st.provAt post1, (fun h => nomatch h)⟩
  generalize rawMid r amt s1 o1 = mid at h post2
  obtain ⟨s2, o2⟩ := mid
  obtain ⟨post2, cl2⟩ := post2
  obtain ⟨st, hdat, hexc⟩ := catcherExit_cases s2 r o2
  rw [h] at st hdat hexc
  -- an exception comes out of a failed read, or of a successful one after which `release_conn()` raised
  have ex : Prov A (closeFp s2 r) := by
    cases o2 with
    | data d => exact ProvAt.closeFp post2
    | exc e => exact post2
  exact ⟨fun d hd => st.provAt (show ReadPost A r X s2 (.data d) from hdat d hd ▸ post2), fun e he => (hexc e he).prov ex,
    fun ha d hd => st.closed (cl2 ha d (hdat d hd))⟩

theorem readChunked_prov {s : State} {r amt : Nat} (p : Prov A s) (hc : respChunked s r = true) :
    Prov A (readChunked s r amt).1 := by
  unfold readChunked
  rcases hb : readChunkedBody s r amt with ⟨s1, o⟩
  obtain ⟨q1, q2⟩ := readChunkedBody_prov p hc hb
  obtain ⟨st, hdat, hexc⟩ := catcherExit_cases s1 r o
  cases o with
  | data d => exact st.prov (q1 d rfl)
  | exc e =>
    rcases ho : (catcherExit s1 r (.exc e)).2 with d' | e'
    · cases hdat d' ho
    · exact (hexc e' ho).prov (q2 e rfl)

theorem readAmt_prov {r n : Nat} : ∀ (fuel : Nat) (s s' : State) (X acc : List Cell) (out : DataOut),
    ProvAt A s r X → readAmt fuel s r n acc = (s', out) →
    (∀ d, out = .data d → ∃ m, d = acc ++ m ∧ ProvAt A s' r (X ++ m)) ∧ (∀ e, out = .exc e → Prov A s') := by
  intro fuel
  induction fuel with
  | zero =>
    intro s s' X acc out p h
    cases h
    exact ⟨fun d hd => by cases hd; exact ⟨[], by simp, by simpa using p⟩, (fun _ h => nomatch h)⟩
  | succ fuel ih =>
    intro s s' X acc out p h
    unfold readAmt at h
    generalize hrr : rawRead s r (some n) = res at h
    obtain ⟨s1, o⟩ := res
    obtain ⟨q1, q2, _⟩ := rawRead_post p hrr
    cases o with
    | exc e => cases h; exact ⟨(fun _ h => nomatch h), fun _ _ => q2 e rfl⟩
    | data d =>
      dsimp only at h
      split at h
      · cases h
        exact ⟨fun d' hd' => by cases hd'; exact ⟨d, rfl, q1 d rfl⟩, (fun _ h => nomatch h)⟩
      · obtain ⟨i1, i2⟩ := ih s1 s' (X ++ d) (acc ++ d) out (q1 d rfl) h
        refine ⟨fun d' hd' => ?_, i2⟩
        obtain ⟨m, e1, e2⟩ := i1 d' hd'
        exact ⟨d ++ m, by rw [e1]; simp, by simpa using e2⟩

theorem deliver_safe_like (s : State) (r : Nat) (d : List Cell) :
    (deliver s r d).conns = s.conns ∧ (deliver s r d).socks = s.socks := ⟨rfl, rfl⟩

theorem respRead_prov {s s' : State} {r : Nat} {amt : Option Nat} {out : DataOut}
    (p : Prov A s) (h : respRead s r amt = (s', out)) : Prov A s' := by
  unfold respRead at h
  cases amt <;> dsimp only at h
  case none =>
    rcases hq : rawRead s r none with ⟨s1, d | e⟩ <;> rw [hq] at h <;> cases h
    all_goals obtain ⟨q1, q2, _⟩ := rawRead_post (p.at r) hq
    · exact (q1 d rfl).prov
    · exact q2 e rfl
  case some n =>
    rcases hq : readAmt (n + 1) s r n [] with ⟨s1, d | e⟩ <;> rw [hq] at h <;> cases h
    all_goals obtain ⟨q1, q2⟩ := readAmt_prov (n + 1) s _ _ [] _ (p.at r) hq
    · obtain ⟨m, rfl, e2⟩ := q1 d rfl
      exact e2.prov
    · exact q2 e rfl

theorem drainConn_prov {s : State} {r : Nat} (p : Prov A s) : Prov A (drainConn s r).1 := by
  unfold drainConn
  rcases hrr : rawRead s r none with ⟨s1, d | e⟩ <;> obtain ⟨q1, q2, q3⟩ := rawRead_post (p.at r) hrr
  · exact (q1 d rfl).closed (q3 rfl d rfl)
  · dsimp only
    split <;> exact q2 e rfl

theorem dispose_prov {s : State} (rid : Nat) (how : How) (p : Prov A s) : Prov A (dispose s rid how).1 :=
  dispose_closure (keeps_pre (Prov A)) rid how (fun _ _ _ p => respRead_prov p rfl) (fun _ _ p => drainConn_prov p)
    (fun s r => (safe_pooling.respClose s r).prov) (fun _ _ _ hc p => readChunked_prov p hc)
    (fun _ s r => (safe_pooling.releaseConn s r).prov) s p

theorem findHead_prefix (t : Tag) (h0 : Head) (rest : List Cell) : ∀ (j : Nat) (B : List Cell) (i n : Nat) (h : Head),
    B <+: List.replicate j (Cell.hd t none) ++ [Cell.hd t (some h0)] ++ rest →
    findHead B i = some (n, h) →
    h = h0 ∧ n = i + j + 1 ∧ B.take (j + 1) = List.replicate j (Cell.hd t none) ++ [Cell.hd t (some h0)] := by
  intro j
  induction j with
  | zero =>
    intro B i n h hp hf
    cases B with
    | nil => cases hf
    | cons b B' =>
      obtain ⟨rfl, _⟩ := List.cons_prefix_cons.mp hp
      cases hf
      exact ⟨rfl, rfl, by simp⟩
  | succ j ih =>
    intro B i n h hp hf
    cases B with
    | nil => cases hf
    | cons b B' =>
      obtain ⟨rfl, hp'⟩ := List.cons_prefix_cons.mp hp
      obtain ⟨e1, e2, e3⟩ := ih B' (i + 1) n h hp' hf
      exact ⟨e1, by omega, by rw [List.take_succ_cons, e3]; rfl⟩

theorem findHead_nil_prefix (B : List Cell) (i : Nat) (hp : B <+: []) : findHead B i = none := by
  have : B = [] := List.prefix_nil.mp hp
  subst this
  rfl

/-- classes `begin()` / `getresponse()` raise before `_make_request` translates them -/
def headCls : List Nat :=
  [Gen.cResponseNotReady, Gen.cLineTooLong, Gen.cBadStatusLine, Gen.cRemoteDisconnected] ++ rawCls

theorem readHead_rel : ∀ (fuel : Nat) (s : State) (r k : Nat) (s' : State) (out : HeadOut),
    readHead fuel s r k = (s', out) →
    ∃ m, Rd r k s s' m ∧ (∀ h, out = .ok h → ∃ B n, scanHead B = some (n, h) ∧ h.garbage = false ∧ m = B.take n ∧
      ∀ (rs : Resp) (sk : Sock), s.resps[r]? = some rs → s.socks[k]? = some sk → B <+: rs.buf ++ sk.inbound) ∧
      ∀ e, out = .exc e → r < s.resps.length → e.cls ∈ headCls := by
  intro fuel
  induction fuel with
  | zero =>
    intro s r k s' out h
    cases h
    exact ⟨[], Rd.refl _ _ _, (fun _ h => nomatch h), fun e he _ => by cases he; simp [headCls, exc]⟩
  | succ fuel ih =>
    intro s r k s' out h
    unfold readHead at h
    split at h
    · rename_i hn
      cases h
      exact ⟨[], Rd.refl _ _ _, (fun _ h => nomatch h), fun _ _ hr => absurd hr (Nat.not_lt.mpr (List.getElem?_eq_none_iff.mp hn))⟩
    · rename_i rs hrs
      split at h
      · rename_i n hd hfind
        have rel := setBuf_rel r k s rs (rs.buf.take n) (fun x => x.buf.drop n) hrs (List.take_append_drop n rs.buf).symm
        dsimp only at h
        split at h <;> cases h
        · exact ⟨_, rel, (fun _ h => nomatch h), fun e he _ => by cases he; simp [headCls, exc]⟩
        · rename_i hgarb
          refine ⟨_, rel, fun h' hh => ?_, fun _ h => nomatch h⟩
          cases hh
          refine ⟨rs.buf, n, hfind, by simpa using hgarb, rfl, fun rs' sk h1 _ => ?_⟩
          cases hrs.symm.trans h1
          exact List.prefix_append _ _
      · obtain ⟨r1, c1, -⟩ := recvInto_spec s r k (bufSize - rs.buf.length)
        rcases hrv : recvInto s r k (bufSize - rs.buf.length) with ⟨s1, _ | _ | e⟩ <;> rw [hrv] at h r1 c1
        · -- the parser looks again at a buffer that has grown by what was received
          obtain ⟨m, rm, hm, hc⟩ := ih s1 r k s' out h
          refine ⟨m, by simpa using r1.trans rm, fun h' hh => ?_, fun e he hr => hc e he (r1.rlen ▸ hr)⟩
          obtain ⟨B, n, f1, fg, f2, f3⟩ := hm h' hh
          refine ⟨B, n, f1, fg, f2, fun rs' sk h1 h2 => ?_⟩
          obtain ⟨rs1, sk1, e1, e2, e3⟩ := r1.stream rs' sk h1 h2
          rw [← e3]
          exact f3 rs1 sk1 e1 e2
        · cases h
          exact ⟨[], r1, (fun _ h => nomatch h), fun e he _ => by cases he; split <;> simp [headCls, exc]⟩
        · cases h
          exact ⟨[], r1, (fun _ h => nomatch h), fun e' he _ => by cases he; exact List.mem_append_right _ (c1 e rfl)⟩

/-- the shape of a state in the head phase of `getresponse()`: relative to `s0` there is one new response, `rn` (index
`s0.resps.length`); socket `k` and connection `c`, which is `cn` now, may have changed -/
structure HP (k c : Nat) (s0 s : State) (rn : Resp) (cn : Conn) : Prop where
  rlen : s.resps.length = s0.resps.length + 1
  rold : ∀ i, i < s0.resps.length → s.resps[i]? = s0.resps[i]?
  socks : SocksKept k s0 s
  cother : ∀ c', c' ≠ c → s.conns[c']? = s0.conns[c']?
  resp : s.resps[s0.resps.length]? = some rn
  conn : s.conns[c]? = some cn

section
variable {k c : Nat} {s0 s : State} {rn : Resp} {cn : Conn}

theorem HP.new (k : Nat) {c : Nat} {s0 : State} (x : Resp) {cn : Conn} (hc : s0.conns[c]? = some cn) :
    HP k c s0 { s0 with resps := s0.resps ++ [x] } x cn :=
  ⟨by simp, fun i hi => List.getElem?_append_left hi, (SocksKept.refl k s0).congr rfl, fun _ _ => rfl, List.getElem?_concat_length, hc⟩

theorem HP.read {s' : State} {m : List Cell} (h : HP k c s0 s rn cn) (rel : Rd s0.resps.length k s s' m) :
    ∃ b, HP k c s0 s' { rn with buf := b } cn := by
  obtain ⟨b, hb⟩ := rel.rsame rn h.resp
  exact ⟨b, by rw [rel.rlen, h.rlen], fun i hi => by rw [rel.rother i (by omega), h.rold i hi],
    h.socks.trans rel.toP.dirty.socks, fun c' hc' => by rw [rel.conns]; exact h.cother c' hc', hb, by rw [rel.conns]; exact h.conn⟩

theorem HP.setResp (h : HP k c s0 s rn cn) (g : Resp → Resp) : HP k c s0 (setResp s s0.resps.length g) (g rn) cn :=
  ⟨by simp [U3.Pool.setResp, h.rlen],
    fun i hi => (setResp_ne s g (by omega)).trans (h.rold i hi),
    h.socks.congr rfl, h.cother, setResp_at g h.resp, h.conn⟩

theorem HP.setConn (h : HP k c s0 s rn cn) (g : Conn → Conn) : HP k c s0 (setConn s c g) rn (g cn) :=
  ⟨h.rlen, h.rold, h.socks.congr rfl, fun c' hc' => (modify_ne _ g hc').trans (h.cother c' hc'), h.resp,
    modify_at g h.conn⟩

theorem HP.closeFp (h : HP k c s0 s rn cn) : ∃ b, HP k c s0 (closeFp s s0.resps.length) { rn with fp := none, buf := b } cn := by
  obtain ⟨e1, e2, e3, e4⟩ := closeFp_fields s s0.resps.length
  obtain ⟨b, hb⟩ := closeFp_at h.resp
  exact ⟨b, by rw [e3, h.rlen], fun i hi => by rw [e4 i (by omega), h.rold i hi], h.socks.congr e2,
    fun c' hc' => by rw [e1]; exact h.cother c' hc', hb, by rw [e1]; exact h.conn⟩

theorem HP.connClose (h : HP k c s0 s rn cn) (hp : cn.pending = none) :
    HP k c s0 (connClose s c) rn { cn with sock := none, http := .idle, pending := none, proxyConnected := false } := by
  have e1 : (U3.Pool.connClose s c).resps = s.resps := by rw [connClose_resps h.conn, hp]
  have e2 := connClose_socks s c
  have e3 := connClose_conns s c
  exact ⟨by rw [e1, h.rlen], fun i hi => by rw [e1, h.rold i hi], h.socks.congr e2,
    fun c' hc' => by rw [e3, modify_ne _ _ hc']; exact h.cother c' hc', by rw [e1]; exact h.resp,
    by rw [e3]; exact modify_at _ h.conn⟩

theorem HP.old (h : HP k c s0 s rn cn) {i : Nat} {rs' : Resp} (hi : s.resps[i]? = some rs')
    (hne : i ≠ s0.resps.length) : s0.resps[i]? = some rs' := by
  have := getElem?_lt hi
  rw [h.rlen] at this
  rw [← h.rold i (by omega)]; exact hi

end

theorem noReader_of_nopending {s : State} {c k : Nat} {cn : Conn}
    (p : Prov A s) (hc : s.conns[c]? = some cn) (hk : cn.sock = some k) (hp : cn.pending = none) : NoReader s k := by
  intro i rs hi hfp
  have := p.pend i rs c cn k hi hfp hc hk
  rw [hp] at this
  cases this

/-- the head phase of `getresponse()` on a connection `c` without `__response` (`HP`) leaves a good state if the new response
is good where it stands: closed, or reading from the socket `k` of `c`, which then has it as its `__response` -/
theorem hp_prov {s0 s : State} {c k : Nat} {cn cn' : Conn} {rn : Resp}
    (p : Prov A s0) (hc : s0.conns[c]? = some cn) (hk : cn.sock = some k) (hp : cn.pending = none)
    (hp' : HP k c s0 s rn cn') (hok : RespOk A s.socks rn)
    (hfp : rn.fp = none ∨ rn.fp = some k) (heo : rn.eofAt = none)
    (hcn : cn'.sock = none ∨ (cn'.sock = some k ∧ (rn.fp = none ∨ cn'.pending = some s0.resps.length))) : Prov A s := by
  have nr := noReader_of_nopending p hc hk hp
  refine p.step (Nat.le_of_eq hp'.socks.slen.symm) hp'.socks.fin (fun k' sk2 h1 => ?_) (fun c' cn2 k' h1 h2 => .inl ?_) fun i rs' h1 => ?_
  · obtain ⟨sk, g1, g2⟩ := hp'.socks.held h1
    rw [g2]
    exact p.heldB k' sk g1
  · -- nobody read from the socket of `c`; the other connections are as they were
    by_cases hcc : c' = c
    · subst hcc
      cases hp'.conn.symm.trans h1
      rcases hcn with e | ⟨e, _⟩
      · rw [e] at h2
        cases h2
      · cases e.symm.trans h2
        exact ⟨cn, hc, hk, .inr (.inr nr)⟩
    · exact ⟨cn2, hp'.cother c' hcc ▸ h1, h2, .inl rfl⟩
  · by_cases hi : i = s0.resps.length
    · subst hi
      cases hp'.resp.symm.trans h1
      refine ⟨hok, fun k' hk' => .inr ?_, fun k' hk' => by rw [heo] at hk'; cases hk'⟩
      -- the new reader is the only one on socket `k`, and the `__response` of the only connection on it
      cases (hfp.resolve_left fun e => by rw [e] at hk'; cases hk').symm.trans hk'
      refine ⟨hp'.socks.slen ▸ p.sockB c cn k hc hk, fun j rj g1 g2 => Classical.byContradiction fun hj => nr j rj (hp'.old g1 hj) g2,
        fun c' cn2 g1 g2 => ?_⟩
      by_cases hcc : c' = c
      · subst hcc
        cases hp'.conn.symm.trans g1
        rcases hcn with e | ⟨_, e⟩
        · rw [e] at g2
          cases g2
        · exact e.resolve_left fun e => by rw [e] at hk'; cases hk'
      · exact absurd (p.sockInj c' c cn2 cn k (hp'.cother c' hcc ▸ g1) hc g2 hk) hcc
    · have h0 := hp'.old h1 hi
      exact ⟨respOk_socks (fun k' hk' => hp'.socks.sother k' fun e => nr i rs' h0 (e ▸ hk')) (p.resp i rs' h0),
        fun k' hk' => .inl ⟨rs', h0, hk'⟩, fun k' hk' => .inl ⟨rs', h0, hk'⟩⟩

theorem forget_fields (s : State) (c : Nat) :
    (forgetClosedPending s c).resps = s.resps ∧ (forgetClosedPending s c).socks = s.socks ∧
    (∀ cn : Conn, s.conns[c]? = some cn → ∃ cn' : Conn, (forgetClosedPending s c).conns[c]? = some cn' ∧ cn'.sock = cn.sock) ∧
    (s.conns[c]? = none → (forgetClosedPending s c).conns[c]? = none) := by
  rcases forget_cases s c with ⟨e, _⟩ | ⟨cn, hcn, e, _⟩ <;> rw [e]
  · exact ⟨rfl, rfl, fun cn h => ⟨cn, h, rfl⟩, id⟩
  · refine ⟨rfl, rfl, fun cn' h => ?_, fun h => by rw [hcn] at h; cases h⟩
    rw [hcn] at h
    cases h
    exact ⟨_, modify_at _ hcn, rfl⟩

theorem scanHead_server {rid : Nat} {a : Attempt} {H B : List Cell} {n : Nat} {hd : Head} (hH : NoHd H)
    (hB : B <+: H ++ serverNow rid a) (hs : scanHead B = some (n, hd)) (hg : hd.garbage = false) :
    H = [] ∧ a.head = some hd ∧ B.take n = headCells rid a.headLen hd := by
  -- a head that is no garbage was found by `findHead`, and `findHead` rejects a first byte that is no head byte
  have hf : findHead B 0 = some (n, hd) := by
    unfold scanHead at hs
    split at hs
    · obtain ⟨_, _, e⟩ := Option.map_eq_some_iff.mp hs
      cases e
      cases hg
    · exact hs
  cases H with
  | cons c H' =>
    cases B with
    | nil => cases hf
    | cons c' B' =>
      obtain ⟨rfl, _⟩ := List.cons_prefix_cons.mp hB
      cases c' with
      | hd t fin => exact absurd rfl (hH _ (List.mem_cons_self ..) t fin)
      | body t v => cases hf; cases hg
      | fr t k => cases hf; cases hg
  | nil =>
    rw [List.nil_append] at hB
    cases hh : a.head with
    | none =>
      rw [serverNow_none hh] at hB
      cases List.prefix_nil.mp hB
      cases hf
    | some h0 =>
      rw [serverNow_some hh] at hB
      obtain ⟨rfl, q2, q3⟩ := findHead_prefix (.req rid) h0 _ (a.headLen - 1) B 0 n hd hB hf
      exact ⟨rfl, rfl, by rw [q2, Nat.zero_add]; exact q3⟩

/-- what `GetResp` leaves behind, relative to `sF` (`HP`): the new reader is closed and empty after a failure, open with
the framing of the head after `begin()` (which consumed `B.take n` from socket `k`); connection `c` has no `__response`
(it is closed, or as it was), or the new response -/
theorem GetResp.hp {sF t : State} {c k rid : Nat} {isHead : Bool} {o : RespOut} (g : GetResp sF c k rid isHead t o) :
    (t = sF ∧ ∃ e, o = .exc e) ∨
    ∃ (cn cn' : Conn) (rn : Resp), sF.conns[c]? = some cn ∧ cn.pending = none ∧ HP k c sF t rn cn' ∧
      match (generalizing := false) o with
      | .exc _ => (∃ b, rn = { rid := rid, isHead := isHead, buf := b }) ∧ cn'.pending = none ∧ (cn'.sock = none ∨ cn' = cn)
      | .resp r => r = sF.resps.length ∧ ∃ hd : Head,
          (∃ b, rn = { rid := rid, fp := some k, isHead := isHead, buf := b, length := initLength hd isHead, status := hd.status, chunked := hd.chunked }) ∧
          ((cn'.sock = none ∧ cn'.pending = none) ∨
            ((hd.close || ((initLength hd isHead).isNone && !hd.chunked)) = false ∧ cn'.sock = cn.sock ∧ cn'.pending = some r)) ∧
          ∀ sk : Sock, sF.socks[k]? = some sk → ∃ (sk2 : Sock) (B : List Cell) (n : Nat), t.socks[k]? = some sk2 ∧
            scanHead B = some (n, hd) ∧ hd.garbage = false ∧ B <+: sk.inbound ∧ B.take n ++ rn.buf ++ sk2.inbound = sk.inbound := by
  cases g with
  | noConn => exact .inl ⟨rfl, _, rfl⟩
  | notReady => exact .inl ⟨rfl, _, rfl⟩
  | @failed cn _ s2 e hcn hpend hrh =>
    obtain ⟨m, rel, -⟩ := readHead_rel _ _ _ _ _ _ hrh
    obtain ⟨b, h2⟩ := (HP.new k _ hcn).read rel
    split
    · obtain ⟨b', h3⟩ := ((h2.connClose hpend).setConn fun x => { x with proxyConnected := cn.proxyConnected }).closeFp
      exact .inr ⟨cn, _, _, hcn, hpend, h3, ⟨b', rfl⟩, rfl, .inl rfl⟩
    · obtain ⟨b', h3⟩ := h2.closeFp
      exact .inr ⟨cn, _, _, hcn, hpend, h3, ⟨b', rfl⟩, hpend, .inr rfl⟩
  | @ok cn _ s2 hd hcn hpend hrh =>
    obtain ⟨m, rel, hm, -⟩ := readHead_rel _ _ _ _ _ _ hrh
    have hr1 : ({ sF with resps := sF.resps ++ [{ rid := rid, fp := some k, isHead := isHead }] } : State).resps[sF.resps.length]? =
      some { rid := rid, fp := some k, isHead := isHead } := List.getElem?_concat_length
    obtain ⟨B, n, f1, fg, rfl, f3⟩ := hm hd rfl
    obtain ⟨b, h2⟩ := (HP.new k _ hcn).read rel
    have h4 := (h2.setResp fun x => { x with length := initLength hd isHead, status := hd.status, chunked := hd.chunked }).setConn
      fun x => { x with http := .idle }
    have hk4 : ∀ sk : Sock, sF.socks[k]? = some sk → ∃ (sk2 : Sock) (B : List Cell) (n : Nat), s2.socks[k]? = some sk2 ∧
        scanHead B = some (n, hd) ∧ hd.garbage = false ∧ B <+: sk.inbound ∧ B.take n ++ b ++ sk2.inbound = sk.inbound := by
      intro sk hsk
      obtain ⟨_, sk2, g1, g2, g3⟩ := rel.stream _ sk hr1 hsk
      cases h2.resp.symm.trans g1
      exact ⟨sk2, B, n, g2, f1, fg, f3 _ sk hr1 hsk, g3⟩
    split
    · exact .inr ⟨cn, _, _, hcn, hpend, h4.connClose hpend, rfl, hd, ⟨b, rfl⟩, .inl ⟨rfl, rfl⟩, by rw [connClose_socks]; exact hk4⟩
    · rename_i hw
      exact .inr ⟨cn, _, _, hcn, hpend, h4.setConn _, rfl, hd, ⟨b, rfl⟩, .inr ⟨eq_false_of_ne_true hw, rfl, rfl⟩, hk4⟩

/-- the state in which `getresponse()` is called on connection `c`: it is connected through socket `k`, and what is unread
on `k` is the beginning of the server's reaction to attempt `a` of request `rid`, behind bytes that are no head bytes -/
def Awaits (s : State) (c k rid : Nat) (a : Attempt) : Prop :=
  (∃ cn : Conn, s.conns[c]? = some cn ∧ cn.sock = some k) ∧
  ∃ (sk : Sock) (H : List Cell), s.socks[k]? = some sk ∧ NoHd H ∧ sk.inbound <+: H ++ serverNow rid a

theorem Awaits.sock {s : State} {c k rid : Nat} {a : Attempt} (w : Awaits s c k rid a) {cn : Conn} (hc : s.conns[c]? = some cn) :
    cn.sock = some k := by
  obtain ⟨⟨_, h, e⟩, _⟩ := w
  cases h.symm.trans hc
  exact e

theorem Awaits.forget {s : State} {c k rid : Nat} {a : Attempt} (w : Awaits s c k rid a) :
    Awaits (forgetClosedPending s c) c k rid a := by
  obtain ⟨⟨cn, hc, hk⟩, sk, H, hsk, q⟩ := w
  obtain ⟨_, fs, fc, _⟩ := forget_fields s c
  obtain ⟨cn', g1, g2⟩ := fc cn hc
  exact ⟨⟨cn', g1, g2.trans hk⟩, sk, H, by rw [fs]; exact hsk, q⟩

theorem GetResp.prov {sF s5 : State} {c k rid : Nat} {isHead : Bool} {a : Attempt} {o : RespOut}
    (g : GetResp sF c k rid isHead s5 o) (pF : Prov A sF) (w : Awaits sF c k rid a) (hA : A rid a) : Prov A s5 := by
  rcases g.hp with ⟨rfl, -⟩ | ⟨cn, cn', rn, hcn, hpend, hp, q⟩
  · exact pF
  obtain ⟨⟨_, hcn0, hk'⟩, sk, H, hsk, hH, hpre⟩ := w
  cases hcn.symm.trans hcn0
  cases o with
  | exc e =>
    -- the new reader ends up closed and has delivered nothing; the connection is closed, or as it was
    obtain ⟨⟨b, rfl⟩, _, hct⟩ := q
    exact hp_prov pF hcn hk' hpend hp (.inl ⟨rfl, rfl⟩) (.inl rfl) rfl
      (hct.imp id fun e => ⟨(congrArg _ e).trans hk', .inl rfl⟩)
  | resp r =>
    -- the parser consumed exactly the head of the scripted reply; what is left belongs to its body
    obtain ⟨rfl, hd, ⟨b, rfl⟩, hct, hs⟩ := q
    obtain ⟨sk2, B, n, g2, f1, fg, f3, g3⟩ := hs sk hsk
    obtain ⟨rfl, hh0, hmm⟩ := scanHead_server hH (f3.trans hpre) f1 fg
    have hstream : b ++ sk2.inbound <+: postCells rid a hd := by
      have : headCells rid a.headLen hd ++ (b ++ sk2.inbound) <+: serverNow rid a := by
        rw [← hmm, ← List.append_assoc, g3]
        exact hpre
      rw [serverNow_some hh0] at this
      exact ((List.prefix_append_right_inj _).mp this).trans (List.take_prefix _ _)
    refine hp_prov pF hcn hk' hpend hp (.inr ⟨a, hd, ⟨hA, hh0, rfl, rfl, List.nil_prefix, fun _ _ => Nat.zero_le _,
      fun k' hk' => ?_⟩⟩) (.inr rfl) rfl
      (hct.imp And.left fun e => ⟨e.2.1.trans hk', .inr e.2.2⟩)
    cases hk'
    exact ⟨sk2, postCells rid a hd, g2, expect_init _ _ _, hstream, fun n hn => ⟨n, lenBound_some hn, Nat.le_of_eq (Nat.zero_add n)⟩⟩

theorem getResponse_prov {s s' : State} {c k rid : Nat} {rc : ReqCfg} {a : Attempt} {out : RespOut}
    (p : Prov A s) (w : Awaits s c k rid a) (hA : A rid a) (h : getResponse s c k rid rc = (s', out)) : Prov A s' := by
  obtain ⟨s5, o, g, e⟩ := getResponse_cases s c k rid rc
  have p5 := g.prov ((forget_safe p c).prov p) w.forget hA
  rw [h] at e
  cases o with
  | exc e' => cases e; exact p5
  | resp r =>
    dsimp only at e
    split at e
    · rcases hrr : respRead s5 r none with ⟨s6, d | e'⟩ <;> rw [hrr] at e <;> cases e <;> exact respRead_prov p5 hrr
    · cases e
      exact p5

theorem forget_of_settled {s : State} {c : Nat} (h : Settled s c) : forgetClosedPending s c = s := by
  rcases forget_cases s c with ⟨e, _⟩ | ⟨cn, hcn, _, r, rs, hr, hrs, hfp⟩
  · exact e
  · have := h cn r rs hcn hr hrs
    rw [hfp] at this
    cases this

theorem settled_forget (s : State) (c : Nat) : Settled (forgetClosedPending s c) c := by
  rcases forget_cases s c with ⟨e, hs⟩ | ⟨cn, hcn, e, _⟩ <;> rw [e]
  · exact hs
  · intro cn' r' rs' h1 h2
    have := (modify_at _ hcn).symm.trans h1
    cases this
    cases h2

theorem settled_congr {s t : State} {c : Nat} (h : Settled s c) (hr : t.resps = s.resps)
    (hc : ∀ cn' : Conn, t.conns[c]? = some cn' → ∃ cn : Conn, s.conns[c]? = some cn ∧ cn'.pending = cn.pending) : Settled t c := by
  intro cn' r rs h1 h2 h3
  obtain ⟨cn, g1, g2⟩ := hc cn' h1
  rw [hr] at h3
  exact h cn r rs g1 (by rw [← g2]; exact h2) h3

theorem getResponse_notReady {s : State} {c k rid : Nat} {rc : ReqCfg} {cn : Conn} (hs : Settled s c)
    (hc : s.conns[c]? = some cn) (hp : cn.pending.isSome = true) :
    getResponse s c k rid rc = (s, .exc (exc Gen.cResponseNotReady)) := by
  unfold getResponse
  rw [forget_of_settled hs]
  simp [hc, hp]

theorem oneChunk_shape (t : Tag) (d : List Nat) : ∀ c ∈ oneChunk t d, (∃ v, c = Cell.body t v) ∨ ∃ k, c = Cell.fr t k := by
  intro c hc
  simp only [oneChunk, List.mem_append, List.mem_cons, List.mem_map, List.not_mem_nil, or_false] at hc
  rcases hc with ((rfl | rfl | rfl) | ⟨v, _, rfl⟩) | rfl | rfl
  case inl.inr => exact .inl ⟨_, rfl⟩
  all_goals exact .inr ⟨_, rfl⟩

theorem chunkCells_shape (t : Tag) (sizes body : List Nat) : ∀ c ∈ chunkCells t sizes body,
    (∃ v, c = Cell.body t v) ∨ ∃ k, c = Cell.fr t k := by
  fun_induction chunkCells t sizes body <;> intro c hc
  · cases hc
  · exact oneChunk_shape t _ c hc
  · rename_i ih
    exact ih c hc
  · rename_i ih
    exact (List.mem_append.mp hc).elim (oneChunk_shape t _ c) (ih c)

theorem postCells_shape (rid : Nat) (a : Attempt) (h : Head) : ∀ c ∈ postCells rid a h,
    (∃ v, c = Cell.body (.req rid) v) ∨ (∃ k, c = Cell.fr (.req rid) k) ∨ ∃ v, c = Cell.body .stray v := by
  intro c hc
  unfold postCells framedCells at hc
  rcases List.mem_append.mp hc with hc | hc
  · split at hc
    · rcases List.mem_append.mp hc with hc | hc
      · rcases List.mem_append.mp hc with hc | hc
        · rcases chunkCells_shape _ _ _ c hc with q | q
          · exact Or.inl q
          · exact Or.inr (Or.inl q)
        · simp [lastChunk] at hc
          rcases hc with rfl | rfl | rfl <;> exact Or.inr (Or.inl ⟨_, rfl⟩)
      · exact Or.inr (Or.inl ((trailerCells_shape _ _ c hc).imp fun _ => And.left))
    · obtain ⟨v, _, rfl⟩ := List.mem_map.mp hc; exact Or.inl ⟨v, rfl⟩
  · obtain ⟨v, _, rfl⟩ := List.mem_map.mp hc; exact Or.inr (Or.inr ⟨v, rfl⟩)

theorem postCells_noHd (rid : Nat) (a : Attempt) (h : Head) : NoHd (postCells rid a h) := by
  intro c hc t fin e
  subst e
  rcases postCells_shape rid a h _ hc with ⟨_, q⟩ | ⟨_, q⟩ | ⟨_, q⟩ <;> cases q

theorem serverHeld_noHd (rid : Nat) (a : Attempt) : NoHd (serverHeld rid a) := by
  unfold serverHeld
  split
  · intro c hc
    cases hc
  · rename_i h _
    intro c hc
    exact postCells_noHd rid a h c (List.mem_of_mem_drop hc)

theorem postCells_tags (rid : Nat) (a : Attempt) (h : Head) :
    ∀ c ∈ postCells rid a h, cellTag c = .req rid ∨ cellTag c = .stray := by
  intro c hc
  rcases postCells_shape rid a h c hc with ⟨_, rfl⟩ | ⟨_, rfl⟩ | ⟨_, rfl⟩
  · exact Or.inl rfl
  · exact Or.inl rfl
  · exact Or.inr rfl

theorem serverCells_tags (rid : Nat) (a : Attempt) : ∀ c ∈ serverCells rid a, cellTag c = .req rid ∨ cellTag c = .stray := by
  intro c hc
  unfold serverCells at hc
  split at hc
  · simp at hc
  · rcases List.mem_append.mp hc with hc | hc
    · left
      simp only [headCells, List.mem_append, List.mem_replicate, List.mem_singleton] at hc
      rcases hc with ⟨_, rfl⟩ | rfl <;> rfl
    · exact postCells_tags _ _ _ c hc

theorem serverNow_held (rid : Nat) (a : Attempt) : serverNow rid a ++ serverHeld rid a = serverCells rid a := by
  unfold serverNow serverHeld serverCells
  split
  · rfl
  · simp

/-- a request was written to a socket whose previous response is still being read;
closing the connection (which `urlopen` is about to do) restores the invariant -/
theorem send_dirty_close {s : State} {c k r0 : Nat} {cn : Conn} (g : Sock → Sock) (e : Ev)
    (p : Prov A s) (hc : s.conns[c]? = some cn) (hk : cn.sock = some k) (hp : cn.pending = some r0)
    (hh : ∀ x, (g x).held = x.held ∨ NoHd (g x).held) (hnf : ¬ FinAt s k) :
    Prov A (connClose (setSock (logEv s e) k g) c) := by
  have p1 : Prov A (connClose s c) := (safe_pooling.connClose s c).prov p
  have nr : NoReader (connClose s c) k := by
    intro i rs' hi hfp
    obtain ⟨rs, a1, a2⟩ := (safe_pooling.connClose s c).open_old hi hfp
    have := p.pend i rs c cn k a1 a2 hc hk
    rw [hp] at this
    cases this
    have hcl : respFpClosed (connClose s c) r0 = true := by
      unfold respFpClosed
      rw [connClose_resps hc, hp]
      exact closeFp_closed s r0
    rw [respFpClosed_iff] at hcl
    rw [hcl rs' hi] at hfp
    cases hfp
  have hnf' : ¬ FinAt (connClose s c) k := by
    intro ⟨sk, h1, h2⟩
    rw [connClose_socks] at h1
    exact hnf ⟨sk, h1, h2⟩
  have p2 : Prov A (setSock (connClose s c) k g) := (setSock_safe _ k g (Or.inr nr) hh (Or.inr hnf')).prov p1
  refine (safe_core ?_ ?_ ?_).prov p2
  · show (connClose (setSock (logEv s e) k g) c).conns = (connClose s c).conns
    rw [connClose_conns, connClose_conns]
    rfl
  · show _ = (connClose s c).resps
    rw [connClose_resps hc, connClose_resps (s := setSock (logEv s e) k g) hc, hp]
    exact closeFp_congr r0 rfl
  · rw [connClose_socks]
    simp [setSock, connClose_socks, logEv]

theorem connect_ok_safe {s : State} (p : Prov A s) (c : Nat) (x : Sock) (ev : Ev) (b : Bool)
    (hx : x.held = []) :
    Safe s (setConn (logEv { s with socks := s.socks ++ [x] } ev) c fun y => { y with sock := some s.socks.length, proxyConnected := b }) := by
  have e := appendSock_safe s x hx
  refine ⟨e.slen, e.rlen, e.st, e.sk, e.rs, fun c' cn' k' h1 h2 => ?_, e.hd, e.fin, e.eo⟩
  obtain ⟨y, hy, rfl⟩ := modify_some h1
  split at h2 <;> rename_i hcc
  · subst hcc
    cases h2
    refine Or.inr ⟨Nat.le_refl _, by simp [setConn, logEv], fun i rs' hi hfp => ?_, fun c2 cn2 g1 g2 => ?_⟩
    · exact absurd (p.fpB i rs' _ hi hfp) (Nat.lt_irrefl _)
    · obtain ⟨y2, hy2, rfl⟩ := modify_some g1
      split at g2 <;> rename_i hc2
      · exact hc2.symm
      · exact absurd (p.sockB c2 y2 _ hy2 g2) (Nat.lt_irrefl _)
  · exact Or.inl ⟨y, hy, h2, Or.inl (by rw [if_neg hcc])⟩

theorem connect_spec {s s' : State} {c : Nat} {a : Attempt} {cn : Conn} {ek : Except Exc Nat}
    (p : Prov A s) (hc : s.conns[c]? = some cn) (h : connect s c a = (s', ek)) :
    Prov A s' ∧ s'.resps = s.resps ∧ (∀ e, ek = .error e → s'.conns = s.conns) ∧
    (∀ k, ek = .ok k → s'.conns[c]? = some { cn with sock := some k, proxyConnected := s.proxy } ∧
      (∃ sk : Sock, s'.socks[k]? = some sk ∧ sk.inbound = [] ∧ sk.after ≠ .fin) ∧ s.socks.length ≤ k) := by
  unfold connect at h
  have ps : Safe s (logEv { s with socks := s.socks ++ [{ seg := a.seg }] } (.connect s.socks.length)) :=
    (appendSock_safe s _ rfl).trans (safe_pooling.log _ _)
  cases hcon : a.connect <;> rw [hcon] at h <;> cases h
  · refine ⟨(connect_ok_safe p c _ _ _ rfl).prov p, rfl, (by intro e he; cases he), ?_⟩
    intro k hk
    cases hk
    exact ⟨modify_at _ hc, ⟨{ seg := a.seg }, List.getElem?_concat_length, rfl, fun h => nomatch h⟩, Nat.le_refl _⟩
  · exact ⟨(ps.trans (safe_pooling.log _ _)).prov p, rfl, fun _ _ => rfl, by intro k hk; cases hk⟩
  · exact ⟨(ps.trans (safe_pooling.log _ _)).prov p, rfl, fun _ _ => rfl, by intro k hk; cases hk⟩
  · exact ⟨p, rfl, fun _ _ => rfl, by intro k hk; cases hk⟩
  · exact ⟨ps.prov p, rfl, fun _ _ => rfl, by intro k hk; cases hk⟩

/-- the leased connection is not connected, or nothing is pending on its socket: the kernel buffer is empty and the
peer has not closed (the checkout probe) -/
def Lease (s : State) (c : Nat) : Prop :=
  ∀ (cn : Conn) (k : Nat), s.conns[c]? = some cn → cn.sock = some k →
    ∃ sk : Sock, s.socks[k]? = some sk ∧ sk.inbound = [] ∧ sk.after ≠ .fin

/-- what `_make_request` knows once `conn.request(...)` has written the request to socket `k` -/
def Sent (A : Nat → Attempt → Prop) (s' : State) (c k rid : Nat) (a : Attempt) : Prop :=
  Settled s' c ∧ ∃ cn : Conn, s'.conns[c]? = some cn ∧ cn.sock = some k ∧
    ((cn.pending = none ∧ Prov A s' ∧ Awaits s' c k rid a) ∨ (cn.pending.isSome = true ∧ Prov A (connClose s' c)))

theorem Lease.awaits {s : State} {c k rid : Nat} {a : Attempt} {cn : Conn} (hl : Lease s c) (hc : s.conns[c]? = some cn)
    (hk : cn.sock = some k) : Awaits s c k rid a :=
  let ⟨sk, hsk, hin, _⟩ := hl cn k hc hk
  ⟨⟨cn, hc, hk⟩, sk, [], hsk, fun _ h => absurd h List.not_mem_nil, hin ▸ List.nil_prefix⟩

theorem send_spec {t t' : State} {c k rid : Nat} {a : Attempt} {cnt : Conn} {ek : Except Exc Nat}
    (p : Prov A t) (hl : Lease t c) (hst : Settled t c) (hc : t.conns[c]? = some cnt) (hk : cnt.sock = some k)
    (h : (match (generalizing := false) sendExc a.send with
      | some e => (t, Except.error e)
      | none => (setSock (logEv t (.send k)) k fun sk =>
          { sk with inbound := sk.inbound ++ (sk.held ++ serverNow rid a), held := serverHeld rid a, after := a.after },
        .ok k)) = (t', ek)) :
    (∀ e, ek = .error e → Prov A t' ∧ Lease t' c) ∧ (∀ k', ek = .ok k' → Sent A t' c k' rid a) := by
  cases hse : sendExc a.send <;> rw [hse] at h <;> cases h
  · refine ⟨(fun _ h => nomatch h), fun k' hk' => ?_⟩
    cases hk'
    obtain ⟨skt, hsk, hin, hnf⟩ := hl cnt k hc hk
    refine ⟨settled_congr hst rfl (fun cn' h => ⟨cn', h, rfl⟩), cnt, hc, hk, ?_⟩
    have hnf' : ¬ FinAt t k := fun ⟨sk, h1, h2⟩ => hnf (Option.some.inj (hsk.symm.trans h1) ▸ h2)
    cases hp : cnt.pending with
    | none =>
      have nr := noReader_of_nopending p hc hk hp
      refine Or.inl ⟨rfl, ((safe_pooling.log t _).trans (setSock_safe _ k _ (Or.inr nr) (fun _ => Or.inr (serverHeld_noHd rid a)) (Or.inr hnf'))).prov p,
        ⟨cnt, hc, hk⟩, _, skt.held, modify_at _ hsk, p.heldB k skt hsk, by simp [hin]⟩
    | some r0 => exact Or.inr ⟨rfl, send_dirty_close _ _ p hc hk hp (fun _ => Or.inr (serverHeld_noHd rid a)) hnf'⟩
  · exact ⟨fun e _ => ⟨p, hl⟩, fun _ h => nomatch h⟩

/-- `putrequest()`: a closed `__response` is forgotten; on an idle connection object the request is then under way -/
theorem putrequest_spec {s : State} {c : Nat} (p : Prov A s) (hl : Lease s c) :
    Prov A (forgetClosedPending s c) ∧ Lease (forgetClosedPending s c) c ∧
    ∀ cn, (forgetClosedPending s c).conns[c]? = some cn →
      let s1 := setConn (forgetClosedPending s c) c fun x => { x with http := .reqSent }
      Prov A s1 ∧ Lease s1 c ∧ Settled s1 c ∧ s1.conns[c]? = some { cn with http := .reqSent } := by
  have pF := (forget_safe p c).prov p
  have hlF : Lease (forgetClosedPending s c) c := by
    rcases forget_cases s c with ⟨e, _⟩ | ⟨cn, hcn, e, _⟩ <;> rw [e]
    · exact hl
    · intro cn' k h1 h2
      cases (modify_at _ hcn).symm.trans h1
      exact hl cn k hcn h2
  have hst := settled_forget s c
  generalize forgetClosedPending s c = sF at pF hst hlF
  refine ⟨pF, hlF, fun cn hcn => ?_⟩
  have hc1 := modify_at (fun x : Conn => { x with http := .reqSent }) hcn
  refine ⟨(setConn_safe sF c (fun x => { x with http := .reqSent }) (fun x => Or.inr ⟨rfl, rfl⟩)).prov pF, fun cn' k' h1 h2 => ?_,
    settled_congr hst rfl fun cn' h' => ?_, hc1⟩
  · cases hc1.symm.trans h1
    exact hlF cn k' hcn h2
  · cases hc1.symm.trans h'; exact ⟨cn, hcn, rfl⟩

theorem connRequest_spec {s s' : State} {c rid : Nat} {a : Attempt} {ek : Except Exc Nat}
    (p : Prov A s) (hl : Lease s c) (h : connRequest s c rid a = (s', ek)) :
    (∀ e, ek = .error e → Prov A s' ∧ Lease s' c) ∧ (∀ k, ek = .ok k → Sent A s' c k rid a) := by
  unfold connRequest at h
  obtain ⟨pF, hlF, put⟩ := putrequest_spec p hl
  generalize forgetClosedPending s c = sF at h pF hlF put
  dsimp only at h
  split at h
  · cases h; exact ⟨fun e _ => ⟨pF, hlF⟩, fun _ h => nomatch h⟩
  · rename_i cn hcn
    split at h
    · cases h; exact ⟨fun e _ => ⟨pF, hlF⟩, fun _ h => nomatch h⟩
    · obtain ⟨p1, hl1, hst1, hc1⟩ := put cn hcn
      generalize (setConn sF c fun x => { x with http := .reqSent }) = s1 at h p1 hl1 hc1 hst1
      cases hsock : cn.sock with
      | some k =>
        simp only [hsock] at h
        exact send_spec p1 hl1 hst1 hc1 hsock h
      | none =>
        simp only [hsock] at h
        rcases hco : connect s1 c a with ⟨s2, e | k⟩ <;> rw [hco] at h
        all_goals obtain ⟨p2, hr2, he2, hk2⟩ := connect_spec p1 hc1 hco
        · cases h
          refine ⟨fun _ _ => ⟨p2, fun cn' k' h1 h2 => ?_⟩, fun _ h => nomatch h⟩
          rw [he2 e rfl, hc1] at h1
          cases h1
          rw [hsock] at h2
          cases h2
        · obtain ⟨hc2, hsk2, -⟩ := hk2 k rfl
          have hl2 : Lease s2 c := fun cn' k' h1 h2 => by
            cases hc2.symm.trans h1
            cases h2
            exact hsk2
          exact send_spec p2 hl2 (settled_congr hst1 hr2 fun cn' h' => ⟨_, hc1, by cases hc2.symm.trans h'; rfl⟩) hc2 rfl h

theorem connReject_spec {s s' : State} {c : Nat} {ek : Except Exc Nat}
    (p : Prov A s) (hl : Lease s c) (h : connReject s c = (s', ek)) :
    (∀ e, ek = .error e → Prov A s' ∧ Lease s' c) ∧ (∀ k, ek ≠ .ok k) := by
  unfold connReject at h
  obtain ⟨pF, hlF, put⟩ := putrequest_spec p hl
  generalize forgetClosedPending s c = sF at h pF hlF put
  dsimp only at h
  split at h
  · cases h; exact ⟨fun e _ => ⟨pF, hlF⟩, fun _ h => nomatch h⟩
  · rename_i cn hcn
    split at h <;> cases h
    · exact ⟨fun e _ => ⟨pF, hlF⟩, fun _ h => nomatch h⟩
    · obtain ⟨p1, hl1, _⟩ := put cn hcn
      exact ⟨fun e _ => ⟨p1, hl1⟩, fun _ h => nomatch h⟩

theorem connRequestH_spec {s s' : State} {c rid : Nat} {a : Attempt} {bad : Bool}
    {ek : Except Exc Nat} (p : Prov A s) (hl : Lease s c) (h : connRequestH s c rid a bad = (s', ek)) :
    (∀ e, ek = .error e → Prov A s' ∧ Lease s' c) ∧ (∀ k, ek = .ok k → Sent A s' c k rid a) := by
  cases bad with
  | false => exact connRequest_spec p hl h
  | true =>
    obtain ⟨g1, g2⟩ := connReject_spec p hl h
    exact ⟨g1, fun k hk => absurd hk (g2 k)⟩

theorem attachResp_prov {s : State} (c r : Nat) (rc : ReqCfg) (p : Prov A s) :
    Prov A (attachResp s c r rc).1 := by
  unfold attachResp
  extract_lets t
  have st : Safe s t := setResp_safe s r _ fun x => ⟨rfl, rfl, rfl, Or.inr ⟨rfl, rfl, rfl, rfl⟩⟩
  have p1 := st.prov p
  split
  · rcases h : releaseConn t r with ⟨t2, _ | e⟩ <;> exact congrArg Prod.fst h ▸ (safe_pooling.releaseConn t r).prov p1
  · exact p1

theorem makeTail_prov {s s' : State} {c k rid : Nat} {rc : ReqCfg} {a : Attempt} {out : RespOut}
    (p : Prov A s) (w : Awaits s c k rid a) (hA : A rid a) (h : makeTail s c rid rc (.ok k) = (s', out)) : Prov A s' := by
  unfold makeTail at h
  dsimp only at h
  rcases hgr : getResponse s c k rid rc with ⟨s2, r | e⟩ <;> rw [hgr] at h <;> dsimp only at h
  · have := attachResp_prov c r rc (getResponse_prov p w hA hgr)
    rwa [h] at this
  · cases h
    exact getResponse_prov p w hA hgr

/-- what `_make_request` has in hand when it turns to `getresponse()`: `conn.request()` failed for good; or the reply is
awaited on a socket `k` (the request went out, or the error of the send was swallowed); or the request was written behind a
response that is still being read — then `getresponse()` will refuse, and closing the connection (which `urlopen` is about
to do) restores the invariant -/
theorem connRequestH_next {s s1 : State} {c rid : Nat} {a : Attempt} {bad : Bool} {ek : Except Exc Nat}
    (p : Prov A s) (hl : Lease s c) (h : connRequestH s c rid a bad = (s1, ek)) :
    (Prov A s1 ∧ ((∃ e, sendFix s1 c ek = .error e) ∨ ∃ k, sendFix s1 c ek = .ok k ∧ Awaits s1 c k rid a)) ∨
    ∃ (k : Nat) (cn : Conn), ek = .ok k ∧ Settled s1 c ∧ s1.conns[c]? = some cn ∧ cn.pending.isSome = true ∧
      Prov A (connClose s1 c) := by
  obtain ⟨spE, spK⟩ := connRequestH_spec p hl h
  cases ek with
  | ok k =>
    obtain ⟨hst, cn, hc, _, ⟨_, p1, w⟩ | ⟨hp, pc⟩⟩ := spK k rfl
    · exact .inl ⟨p1, .inr ⟨k, rfl, w⟩⟩
    · exact .inr ⟨k, cn, rfl, hst, hc, hp, pc⟩
  | error e =>
    obtain ⟨p1, hl1⟩ := spE e rfl
    refine .inl ⟨p1, ?_⟩
    unfold sendFix
    dsimp only
    split
    · cases hcn : s1.conns[c]? with
      | none => exact .inl ⟨_, rfl⟩
      | some cn =>
        dsimp only
        cases hk : cn.sock with
        | none => exact .inl ⟨_, rfl⟩
        | some k => exact .inr ⟨k, rfl, hl1.awaits hcn hk⟩
    · exact .inl ⟨_, rfl⟩

theorem makeRequest_spec {s s' : State} {c rid : Nat} {a : Attempt} {rc : ReqCfg} {out : RespOut}
    (p : Prov A s) (hl : Lease s c) (hA : A rid a) (h : makeRequest s c rid a rc = (s', out)) :
    (∀ r, out = .resp r → Prov A s') ∧
    (∀ e, out = .exc e → Prov A (connClose s' c) ∧ (Prov A s' ∨ e = translateRecv (exc Gen.cResponseNotReady))) := by
  -- the state is good, except after a request written behind a response that is still being read
  suffices hs : Prov A s' ∨ (Prov A (connClose s' c) ∧ out = .exc (translateRecv (exc Gen.cResponseNotReady))) by
    rcases hs with p' | ⟨pc, rfl⟩
    · exact ⟨fun _ _ => p', fun _ _ => ⟨(safe_pooling.connClose _ _).prov p', Or.inl p'⟩⟩
    · exact ⟨(fun _ h => nomatch h), fun e he => by cases he; exact ⟨pc, Or.inr rfl⟩⟩
  rw [makeRequest_eq] at h
  rcases hcr : connRequestH s c rid a rc.badHeader with ⟨s1, ek⟩
  rw [hcr] at h
  dsimp only at h
  rcases connRequestH_next p hl hcr with ⟨p1, ⟨e, he⟩ | ⟨k, hk, w⟩⟩ | ⟨k, cn, rfl, hst, hc, hp, pc⟩
  · rw [he] at h
    cases h
    exact .inl p1
  · rw [hk] at h
    exact .inl (makeTail_prov p1 w hA h)
  · unfold sendFix makeTail at h
    dsimp only at h
    rw [getResponse_notReady hst hc hp] at h
    cases h
    exact .inr ⟨pc, rfl⟩

theorem lease_of_not_dropped {s : State} {c : Nat} (h : isDropped s c = false) : Lease s c := by
  intro cn k h1 h2
  simp only [isDropped, h1, h2, sockReadable] at h
  split at h
  · cases h
  · rename_i sk hsk
    simp only [Bool.or_eq_false_iff, Bool.not_eq_false', List.isEmpty_iff, beq_eq_false_iff_ne] at h
    exact ⟨sk, hsk, h.1, h.2⟩

theorem getConn_lease {s s1 : State} {c : Nat} (h : getConn s = (s1, .ok c)) : Lease s1 c := by
  have fresh : ∀ (t : State), Lease (newConn t).1 (newConn t).2 := by
    intro t cn k h1 h2
    simp [newConn] at h1
    subst h1
    cases h2
  unfold getConn at h
  split at h
  · cases h
  · split at h
    · split at h
      · cases h
      · cases h
        exact fresh s
    · rename_i item rest hq
      cases item with
      | none => cases h; exact fresh _
      | some c0 =>
        cases h
        split
        · intro cn k h1 h2
          rw [connClose_sock_none _ _ _ h1] at h2
          cases h2
        · rename_i hd
          exact lease_of_not_dropped (Bool.eq_false_iff.mpr hd)

theorem not_noCleanup_of {cls : Nat} (u : Bool) (rt : Retry) (m : Bool)
    (h1 : isInst cls (Gen.urlopenHandlers.getD 1 []) = false) : handleError u rt m cls ≠ .noCleanup := by
  unfold handleError
  rw [h1]
  simp only [Bool.false_eq_true, if_false]
  split
  · split <;> simp
  · simp

theorem rnr_not_noCleanup (u : Bool) (rt : Retry) (m : Bool) :
    handleError u rt m (translateRecv (exc Gen.cResponseNotReady)).cls ≠ .noCleanup :=
  not_noCleanup_of u rt m (by decide)

theorem discard_some_prov {s : State} {c : Nat} (p : Prov A (connClose s c)) :
    Prov A (discard s (some c)).1 := (safe_pooling.putConn (connClose s c) none).prov p

theorem request_prov (rid : Nat) : ∀ (script : List Attempt) (s : State) (rc : ReqCfg) (retries : Retry),
    Prov A s → (∀ a ∈ script, A rid a) → Prov A (request s rid rc retries script).1 := by
  intro script
  induction script with
  | nil => intro s rc retries p _; exact p
  | cons a rest ih =>
    intro s rc retries p hA
    have again : ∀ (t : State) (rc' : ReqCfg) (rt : Retry), Prov A t → Prov A (request t rid rc' rt rest).1 :=
      fun t rc' rt pt => ih t rc' rt pt fun a' h => hA a' (List.mem_cons_of_mem _ h)
    cases hpf : preflight rc a with
    | some e => rw [request_early (.inl hpf)]; exact p
    | none =>
    rcases hg : getConnT s rc.badPoolTimeout with ⟨s1, e | c⟩
    · rw [request_early (.inr ⟨hpf, _, hg⟩)]; exact p
    have hg' := getConnT_ok hg
    have p1 := fst_of_eq (P := (Prov A ·)) hg' ((safe_pooling.getConn s).prov p)
    rcases hm : makeRequest s1 c rid a rc with ⟨s2, r | e⟩ <;>
      obtain ⟨okr, oke⟩ := makeRequest_spec p1 (getConn_lease hg') (hA a (List.mem_cons_self ..)) hm
    · -- clean exit; `finally`: the connection goes back if `release_conn`
      have pp : Prov A (putBack rc c s2).1 := by
        unfold putBack
        split
        · exact (safe_pooling.putConn s2 (some c)).prov (okr r rfl)
        · exact okr r rfl
      have pd := drainConn_prov (r := r) pp
      exact request_clean (Q := fun x => Prov A x.1) hpf hg hm (fun _ _ => pp) ((markReturned_safe _ r).prov pp) (fun _ _ => pd)
        fun _ _ _ => again _ _ _ pd
    · -- unclean exit; `finally`: the connection is closed and a `None` takes its slot
      have pd := discard_some_prov (oke e rfl).1
      exact request_unclean (Q := fun x => Prov A x.1) hpf hg hm
        (fun hh => (oke e rfl).2.elim id fun q => absurd hh (q ▸ rnr_not_noCleanup _ _ _)) (fun _ _ => pd) fun _ _ => again _ _ _ pd

theorem closePool_prov {s : State} (p : Prov A s) : Prov A (closePool s) :=
  (safe_pooling.closePool s).prov p

theorem step_prov {s : State} (op : Op) (p : Prov A s)
    (hA : ∀ rid rc rt script, op = .request rid rc rt script → ∀ a ∈ script, A rid a) : Prov A (step s op).1 := by
  cases op with
  | request rid rc rt script => exact request_prov rid script s rc rt p (hA rid rc rt script rfl)
  | dispose rid how => exact dispose_prov rid how p
  | closePool => exact closePool_prov p

theorem init_prov (A : Nat → Attempt → Prop) (n : Nat) (b pr : Bool) : Prov A (init n b pr) := by
  refine ⟨?_, ?_, ?_, ?_, ?_, ?_, ?_, ?_⟩ <;> simp [init]

/-- attempt `a` is scripted for request `rid` somewhere in history `ops` -/
def Scripted (ops : List Op) (rid : Nat) (a : Attempt) : Prop :=
  ∃ rc rt script, Op.request rid rc rt script ∈ ops ∧ a ∈ script

theorem run_prov_gen (ops : List Op) (s : State) (p : Prov A s)
    (hA : ∀ op ∈ ops, ∀ rid rc rt script, op = Op.request rid rc rt script → ∀ a ∈ script, A rid a) : Prov A (run s ops) :=
  run_closure ops s (fun op hm _ pt => step_prov op pt (hA op hm)) p

theorem run_prov (ops : List Op) (n : Nat) (b pr : Bool) : Prov (Scripted ops) (run (init n b pr) ops) := by
  refine run_prov_gen ops _ (init_prov _ n b pr) ?_
  intro op hm rid rc rt script he a ha
  exact ⟨rc, rt, script, he ▸ hm, ha⟩

/-- every byte delivered for response `r` was sent by the server in reaction to `r`'s own request -/
def ownBytes (r : Resp) : Bool := r.delivered.all fun c => cellTag c == .req r.rid

/-- the scripted server marks as `stray` only bytes that lie beyond the declared end of the reply:
either there are none, or the reply is chunked (the chunked coding delimits itself), or it is one that
never has a body (1xx, 204, 304), or its `Content-Length` does not exceed the body actually sent -/
def WellFramed (a : Attempt) : Prop :=
  a.stray = [] ∨ ∃ h, a.head = some h ∧
    (h.chunked = true ∨ (h.status = 204 ∨ h.status = 304 ∨ (100 ≤ h.status ∧ h.status < 200)) ∨
      ∃ n, h.cl = some n ∧ n ≤ a.body.length)

theorem prefix_body_of_framed {rs : Resp} {a : Attempt} {h : Head} (hw : WellFramed a) (hh : a.head = some h)
    (hp : rs.delivered <+: deliverable rs.rid a h) (hl : ∀ n, lenBound h rs.isHead = some n → rs.delivered.length ≤ n) :
    rs.delivered <+: a.body.map (Cell.body (.req rs.rid)) := by
  by_cases hc : h.chunked = true
  · rwa [deliverable_chunked hc] at hp
  have hc : h.chunked = false := by simpa using hc
  rw [deliverable_plain hc] at hp
  rw [lenBound_plain hc] at hl
  have hbody : a.body.map (Cell.body (.req rs.rid)) <+: bodyCells rs.rid a := List.prefix_append _ _
  rcases hw with hw | ⟨h', hh', hw⟩
  · simpa [bodyCells, payloadCells, strayCells, hw] using hp
  · rw [hh] at hh'
    cases hh'
    have hlen : rs.delivered.length ≤ (a.body.map (Cell.body (.req rs.rid))).length := by
      rcases hw with hw | hw | ⟨n, hn, hle⟩
      · rw [hc] at hw
        cases hw
      · have : initLength h rs.isHead = some 0 := by
          unfold initLength noBody
          rcases hw with e | e | ⟨e1, e2⟩ <;> simp [*]
        have := hl 0 this
        omega
      · by_cases hnb : noBody h.status rs.isHead = true
        · have := hl 0 (by simp [initLength, hnb]); omega
        · have := hl n (by simp [initLength, hnb, hn, hc])
          simp
          omega
    exact List.prefix_of_prefix_length_le hp hbody hlen

theorem ownBytes_of_prefix {rs : Resp} {l : List Nat} (hp : rs.delivered <+: l.map (Cell.body (.req rs.rid))) :
    ownBytes rs = true := by
  unfold ownBytes
  rw [List.all_eq_true]
  intro c hc
  obtain ⟨t, ht⟩ := hp
  have : c ∈ l.map (Cell.body (.req rs.rid)) := by rw [← ht]; exact List.mem_append_left _ hc
  obtain ⟨v, _, rfl⟩ := List.mem_map.mp this
  simp [cellTag]

end U3.Pool
