import U3.Lemmas.Manager
import U3.Lemmas.ManagerOrigin
import U3.Lemmas.Headers
/-! The header carriers through the redirect loops (C05 / C06): the strip loop and the 303 rewrite
are filters on the keys of the carrier; the proxy merges only add names. -/
namespace U3.Manager
open U3 U3.Headers U3.Retry

/-- an `HTTPHeaderDict` satisfies its representation invariant (C16: every operation preserves it);
a plain `dict` needs nothing -/
def Hdrs.WF : Hdrs → Prop
  | .dict _ => True
  | .hd h => Inv h

theorem Hdrs.copy_eq (h : Hdrs) (hw : h.WF) : h.copy = h := by
  cases h with
  | dict ps => rfl
  | hd x =>
    simp only [Hdrs.copy]
    rw [Headers.copy_eq x hw]

theorem Hdrs.items_names (h : Hdrs) : ∀ l ∈ h.items, l.1 ∈ h.keys := by
  cases h with
  | dict ps =>
    intro l hl
    exact List.mem_map_of_mem hl
  | hd x =>
    intro l hl
    simp only [Hdrs.items, iteritems, List.mem_flatMap, List.mem_map] at hl
    obtain ⟨e, he, v, _, rfl⟩ := hl
    exact List.mem_map_of_mem he

/-- deleting once per selected key (`f`, a filter through the wrapper `wrap`) is one filter -/
theorem foldl_filter {α β : Type} (wrap : List α → β) (f : β → Str → β) (m : α → Str → Bool)
    (hf : ∀ l k, f (wrap l) k = wrap (l.filter fun x => !(m x k))) (c : Str → Bool) (ks : List Str)
    (l : List α) :
    ks.foldl (fun a k => if c k then f a k else a) (wrap l)
      = wrap (l.filter fun x => !(ks.any fun k => c k && m x k)) := by
  induction ks generalizing l with
  | nil => exact congrArg wrap (List.filter_eq_self.2 fun _ _ => rfl).symm
  | cons k t ih =>
    rw [List.foldl_cons]
    split
    · next hk =>
      rw [hf, ih, List.filter_filter]
      congr 1
      apply List.filter_congr
      intro x _
      simp [hk, Bool.and_comm]
    · next hk =>
      rw [ih]
      congr 1
      apply List.filter_congr
      intro x _
      simp [hk]

/-- a fold whose step adds no name but that of the pair it meets keeps `P` on the names, if the names of
the pairs satisfy `P` -/
theorem foldl_names {β : Type} (keys : β → List Str) (f : β → Str × Str → β)
    (hf : ∀ b p, ∀ k ∈ keys (f b p), k ∈ keys b ∨ k = p.1) {P : Str → Prop} (src : List (Str × Str))
    (hs : ∀ k ∈ src.map (·.1), P k) (b : β) (hb : ∀ k ∈ keys b, P k) :
    ∀ k ∈ keys (src.foldl f b), P k := by
  induction src generalizing b with
  | nil => exact hb
  | cons p t ih =>
    rw [List.map_cons, List.forall_mem_cons] at hs
    exact ih hs.2 _ fun k hk => (hf b p k hk).elim (hb k) (· ▸ hs.1)

/-- the carrier with the fields named `k`, `q k = false`, removed -/
def Hdrs.filterKeys (q : Str → Bool) : Hdrs → Hdrs
  | .dict ps => .dict (ps.filter fun p => q p.1)
  | .hd h => .hd (h.filter fun e => q e.name)

theorem Hdrs.filterKeys_keys (q : Str → Bool) (h : Hdrs) : (h.filterKeys q).keys = h.keys.filter q := by
  cases h <;> simp only [Hdrs.filterKeys, Hdrs.keys, iterKeys, List.filter_map] <;> rfl

/-- a well-formed carrier all of whose field names satisfy `P`, those in `J` (the names the proxy
machinery injects) apart.  Every operation on carriers has one lemma saying what it makes of `Only J P`:
the proxy merges keep it, the filters add the filter's condition to `P`. -/
def Hdrs.Only (J : List Str) (P : Str → Prop) (h : Hdrs) : Prop := h.WF ∧ ∀ k ∈ h.keys, P k ∨ k ∈ J

theorem Hdrs.WF.only {J : List Str} {h : Hdrs} (hw : h.WF) : h.Only J fun _ => True :=
  ⟨hw, fun _ _ => .inl trivial⟩

theorem Hdrs.Only.mono {J : List Str} {P Q : Str → Prop} {h : Hdrs} (H : h.Only J P) (hPQ : ∀ k, P k → Q k) :
    h.Only J Q :=
  ⟨H.1, fun k hk => (H.2 k hk).imp_left (hPQ k)⟩

theorem Hdrs.Only.filterKeys {J : List Str} {P : Str → Prop} {h : Hdrs} (H : h.Only J P) (q : Str → Bool) :
    (h.filterKeys q).Only J fun k => P k ∧ q k = true := by
  refine ⟨?_, fun k hk => ?_⟩
  · cases h with
    | dict ps => trivial
    | hd x => exact filter_inv x _ H.1
  · rw [Hdrs.filterKeys_keys, List.mem_filter] at hk
    exact (H.2 k hk.1).imp_left (⟨·, hk.2⟩)

theorem Hdrs.filterKeys_items (q : Str → Bool) (h : Hdrs) :
    (h.filterKeys q).items = h.items.filter (fun l => q l.1) := by
  cases h with
  | dict ps => rfl
  | hd x => exact iteritems_filter_name x q

/-- **the strip loop** removes exactly the fields whose lower-cased name is in the set (from a plain
dict: all case variants of the key, one `pop` each) -/
theorem strip_eq (R : List Str) (h : Hdrs) (hw : h.WF) :
    strip R h = h.filterKeys (fun k => !R.contains (lower k)) := by
  unfold strip
  rw [h.copy_eq hw]
  cases h with
  | dict ps =>
    refine (foldl_filter Hdrs.dict Hdrs.popD (fun p k => p.1 == k) (fun _ _ => rfl) _ _ ps).trans ?_
    congr 1
    apply List.filter_congr
    intro p hp
    congr 1
    rw [Bool.eq_iff_iff]
    simp only [Hdrs.keys, List.any_eq_true, List.mem_map, Bool.and_eq_true, beq_iff_eq]
    constructor
    · rintro ⟨k, _, hk, hpk⟩
      rw [hpk]
      exact hk
    · intro h
      exact ⟨p.1, ⟨p, hp, rfl⟩, h, rfl⟩
  | hd x =>
    refine (foldl_filter Hdrs.hd Hdrs.popD (fun e k => e.key == lower k)
      (fun l k => congrArg Hdrs.hd (discard_eq l k)) _ _ x).trans ?_
    congr 1
    apply List.filter_congr
    intro e he
    congr 1
    rw [Bool.eq_iff_iff]
    have hkey := (hw.2 e he).1
    simp only [Hdrs.keys, iterKeys, List.any_eq_true, List.mem_map, Bool.and_eq_true, beq_iff_eq]
    constructor
    · rintro ⟨k, _, hk, hek⟩
      rw [← hkey, hek]
      exact hk
    · intro h'
      exact ⟨e.name, ⟨e, he, rfl⟩, h', hkey⟩

theorem dictSet_keys (d : List (Str × Str)) (k v : Str) :
    ∀ x ∈ (dictSet d k v).map (·.1), x ∈ d.map (·.1) ∨ x = k := by
  induction d with
  | nil =>
    intro x hx
    exact .inr (by simpa [dictSet] using hx)
  | cons p t ih =>
    intro x hx
    unfold dictSet at hx
    split at hx
    · rcases List.mem_cons.1 hx with h | h
      · exact .inr h
      · exact .inl (List.mem_cons_of_mem _ h)
    · rcases List.mem_cons.1 hx with h | h
      · exact .inl (h ▸ List.mem_cons_self)
      · exact (ih x h).imp_left (List.mem_cons_of_mem _)

theorem add_names (h : HD) (k v : Str) : ∀ n ∈ iterKeys (add h k v false), n ∈ iterKeys h ∨ n = k := by
  rw [add_eq_alter]
  exact alter_names (g := addTo v false) (fun _ => .inl rfl) h

theorem setItem_names (h : HD) (k v : Str) : ∀ n ∈ iterKeys (setItem h k v), n ∈ iterKeys h ∨ n = k := by
  rw [setItem_eq_alter]
  exact alter_names (fun _ => .inr rfl) h

section Only
variable {J : List Str} {P : Str → Prop} {h : Hdrs}

theorem Hdrs.Only.updateDict (H : h.Only J P) {src : List (Str × Str)} (hs : ∀ k ∈ src.map (·.1), k ∈ J) :
    (h.updateDict src).Only J P := by
  have hs' := fun k hk => Or.inr (a := P k) (hs k hk)
  cases h with
  | dict ps => exact ⟨trivial, foldl_names (·.map (·.1)) _ (fun d p => dictSet_keys d p.1 p.2) src hs' ps H.2⟩
  | hd x =>
    exact ⟨(update_rep src ⟨H.1, rfl⟩).1,
      foldl_names iterKeys _ (fun h p => setItem_names h p.1 p.2) src hs' x H.2⟩

theorem Hdrs.Only.toHD (H : h.Only J P) : (Hdrs.hd h.toHD).Only J P := by
  cases h with
  | dict ps =>
    exact ⟨(extend_rep ps ⟨inv_nil, rfl⟩).1,
      foldl_names iterKeys _ (fun h p => add_names h p.1 p.2) ps H.2 [] nofun⟩
  | hd x =>
    simp only [Hdrs.toHD]
    rw [Headers.copy_eq x H.1]
    exact H

end Only

/-- a name that is not content-specific -/
def keepContent (n : Str) : Bool := !(contentSpecific.any (fun k => lower n == lower k))

/-- `keepContent` of the name of a header line -/
def notContent (l : Str × Str) : Bool := !(contentSpecific.any (fun k => lower l.1 == lower k))

/-- **the 303 rewrite** keeps exactly the fields of `HTTPHeaderDict(headers)` that are not
content-specific -/
theorem methodChange_eq (h : Hdrs) (hw : h.WF) :
    methodChange h = (Hdrs.hd h.toHD).filterKeys keepContent := by
  have := foldl_filter id Headers.discard (fun e k => e.key == lower k) discard_eq (fun _ => true)
    contentSpecific h.toHD
  simp only [if_true, Bool.true_and, id] at this
  simp only [methodChange, prepareForMethodChange, Hdrs.filterKeys]
  rw [this]
  congr 1
  apply List.filter_congr
  intro e he
  simp only [keepContent, ((hw.only (J := [])).toHD.1.2 e he).1]

/-- the names a pool's proxy merge adds -/
def poolInjected (p : Pool) : List Str :=
  (match p.proxy with | some px => px.headers | none => [] : List (Str × Str)).map (·.1)

/-- the names the proxy machinery itself adds to a request -/
def injected (m : Mgr) : List Str :=
  match m.proxy with
  | none => []
  | some px => [sAccept, sHost] ++ px.headers.map (·.1)

theorem poolMerge_noproxy (p : Pool) (sch : Option Str) (h : Hdrs) (hp : p.proxy = none) (hw : h.WF) :
    poolMerge p sch h = h := by
  unfold poolMerge
  simp only [hp, requiresTunnel, Bool.false_eq_true, if_false]
  rw [h.copy_eq hw]
  cases h <;> rfl

theorem mgrHeaders_noproxy (m : Mgr) (u : PUrl) (kw : Kw) (hp : m.proxy = none) :
    mgrHeaders m u kw = kw.headers.getD m.headers := by
  unfold mgrHeaders proxyKw
  rw [hp]

theorem setProxyHeaders_keys {P : Str → Prop} (nl : Option Str) (H : Hdrs) (hA : P sAccept) (hH : P sHost)
    (hk : ∀ k ∈ H.keys, P k) : ∀ k ∈ (setProxyHeaders nl (some H)).map (·.1), P k := by
  have hbase : ∀ x ∈ (if truthyStr nl = true then dictSet [(sAccept, sStarStar)] sHost (nl.getD [])
      else [(sAccept, sStarStar)]).map (·.1), P x := by
    intro x hx
    split at hx
    · rcases dictSet_keys _ _ _ x hx with h | rfl
      · rwa [List.mem_singleton.1 h]
      · exact hH
    · rwa [List.mem_singleton.1 hx]
  unfold setProxyHeaders
  dsimp only
  split
  · refine foldl_names (·.map (·.1)) _ (fun d p => dictSet_keys d p.1 p.2) _ ?_ _ hbase
    cases H with
    | dict ps => exact hk
    | hd x => simpa [Hdrs.mappingPairs, Hdrs.keys, itermerged, iterKeys] using hk
  · exact hbase

section Only
variable {J : List Str} {P : Str → Prop} {h : Hdrs}

theorem Hdrs.Only.methodChange (H : h.Only J P) :
    (methodChange h).Only J fun k => P k ∧ lower k ∉ contentSpecific.map lower := by
  rw [methodChange_eq h H.1]
  refine (H.toHD.filterKeys keepContent).mono fun k ⟨hP, hq⟩ => ⟨hP, fun hmem => ?_⟩
  obtain ⟨c, hc, hlc⟩ := List.mem_map.1 hmem
  simp only [keepContent, Bool.not_eq_true', List.any_eq_false, beq_iff_eq] at hq
  exact hq c hc hlc.symm

theorem Hdrs.Only.poolMerge (H : h.Only J P) (p : Pool) (sch : Option Str) (hJ : ∀ k ∈ poolInjected p, k ∈ J) :
    (poolMerge p sch h).Only J P := by
  unfold Manager.poolMerge
  split
  · exact H
  · rw [h.copy_eq H.1]
    exact H.updateDict hJ

theorem Hdrs.Only.mgrHeaders {m : Mgr} {kw : Kw} (H : (kw.headers.getD m.headers).Only (injected m) P)
    (u : PUrl) : (mgrHeaders m u kw).Only (injected m) P := by
  unfold Manager.mgrHeaders proxyKw
  split
  · rename_i px hpx
    split
    · refine ⟨trivial, setProxyHeaders_keys _ _ (.inr ?_) (.inr ?_) H.2⟩ <;> simp [injected, hpx]
    · exact H
  · exact H

end Only

section MgrPass
variable {W : World} {m : Mgr} {method url : Str} {kw : Kw} {s : Sent} (h : MgrPass W m method url kw s)
include h

theorem MgrPass.only {P : Str → Prop} (H : (kw.headers.getD m.headers).Only (injected m) P) :
    ∀ l ∈ s.headers, P l.1 ∨ l.1 ∈ injected m := by
  obtain ⟨u, conn, s0, r0, hs, _, hconn, hpa, rfl⟩ := h
  obtain ⟨pu, A⟩ := poolAttempt_ok hpa
  refine fun l hl => ((H.mgrHeaders u).poolMerge conn pu.scheme fun k hk => ?_).2 _
    (Hdrs.items_names _ l (A.items ▸ hl))
  unfold poolInjected at hk
  rw [connectionFromHost_cases.2 hconn] at hk
  unfold injected
  cases hpx : m.proxy <;> rw [hpx] at hk
  · cases hk
  · exact List.mem_append_right _ hk

theorem MgrPass.headers_noproxy (hp : m.proxy = none) (hw : (kw.headers.getD m.headers).WF) :
    s.headers = (kw.headers.getD m.headers).items := by
  obtain ⟨u, conn, s0, r0, hs, _, hconn, hpa, rfl⟩ := h
  obtain ⟨pu, A⟩ := poolAttempt_ok hpa
  rw [show _ = _ from A.items, Option.getD_some, mgrHeaders_noproxy m u kw hp,
    poolMerge_noproxy conn pu.scheme _ ((connectionFromHost_cases.2 hconn).trans hp) hw]

end MgrPass

/-- the header lines of a manager pass: the caller's mapping (as threaded through the recursion) plus
what the proxy machinery injects -/
theorem MgrPass.headers {W : World} {m : Mgr} {method url : Str} {kw : Kw} {s : Sent}
    (h : MgrPass W m method url kw s) (hw : (kw.headers.getD m.headers).WF) :
    ∀ l ∈ s.headers, l.1 ∈ (kw.headers.getD m.headers).keys ∨ l.1 ∈ injected m :=
  h.only ⟨hw, fun _ => .inl⟩

/-- the headers part of the 303 rewrite -/
def rewriteHdrs (st : Nat) (M : Hdrs) : Hdrs :=
  if Gen.Redirect.methodRewriteStatuses.contains st then methodChange M else M

/-- what one redirect decision makes of the (proxy-merged) carrier `M`: the 303 rewrite (if any),
then the strip loop (if judged cross-host) -/
def nextHdrs (R : List Str) (st : Nat) (same : Bool) (M : Hdrs) : Hdrs :=
  if same then rewriteHdrs st M else strip R (rewriteHdrs st M)

theorem rewrite303_hdrs (st : Nat) (method : Str) (body : Option Bytes) (M : Hdrs) :
    (rewrite303 st method body M).2.2 = rewriteHdrs st M := by
  unfold rewrite303 rewriteHdrs
  split <;> rfl

/-- what a redirect decision adds to what is known of the names: none is in the strip set if the hop
was judged cross-host, none is content-specific after a 303 -/
def Kept (R : List Str) (st : Nat) (same : Bool) (k : Str) : Prop :=
  (same = false → R.contains (lower k) = false) ∧
    (Gen.Redirect.methodRewriteStatuses.contains st = true → lower k ∉ contentSpecific.map lower)

theorem Hdrs.Only.nextHdrs {J : List Str} {P : Str → Prop} {M : Hdrs} (H : M.Only J P) (R : List Str) (st : Nat)
    (same : Bool) : (nextHdrs R st same M).Only J fun k => P k ∧ Kept R st same k := by
  have hX : (rewriteHdrs st M).Only J fun k => P k ∧
      (Gen.Redirect.methodRewriteStatuses.contains st = true → lower k ∉ contentSpecific.map lower) := by
    unfold rewriteHdrs
    split
    · exact H.methodChange.mono fun k hk => ⟨hk.1, fun _ => hk.2⟩
    · next h => exact H.mono fun k hk => ⟨hk, fun h' => absurd h' h⟩
  unfold Manager.nextHdrs
  cases same with
  | true => exact hX.mono fun k hk => ⟨hk.1, nofun, hk.2⟩
  | false =>
    rw [if_neg nofun, strip_eq R _ hX.1]
    exact (hX.filterKeys _).mono fun k hk => ⟨hk.1.1, fun _ => by simpa using hk.2, hk.1.2⟩

/-- invariant of the arguments `PoolManager.urlopen` threads through its recursion: the carrier is
well-formed with names in `P` (or injected) and the strip set of the policy in force is `R` -/
def HdrInv (m : Mgr) (redirect : Bool) (R : List Str) (P : Str → Prop) (kw : Kw) : Prop :=
  (kw.headers.getD m.headers).Only (injected m) P ∧
    (deriveRetry kw.retries redirect m.retries).removeHeadersOnRedirect = R

section MgrNext
variable {W : World} {m : Mgr} {method url : Str} {redirect : Bool} {kw : Kw} {log : List Sent}
  {m' u' : Str} {kw' : Kw} (N : MgrNext W m method url redirect kw log m' u' kw')
include N

theorem MgrNext.next_headers :
    kw'.headers = some (nextHdrs (deriveRetry kw.retries redirect m.retries).removeHeadersOnRedirect
      N.s.reply.status N.same (mgrHeaders m N.u kw)) := by
  rw [N.headers_eq, rewrite303_hdrs]
  rfl

theorem MgrNext.only {P : Str → Prop} (H : (kw.headers.getD m.headers).Only (injected m) P) :
    (kw'.headers.getD m.headers).Only (injected m) fun k => P k ∧
      Kept (deriveRetry kw.retries redirect m.retries).removeHeadersOnRedirect N.s.reply.status N.same k := by
  rw [N.next_headers]
  exact (H.mgrHeaders N.u).nextHdrs _ _ _

theorem MgrNext.hdrInv {R : List Str} {P : Str → Prop} (hR : R.map lower = R) (h : HdrInv m redirect R P kw) :
    HdrInv m redirect R P kw' :=
  ⟨(N.only h.1).mono fun _ => And.left,
    by rw [N.retries_eq, deriveRetry_retry, (increment_redirect_ok N.incr).strip, h.2, hR]⟩

end MgrNext

/-! The next five definitions are the vocabulary of the statements of C05 / C06; of the lemmas here only
`requestWrap_only` and `run_lines` mention any of them. -/

/-- a hop that `PoolManager.urlopen` must judge cross-host: the URLs of the two requests name
different origins, the pool consulted is the current origin's own (no forwarding proxy) and the
target names a host at all (it is not a bare path `/…`; a scheme-relative `//host/…` does name one) -/
def Crossing (W : World) (m : Mgr) (a b : Sent) : Prop :=
  ∃ ua ub, W.parse a.url = some ua ∧ W.parse b.url = some ub ∧ urlOrigin ua ≠ urlOrigin ub ∧
    (m.proxy = none ∨ ua.scheme = some sHttps) ∧ pathOnly b.url = false

/-- every `HTTPHeaderDict` the caller hands in (per request, or as the client's default headers)
satisfies the representation invariant of `HTTPHeaderDict` -/
def CarriersWF (c : Client) (req : Req) : Prop :=
  c.headers.WF ∧ ∀ h, req.headers = some h → h.WF

/-- what the machinery of the client itself may add to a request -/
def Client.injected : Client → List Str
  | .manager m => Manager.injected m
  | .pool p => poolInjected p

def Client.noProxy : Client → Prop
  | .manager m => m.proxy = none
  | .pool p => p.proxy = none

/-- the strip set that applies to the client's redirects: a bare pool strips nothing -/
def stripSet (c : Client) (req : Req) : List Str :=
  match c with
  | .manager _ => (effective c req).removeHeadersOnRedirect
  | .pool _ => []

theorem requestWrap_only {J : List Str} (c : Client) (req : Req) (h : CarriersWF c req) :
    (((requestWrap c req).2).getD c.headers).Only J fun _ => True := by
  have hbase : (req.headers.getD c.headers).WF := by
    cases hr : req.headers with
    | none => exact h.1
    | some x => exact h.2 x hr
  unfold requestWrap
  split
  · dsimp only
    split
    · exact hbase.only
    · exact hbase.only.toHD
  · exact hbase.only

/-- the flat view of `HTTPHeaderDict(headers)` has the same fields with the same values in the same
order as `headers` itself (a dict with case-variant keys gets them grouped) -/
theorem Hdrs.toHD_getlist (h : Hdrs) (hw : h.WF) (n : Str) :
    specGetlist (iteritems h.toHD) n = specGetlist h.items n := by
  cases h with
  | dict ps =>
    clear hw
    have : ∀ acc : Flat, specGetlist (ps.foldl (fun f p => specAdd f p.1 p.2) acc) n
        = specGetlist acc n ++ specGetlist ps n := by
      induction ps with
      | nil => exact fun acc => (List.append_nil _).symm
      | cons p t ih =>
        intro acc
        rw [List.foldl_cons, ih, specGetlist_specAdd]
        split <;> simp [specGetlist, *]
    simp only [Hdrs.toHD, Hdrs.items]
    rw [(extend_rep ps ⟨inv_nil, rfl⟩).2, specExtend, this]
    rfl
  | hd x =>
    simp only [Hdrs.toHD, Hdrs.items]
    rw [Headers.copy_eq x hw]

theorem methodChange_items (h : Hdrs) (hw : h.WF) :
    (methodChange h).items = (iteritems h.toHD).filter notContent := by
  rw [methodChange_eq h hw]
  exact iteritems_filter_name _ _

theorem methodChange_items_hd (x : HD) (hw : Inv x) :
    (methodChange (.hd x)).items = (iteritems x).filter notContent := by
  rw [methodChange_items (.hd x) hw]
  simp only [Hdrs.toHD]
  rw [Headers.copy_eq x hw]

/-- **every other field survives a redirect decision**: a field that is neither in the strip set nor
(after a 303) content-specific has the same values in the same order afterwards -/
theorem nextHdrs_getlist (R : List Str) (st : Nat) (same : Bool) (H : Hdrs) (hw : H.WF) (n : Str)
    (hR : R.contains (lower n) = false)
    (hC : Gen.Redirect.methodRewriteStatuses.contains st = true → lower n ∉ contentSpecific.map lower) :
    specGetlist (nextHdrs R st same H).items n = specGetlist H.items n := by
  have hX : specGetlist (rewriteHdrs st H).items n = specGetlist H.items n := by
    unfold rewriteHdrs
    split
    · next h =>
      rw [methodChange_items H hw, specGetlist_filter, H.toHD_getlist hw]
      intro l _ hl
      simp only [notContent, Bool.not_eq_true', List.any_eq_false, beq_iff_eq]
      exact fun k hk hlk => hC h (by rw [← hl, hlk]; exact List.mem_map_of_mem hk)
    · rfl
  unfold nextHdrs
  split
  · exact hX
  · rw [strip_eq R (rewriteHdrs st H) ((hw.only (J := [])).nextHdrs [] st true).1, Hdrs.filterKeys_items,
      specGetlist_filter, hX]
    intro l _ hl
    rw [hl, hR]
    rfl

theorem nextHdrs_plain (R : List Str) (st : Nat) (same : Bool) (H : Hdrs) (hw : H.WF)
    (hst : Gen.Redirect.methodRewriteStatuses.contains st = false) :
    (nextHdrs R st same H).items
      = if same then H.items else H.items.filter (fun l => !R.contains (lower l.1)) := by
  have hX : rewriteHdrs st H = H := by
    rw [rewriteHdrs, hst]
    rfl
  unfold nextHdrs
  rw [hX]
  split
  · rfl
  · rw [strip_eq R H hw, Hdrs.filterKeys_items]

section Pool
variable {W : World} {p : Pool} {redirect ash : Bool} {a b : PoolArgs} {s : Sent} {P : Str → Prop}

theorem PoolPass.only (h : PoolPass W p redirect ash a s) (H : (a.headers.getD p.headers).Only (poolInjected p) P) :
    ∀ l ∈ s.headers, P l.1 ∨ l.1 ∈ poolInjected p := by
  obtain ⟨hs, pu, A⟩ := h
  exact fun l hl => (H.poolMerge p pu.scheme fun _ => id).2 _ (Hdrs.items_names _ l (A.items ▸ hl))

theorem PoolPass.headers_noproxy (h : PoolPass W p redirect ash a s) (hw : (a.headers.getD p.headers).WF)
    (hp : p.proxy = none) : s.headers = (a.headers.getD p.headers).items := by
  obtain ⟨hs, pu, A⟩ := h
  rw [A.items, poolMerge_noproxy p pu.scheme _ hp hw]

/-- the carrier of the pool's recursive call: the redirect decision (judged same-host: the pool strips
nothing) on the proxy-merged headers `M` -/
theorem PoolNext.carrier (h : PoolNext W p redirect ash a s b)
    (H : (a.headers.getD p.headers).Only (poolInjected p) P) :
    ∃ M : Hdrs, M.Only (poolInjected p) P ∧ (p.proxy = none → M = a.headers.getD p.headers) ∧
      b.headers = some (nextHdrs [] s.reply.status true M) := by
  obtain ⟨hs, loc, r', hpa, _, _, _, rfl⟩ := h
  obtain ⟨pu, A⟩ := poolAttempt_ok hpa
  cases A.merged
  exact ⟨_, H.poolMerge p pu.scheme fun _ => id, fun hp => poolMerge_noproxy p pu.scheme _ hp H.1,
    congrArg some (rewrite303_hdrs ..)⟩

theorem PoolNext.only (h : PoolNext W p redirect ash a s b) (H : (a.headers.getD p.headers).Only (poolInjected p) P) :
    (b.headers.getD p.headers).Only (poolInjected p) fun k => P k ∧ Kept [] s.reply.status true k := by
  obtain ⟨M, hM, _, hb⟩ := h.carrier H
  rw [hb]
  exact hM.nextHdrs _ _ _

end Pool

/-- without a proxy, `b`'s header lines are what one redirect decision makes of `a`'s -/
theorem run_lines (W : World) (c : Client) (fuel : Nat) (req : Req) (hwf : CarriersWF c req)
    (hp : c.noProxy) (hlow : (stripSet c req).map lower = stripSet c req)
    (i : Nat) (a b : Sent) (ha : (run W c fuel req).log[i]? = some a)
    (hb : (run W c fuel req).log[i + 1]? = some b) :
    ∃ H same, Hdrs.WF H ∧ a.headers = H.items ∧
      b.headers = (nextHdrs (stripSet c req) a.reply.status same H).items := by
  cases c with
  | manager m =>
    obtain ⟨a', b', hi, hpa, ⟨N⟩, hpb, -⟩ := (run_manager W m fuel req).hop
      (fun a : MgrArgs => HdrInv m (req.redirect.getD true) (stripSet (.manager m) req) (fun _ => True) a.kw)
      (fun hi ⟨N⟩ => N.hdrInv hlow hi) ⟨requestWrap_only _ req hwf, rfl⟩ i a b ha hb
    refine ⟨_, N.same, hi.1.1, hpa.headers_noproxy hp hi.1.1, ?_⟩
    rw [hpb.headers_noproxy hp (N.only hi.1).1, N.next_headers, hi.2, mgrHeaders_noproxy m N.u _ hp, N.reply]
    rfl
  | pool p =>
    obtain ⟨a', b', hi, hpa, hn, hpb, -⟩ := (run_pool W p fuel req).hop
      (fun a : PoolArgs => (a.headers.getD p.headers).Only (poolInjected p) fun _ => True)
      (fun hi hn => (hn.only hi).mono fun _ _ => trivial) (requestWrap_only _ req hwf) i a b ha hb
    obtain ⟨M, hM, hMa, hb⟩ := hn.carrier hi
    refine ⟨_, true, hi.1, hpa.headers_noproxy hi.1 hp, ?_⟩
    rw [hpb.headers_noproxy (hn.only hi).1 hp, hb, hMa hp]
    rfl

end U3.Manager
